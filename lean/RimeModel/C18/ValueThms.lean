import RimeModel.C18.Value
/-! typed values of C18: the decimal spelling of a number is read back by `std::stoi` and by `GetInt` -/
namespace RimeModel.C18

theorem digit_toNat (d : Nat) (h : d < 10) : (UInt8.ofNat (48 + d)).toNat = 48 + d := by
  simp [UInt8.toNat_ofNat]; omega

theorem isDigit_digit (d : Nat) (h : d < 10) : isDigit (UInt8.ofNat (48 + d)) = true := by
  unfold isDigit
  rw [digit_toNat d h]
  simp
  omega

/-- reading back the digits `natDigits` produced in front of `acc`: the value is `n`, at least one digit was read -/
theorem digitsVal_natDigits (fuel n : Nat) (acc : Bytes) (k : Nat) (h : n < fuel) :
    ∃ k', k < k' ∧ digitsVal (natDigits fuel n acc) 0 k = digitsVal acc n k' := by
  induction fuel generalizing n acc k with
  | zero => omega
  | succ f ih =>
    have hd : n % 10 < 10 := Nat.mod_lt _ (by omega)
    have step : ∀ j, digitsVal (UInt8.ofNat (48 + n % 10) :: acc) (n / 10) j = digitsVal acc n (j + 1) := by
      intro j
      rw [digitsVal, isDigit_digit _ hd, if_pos rfl, digit_toNat _ hd, Nat.add_sub_cancel_left, Nat.div_add_mod']
    rw [natDigits]
    by_cases h0 : n / 10 = 0
    · exact ⟨k + 1, Nat.lt_succ_self k, by rw [if_pos h0, ← h0, step]⟩
    · obtain ⟨k', hk, e⟩ := ih (n / 10) (UInt8.ofNat (48 + n % 10) :: acc) k (by omega)
      exact ⟨k' + 1, Nat.lt_succ_of_lt hk, by rw [if_neg h0, e, step]⟩

theorem digitsVal_natToDec (n : Nat) : ∃ m, 1 ≤ m ∧ digitsVal (natToDec n) 0 0 = (n, m) :=
  digitsVal_natDigits (n + 1) n [] 0 (Nat.lt_succ_self n)

theorem natDigits_all_digits (fuel n : Nat) (acc : Bytes) (hacc : ∀ b ∈ acc, isDigit b = true) :
    ∀ b ∈ natDigits fuel n acc, isDigit b = true := by
  induction fuel generalizing n acc with
  | zero => simpa [natDigits] using hacc
  | succ f ih =>
    unfold natDigits
    have hd : n % 10 < 10 := Nat.mod_lt _ (by omega)
    have hacc' : ∀ b ∈ UInt8.ofNat (48 + n % 10) :: acc, isDigit b = true :=
      List.forall_mem_cons.mpr ⟨isDigit_digit _ hd, hacc⟩
    by_cases h0 : n / 10 = 0
    · simp only [h0, if_true]; exact hacc'
    · simp only [h0, if_false]; exact ih _ _ hacc'

theorem natToDec_all_digits (n : Nat) : ∀ b ∈ natToDec n, isDigit b = true :=
  natDigits_all_digits _ _ _ nofun

theorem natToDec_ne_nil (n : Nat) : natToDec n ≠ [] := by
  intro e
  obtain ⟨m, hm, h⟩ := digitsVal_natToDec n
  rw [e] at h
  exact absurd (Prod.mk.inj h).2 (by omega)

theorem cstr_of_nonzero (s : Bytes) (h : ∀ b ∈ s, b.toNat ≠ 0) : cstr s = s := by
  induction s with
  | nil => rfl
  | cons b bs ih =>
    have hb := (List.forall_mem_cons.mp h).1
    have : (b.toNat == 0) = false := by simpa using hb
    rw [cstr, this]
    simp only [Bool.false_eq_true, if_false]
    rw [ih (List.forall_mem_cons.mp h).2]

theorem isDigit_range {b : UInt8} (h : isDigit b = true) : 48 ≤ b.toNat ∧ b.toNat ≤ 57 := by
  simpa only [isDigit, Bool.and_eq_true, decide_eq_true_eq] using h

theorem isSpace_of_isDigit {b : UInt8} (h : isDigit b = true) : isSpace b = false := by
  have := isDigit_range h
  simp only [isSpace, Bool.or_eq_false_iff, Bool.and_eq_false_iff, decide_eq_false_iff_not]
  omega

theorem cstr_decimal (neg : Bool) (n : Nat) :
    cstr ((if neg then [45] else []) ++ natToDec n) = (if neg then [45] else []) ++ natToDec n := by
  refine cstr_of_nonzero _ fun b hb => ?_
  rcases List.mem_append.mp hb with hb | hb
  · cases neg
    · exact nomatch hb
    · rw [List.mem_singleton.mp hb]; decide
  · have := isDigit_range (natToDec_all_digits n b hb)
    omega

/-- `std::stoi` on the decimal spelling of a natural number, with an optional minus sign -/
theorem stoi_digits (neg : Bool) (n : Nat)
    (hr : if neg then (n : Int) ≤ 2147483648 else (n : Int) ≤ 2147483647) :
    stoi ((if neg then [45] else []) ++ natToDec n) = some (if neg then -(n : Int) else n) := by
  obtain ⟨m, hm1, hm⟩ := digitsVal_natToDec n
  obtain ⟨d, ds, hds⟩ := List.exists_cons_of_ne_nil (natToDec_ne_nil n)
  have hdig := natToDec_all_digits n d (by rw [hds]; exact List.mem_cons_self ..)
  have hd := isDigit_range hdig
  have hm0 : ¬ m = 0 := by omega
  rw [stoi, cstr_decimal]
  cases neg with
  | true =>
    have : dropSpaces (45 :: natToDec n) = 45 :: natToDec n := by
      rw [dropSpaces, if_neg (by decide)]
    simp only [if_true, List.singleton_append] at hr ⊢
    rw [this]
    have : INT_MIN ≤ -(n : Int) ∧ -(n : Int) ≤ INT_MAX := by
      unfold INT_MIN INT_MAX; omega
    simp only [show ((45 : UInt8).toNat == 45) = true from rfl, Bool.true_or, if_true, hm, hm0, if_false, this, and_self]
  | false =>
    have hsp : dropSpaces (d :: ds) = d :: ds := by
      rw [dropSpaces, isSpace_of_isDigit hdig, if_neg (by decide)]
    have h45 : (d.toNat == 45) = false := beq_false_of_ne (by omega)
    have h43 : (d.toNat == 43) = false := beq_false_of_ne (by omega)
    simp only [Bool.false_eq_true, if_false, List.nil_append] at hr ⊢
    rw [hds, hsp]
    have : INT_MIN ≤ (n : Int) ∧ (n : Int) ≤ INT_MAX := by
      unfold INT_MIN INT_MAX; omega
    simp only [h45, h43, Bool.or_false, Bool.false_eq_true, if_false, ← hds, hm, hm0, this, and_self, if_true]

theorem hexBranch_decimal (neg : Bool) (n : Nat) : hexBranch ((if neg then [45] else []) ++ natToDec n) = none := by
  unfold hexBranch
  split
  · rename_i rest heq
    cases neg with
    | true => exact absurd (List.cons.inj heq).1 (by decide)
    | false =>
      have hn : natToDec n = 48 :: 120 :: rest := heq
      have := isDigit_range (natToDec_all_digits n 120 (hn ▸ List.mem_cons_of_mem _ List.mem_cons_self))
      exact absurd this.2 (by decide)
  · rfl

theorem valGetInt_decimal (neg : Bool) (n : Nat)
    (hr : if neg then (n : Int) ≤ 2147483648 else (n : Int) ≤ 2147483647) :
    valGetInt ((if neg then [45] else []) ++ natToDec n) = some (if neg then -(n : Int) else n) := by
  rw [valGetInt, if_neg fun e => natToDec_ne_nil n (List.append_eq_nil_iff.mp e).2, cstr_decimal, hexBranch_decimal]
  exact stoi_digits neg n hr

theorem intToString_eq (i : Int) :
    intToString i = (if decide (i < 0) then [45] else []) ++ natToDec i.natAbs := by
  unfold intToString
  by_cases h : i < 0 <;> simp [h]

end RimeModel.C18
