import RimeModel.C18.PathLemmas
/-! key paths of C18: locations read and written, divergence, insertion, sortedness kept by writes -/
namespace RimeModel.C18

theorem getSteps_cons (t : Cfg) (s : Step) (ss : List Step) : getSteps t (s :: ss) = getSteps (getStep t s) ss := rfl

theorem getSteps_null (ss : List Step) : getSteps .null ss = .null := by
  induction ss with
  | nil => rfl
  | cons s ss ih => rw [getSteps_cons, getStep_null, ih]

/-- two locations diverge: after a common prefix they continue with different steps -/
def Diverge : List Step → List Step → Prop
  | a :: as, b :: bs => a ≠ b ∨ (a = b ∧ Diverge as bs)
  | _, _ => False

theorem listGet_insert_set (xs : List Cfg) (i j : Nat) (v : Cfg) :
    listGet (listSetAt (listInsert xs i .null) i v) j =
      if j < i then listGet xs j else if j = i then v else listGet xs (j - 1) := by
  rw [listGet_listSetAt]
  by_cases h : i = j
  · rw [if_pos h, if_neg (by omega), if_pos h.symm]
  · rw [if_neg h, listGet_listInsert]
    by_cases h1 : j < i
    · rw [if_pos h1, if_pos h1]
    · rw [if_neg h1, if_neg h1, if_neg (Ne.symm h), if_neg (Ne.symm h)]

/-- the list a successful write through `pre` finds at that location (empty when absent) -/
def listAt (cur : Cfg) (pre : List Bytes) : List Cfg := asList (getSteps cur (written cur pre))

theorem noInsert_append (cur : Cfg) (pre : List Bytes) (k : Bytes) :
    noInsert cur (pre ++ [k]) = (noInsert cur pre && !keyInserts (getSteps cur (written cur pre)) k) ∨
    noInsert cur pre = false := by
  induction pre generalizing cur with
  | nil => left; simp [noInsert, written, getSteps]
  | cons key rest ih =>
    by_cases hk : keyInserts cur key = true
    · right; simp [noInsert, hk]
    · have hk' : keyInserts cur key = false := by simpa using hk
      rcases ih (childRead cur key) with h | h
      · left
        simp only [List.cons_append, noInsert, hk', written, getSteps_cons]
        rw [← childRead_eq_getStep cur key, h]
        simp
      · right; simp [noInsert, h]

theorem writeAt_append_at (cur : Cfg) (pre rest : List Bytes) (item : Cfg)
    (hins : noInsert cur pre = true) :
    getSteps (writeAt cur (pre ++ rest) item) (written cur pre) =
      writeAt (getSteps cur (written cur pre)) rest item := by
  induction pre generalizing cur with
  | nil => simp [written, getSteps]
  | cons key pre' ih =>
    rw [noInsert, Bool.and_eq_true] at hins
    have hk : keyInserts cur key = false := by simpa using hins.1
    rw [List.cons_append, written, getSteps_cons, getSteps_cons, getStep_writeAt_head,
      ← childRead_eq_getStep cur key]
    exact ih _ hins.2

theorem getSteps_append (t : Cfg) (a b : List Step) : getSteps t (a ++ b) = getSteps (getSteps t a) b :=
  List.foldl_append

/-- the location `Traverse` reads for a list of keys -/
def readSteps : Cfg → List Bytes → List Step
  | _, [] => []
  | cur, key :: rest => writtenStep cur key :: readSteps (childRead cur key) rest

theorem traverseKeys_cons (p : Cfg) (key : Bytes) (rest : List Bytes) :
    traverseKeys p (key :: rest) =
      if isListRef key then
        match p with
        | .list xs => traverseKeys (listGet xs (resolveIdx xs.length key).index) rest
        | _ => .null
      else
        match p with
        | .map kvs => traverseKeys (mapGet kvs key) rest
        | _ => .null := by
  cases p <;> simp [traverseKeys]

theorem traverseKeys_null (keys : List Bytes) : traverseKeys .null keys = .null := by
  cases keys with
  | nil => rfl
  | cons key rest => rw [traverseKeys_cons]; split <;> rfl

theorem traverseKeys_eq_childRead (cur : Cfg) (key : Bytes) (rest : List Bytes) :
    traverseKeys cur (key :: rest) = traverseKeys (childRead cur key) rest := by
  rw [traverseKeys_cons]
  unfold childRead
  by_cases hl : isListRef key = true
  · rw [if_pos hl, if_pos hl]
    cases cur <;> simp [traverseKeys_null]
  · rw [if_neg hl, if_neg hl]
    cases cur <;> simp [traverseKeys_null]

/-- a list-reference key that names the same index whatever the size of the list, and never inserts
(`@N`; not `@next`, `@last`, `@before …`, `@after …`) -/
def Stable (key : Bytes) : Prop :=
  ∃ i : Nat, ∀ n : Nat, resolveIdx n key = ⟨i, false⟩

theorem childRead_list (xs : List Cfg) (key : Bytes) (hl : isListRef key = true) :
    childRead (.list xs) key = listGet xs (resolveIdx xs.length key).index := by
  simp [childRead, hl]

theorem childRead_map (kvs : List (Bytes × Cfg)) (key : Bytes) (hl : ¬ isListRef key = true) :
    childRead (.map kvs) key = mapGet kvs key := by
  simp [childRead, hl]

theorem keysSorted_iff (kvs : List (Bytes × Cfg)) :
    keysSorted kvs = true ↔ kvs.Pairwise (fun a b => bytesLt a.1 b.1 = true) := by
  induction kvs with
  | nil => exact ⟨fun _ => List.Pairwise.nil, fun _ => rfl⟩
  | cons kv rest ih =>
    cases rest with
    | nil => exact ⟨fun _ => List.pairwise_singleton _ _, fun _ => rfl⟩
    | cons kv2 r =>
      rw [keysSorted, Bool.and_eq_true, ih, List.pairwise_cons (a := kv)]
      refine ⟨fun h => ⟨fun a ha => ?_, h.2⟩, fun h => ⟨h.1 kv2 (List.mem_cons_self ..), h.2⟩⟩
      rcases List.mem_cons.mp ha with e | ha
      · rw [e]; exact h.1
      · exact bytesLt_trans _ _ _ h.1 (List.rel_of_pairwise_cons h.2 ha)

theorem mem_mapSet (kvs : List (Bytes × Cfg)) (key : Bytes) (v : Cfg) :
    ∀ e ∈ mapSet kvs key v, e = (key, v) ∨ e ∈ kvs := by
  induction kvs with
  | nil => exact fun e he => Or.inl (List.mem_singleton.mp he)
  | cons kv rest ih =>
    obtain ⟨k, x⟩ := kv
    rw [mapSet]
    by_cases h1 : k = key
    · rw [if_pos h1]
      exact List.forall_mem_cons.mpr ⟨Or.inl rfl, fun e he => Or.inr (List.mem_cons_of_mem _ he)⟩
    · rw [if_neg h1]
      by_cases h2 : bytesLt key k = true
      · rw [if_pos h2]
        exact List.forall_mem_cons.mpr ⟨Or.inl rfl, fun e he => Or.inr he⟩
      · rw [if_neg h2]
        exact List.forall_mem_cons.mpr
          ⟨Or.inr List.mem_cons_self, fun e he => (ih e he).imp id (List.mem_cons_of_mem _)⟩

theorem keysSorted_mapSet (kvs : List (Bytes × Cfg)) (key : Bytes) (v : Cfg) (h : keysSorted kvs = true) :
    keysSorted (mapSet kvs key v) = true := by
  rw [keysSorted_iff] at h ⊢
  induction kvs with
  | nil => exact List.pairwise_singleton _ _
  | cons kv rest ih =>
    obtain ⟨k, x⟩ := kv
    have hd := List.pairwise_cons.mp h
    rw [mapSet]
    by_cases h1 : k = key
    · rw [if_pos h1]; exact List.pairwise_cons.mpr ⟨fun a ha => h1 ▸ hd.1 a ha, hd.2⟩
    · rw [if_neg h1]
      by_cases h2 : bytesLt key k = true
      · rw [if_pos h2]
        refine List.pairwise_cons.mpr ⟨fun a ha => ?_, h⟩
        rcases List.mem_cons.mp ha with e | ha
        · rw [e]; exact h2
        · exact bytesLt_trans _ _ _ h2 (hd.1 a ha)
      · rw [if_neg h2]
        refine List.pairwise_cons.mpr ⟨fun a ha => ?_, ih hd.2⟩
        rcases mem_mapSet rest key v a ha with e | ha
        · rw [e]; exact bytesLt_total _ _ (by simpa using h2) (fun e => h1 e.symm)
        · exact hd.1 a ha

theorem wfM_mapSet (kvs : List (Bytes × Cfg)) (key : Bytes) (v : Cfg) (h : Cfg.wfM kvs = true) (hv : v.wf = true) :
    Cfg.wfM (mapSet kvs key v) = true := by
  induction kvs with
  | nil => simp [mapSet, Cfg.wfM, hv]
  | cons kv rest ih =>
    obtain ⟨k, x⟩ := kv
    rw [Cfg.wfM, Bool.and_eq_true] at h
    unfold mapSet
    by_cases h1 : k = key
    · simp [h1, Cfg.wfM, hv, h.2]
    · by_cases h2 : bytesLt key k = true
      · simp [h1, h2, Cfg.wfM, hv, h.1, h.2]
      · simp [h1, h2, Cfg.wfM, h.1, ih h.2]

theorem wfL_iff (xs : List Cfg) : Cfg.wfL xs = true ↔ ∀ x ∈ xs, x.wf = true := by
  induction xs with
  | nil => simp [Cfg.wfL]
  | cons x xs ih => simp [Cfg.wfL, ih]

theorem wf_mapGet (kvs : List (Bytes × Cfg)) (k : Bytes) (h : Cfg.wfM kvs = true) : (mapGet kvs k).wf = true := by
  induction kvs with
  | nil => simp [mapGet, Cfg.wf]
  | cons kv rest ih =>
    obtain ⟨k', x⟩ := kv
    rw [Cfg.wfM, Bool.and_eq_true] at h
    unfold mapGet
    by_cases h1 : k' = k
    · simp [h1, h.1]
    · simp [h1, ih h.2]

theorem wf_listGet (xs : List Cfg) (i : Nat) (h : Cfg.wfL xs = true) : (listGet xs i).wf = true := by
  rw [wfL_iff] at h
  unfold listGet
  by_cases hi : i < xs.length
  · simp only [List.getD, List.getElem?_eq_getElem hi, Option.getD_some]
    exact h _ (List.getElem_mem hi)
  · simp [List.getD, List.getElem?_eq_none (Nat.le_of_not_lt hi), Cfg.wf]

theorem wfL_padTo (xs : List Cfg) (n : Nat) (h : Cfg.wfL xs = true) : Cfg.wfL (padTo xs n) = true := by
  rw [wfL_iff] at h ⊢
  intro x hx
  unfold padTo at hx
  rcases List.mem_append.mp hx with hx | hx
  · exact h x hx
  · rw [(List.mem_replicate.mp hx).2]; rfl

theorem wfL_listSetAt (xs : List Cfg) (i : Nat) (v : Cfg) (h : Cfg.wfL xs = true) (hv : v.wf = true) :
    Cfg.wfL (listSetAt xs i v) = true := by
  have hp := wfL_padTo xs (i + 1) h
  rw [wfL_iff] at hp ⊢
  intro x hx
  unfold listSetAt at hx
  rcases List.mem_or_eq_of_mem_set hx with hx | hx
  · exact hp x hx
  · rw [hx]; exact hv

theorem wfL_listInsert (xs : List Cfg) (i : Nat) (v : Cfg) (h : Cfg.wfL xs = true) (hv : v.wf = true) :
    Cfg.wfL (listInsert xs i v) = true := by
  have hp := wfL_padTo xs i h
  rw [wfL_iff] at hp ⊢
  intro x hx
  unfold listInsert at hx
  rcases List.mem_append.mp hx with hx | hx
  · exact hp x (List.mem_of_mem_take hx)
  · rcases List.mem_cons.mp hx with hx | hx
    · rw [hx]; exact hv
    · exact hp x (List.mem_of_mem_drop hx)

theorem wf_asList (cur : Cfg) (h : cur.wf = true) : Cfg.wfL (asList cur) = true := by
  cases cur <;> simp_all [asList, Cfg.wf, Cfg.wfL]

theorem wf_asMap (cur : Cfg) (h : cur.wf = true) : keysSorted (asMap cur) = true ∧ Cfg.wfM (asMap cur) = true := by
  cases cur <;> simp_all [asMap, Cfg.wf, Cfg.wfM, keysSorted]

theorem wf_childRead (cur : Cfg) (key : Bytes) (h : cur.wf = true) : (childRead cur key).wf = true := by
  unfold childRead
  by_cases hl : isListRef key = true
  · simp only [hl, if_true]
    cases cur with
    | list xs => exact wf_listGet _ _ (by simpa [Cfg.wf] using h)
    | _ => rfl
  · simp only [hl]
    cases cur with
    | map kvs =>
      have : Cfg.wfM kvs = true := by
        simp only [Cfg.wf, Bool.and_eq_true] at h
        exact h.2
      exact wf_mapGet _ _ this
    | _ => rfl

theorem wf_writeAt (cur : Cfg) (keys : List Bytes) (item : Cfg) (h : cur.wf = true) (hi : item.wf = true) :
    (writeAt cur keys item).wf = true := by
  induction keys generalizing cur with
  | nil => simpa [writeAt] using hi
  | cons key rest ih =>
    have hc := ih (childRead cur key) (wf_childRead cur key h)
    rw [writeAt_cons]
    by_cases hl : isListRef key = true
    · rw [if_pos hl]
      simp only [Cfg.wf]
      apply wfL_listSetAt _ _ _ _ hc
      by_cases hw : (resolveIdx (asList cur).length key).willInsert = true
      · rw [if_pos hw]; exact wfL_listInsert _ _ _ (wf_asList cur h) rfl
      · rw [if_neg hw]; exact wf_asList cur h
    · rw [if_neg hl]
      have := wf_asMap cur h
      simp only [Cfg.wf, Bool.and_eq_true]
      exact ⟨keysSorted_mapSet _ _ _ this.1, wfM_mapSet _ _ _ this.2 hc⟩

end RimeModel.C18
