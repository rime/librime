import RimeModel.C18.Domain
import RimeModel.C18.ScalarThms
import RimeModel.C18.PathThms
/-! C18 — what the tree round trip rests on: induction over the trees of the domain, the style of a scalar and what an
inline scalar reads back as, null-free normal forms, sorted maps rebuilt as they are -/
namespace RimeModel.C18

/-- structural induction on trees, the children of a collection taken as the members of its list -/
theorem Cfg.induct {P : Cfg → Prop} (null : P .null) (scalar : ∀ s, P (.scalar s))
    (list : ∀ xs, (∀ x ∈ xs, P x) → P (.list xs)) (map : ∀ kvs, (∀ kv ∈ kvs, P kv.2) → P (.map kvs)) : ∀ t, P t :=
  @Cfg.rec P (fun xs => ∀ x ∈ xs, P x) (fun kvs => ∀ kv ∈ kvs, P kv.2) (fun kv => P kv.2)
    null scalar list map
    (fun _ h => nomatch h)
    (fun _ _ hx hxs y hy => (List.mem_cons.mp hy).elim (· ▸ hx) (hxs y))
    (fun _ h => nomatch h)
    (fun _ _ hx hxs y hy => (List.mem_cons.mp hy).elim (· ▸ hx) (hxs y))
    (fun _ _ h => h)

theorem treeOKL_mem (pol : LitPolicy) (xs : List Cfg) (h : TreeOKL pol xs) : ∀ x ∈ xs, TreeOK pol x := by
  induction xs with
  | nil => exact fun _ hx => nomatch hx
  | cons y ys ih =>
    rw [TreeOKL] at h
    exact List.forall_mem_cons.mpr ⟨h.1, ih h.2⟩

theorem treeOKM_mem (pol : LitPolicy) (kvs : List (Bytes × Cfg)) (h : TreeOKM pol kvs) :
    ∀ kv ∈ kvs, KeyOK pol kv.1 ∧ TreeOK pol kv.2 := by
  induction kvs with
  | nil => exact fun _ hx => nomatch hx
  | cons y ys ih =>
    obtain ⟨yk, yv⟩ := y
    rw [TreeOKM] at h
    exact List.forall_mem_cons.mpr ⟨⟨h.1, h.2.1⟩, ih h.2.2⟩

theorem treeOK_induct (pol : LitPolicy) {P : Cfg → Prop} (null : P .null) (scalar : ∀ s, ScalarOK pol s → P (.scalar s))
    (list : ∀ xs, TreeOKL pol xs → (∀ x ∈ xs, P x) → P (.list xs))
    (map : ∀ kvs, keysSorted kvs = true → TreeOKM pol kvs → (∀ kv ∈ kvs, KeyOK pol kv.1 ∧ P kv.2) → P (.map kvs)) :
    ∀ t, TreeOK pol t → P t := by
  intro t
  induction t using Cfg.induct with
  | null => exact fun _ => null
  | scalar s => exact fun h => scalar s (by rwa [TreeOK] at h)
  | list xs ih =>
    intro h
    rw [TreeOK] at h
    exact list xs h fun x hx => ih x hx (treeOKL_mem pol xs h x hx)
  | map kvs ih =>
    intro h
    rw [TreeOK] at h
    exact map kvs h.1 h.2 fun kv hkv => ⟨(treeOKM_mem pol kvs h.2 kv hkv).1, ih kv hkv (treeOKM_mem pol kvs h.2 kv hkv).2⟩

/-- a byte an inline scalar can start with: a plain-safe byte or the double quote -/
def InlineStart (b : UInt8) : Prop := isPlainSafe b = true ∨ b = 34

theorem inlineStart_ne (b : UInt8) (h : InlineStart b) (v : UInt8)
    (hv : isPlainSafe v = false ∧ v ≠ 34) : b ≠ v := by
  intro e
  subst e
  rcases h with h | h
  · rw [h] at hv; exact absurd hv.1 (by simp)
  · exact hv.2 h

theorem not_plainSafe_of (v : UInt8) (h : ¬ ((48 ≤ v.toNat ∧ v.toNat ≤ 57) ∨ (65 ≤ v.toNat ∧ v.toNat ≤ 90) ∨
    (97 ≤ v.toNat ∧ v.toNat ≤ 122) ∨ v.toNat = 95 ∨ v.toNat = 46)) : isPlainSafe v = false := by
  refine Bool.eq_false_iff.mpr fun hp => h ?_
  simp only [isPlainSafe, isAlnum, isDigit, isUpper, isLower, Bool.or_eq_true, Bool.and_eq_true,
    decide_eq_true_eq] at hp
  rcases hp with (((hp | hp) | hp) | hp) | hp
  · exact Or.inl hp
  · exact Or.inr (Or.inl hp)
  · exact Or.inr (Or.inr (Or.inl hp))
  · right; right; right; left; rw [hp]; rfl
  · right; right; right; right; rw [hp]; rfl

theorem styleOf_literal (pol : LitPolicy) (inFlow : Bool) (s : Bytes) (h : styleOf pol inFlow s = .literal) :
    wantsLiteral pol s = true ∧ inFlow = false := by
  unfold styleOf at h
  by_cases h1 : wantsLiteral pol s = true
  · rw [if_pos h1] at h
    cases inFlow
    · exact ⟨h1, rfl⟩
    · cases h
  by_cases h2 : (!plainOk pol s) = true
  · rw [if_neg h1, if_pos h2] at h; cases h
  by_cases h3 : isNullString s = true
  · rw [if_neg h1, if_neg h2, if_pos h3] at h; cases h
  · rw [if_neg h1, if_neg h2, if_neg h3] at h; cases h

theorem styleOf_flow_ne_literal (pol : LitPolicy) (s : Bytes) : styleOf pol true s ≠ .literal :=
  fun h => absurd (styleOf_literal pol true s h).2 (by decide)

/-- what the choice of the plain style guarantees of the text: all `parseInline` needs to read it back as itself
and not as null or as the end of the document -/
theorem styleOf_plain_facts (pol : LitPolicy) (inFlow : Bool) (s : Bytes) (h : styleOf pol inFlow s = .plain) :
    s ≠ [] ∧ s.all isPlainSafe = true ∧ isNullWord s = false ∧ (pol = .safe → s ≠ threeDots) := by
  unfold styleOf at h
  by_cases h1 : wantsLiteral pol s = true
  · rw [if_pos h1] at h; cases inFlow <;> cases h
  by_cases h2 : (!plainOk pol s) = true
  · rw [if_neg h1, if_pos h2] at h; cases h
  by_cases h3 : isNullString s = true
  · rw [if_neg h1, if_neg h2, if_pos h3] at h; cases h
  simp only [plainOk, Bool.not_eq_true', Bool.not_eq_false, Bool.and_eq_true, Bool.or_eq_true, decide_eq_true_eq] at h2
  simp only [isNullString, Bool.or_eq_true, decide_eq_true_eq, not_or] at h3
  refine ⟨h3.1.1.1.1, h2.1, ?_, fun hp => h2.2.resolve_left (by rw [hp]; decide)⟩
  simp only [isNullWord, Bool.or_eq_false_iff, decide_eq_false_iff_not]
  exact ⟨⟨h3.1.1.2, h3.1.2⟩, h3.2⟩

theorem styleOf_block_of_not_wants (pol : LitPolicy) (s : Bytes) (h : wantsLiteral pol s = false) :
    styleOf pol false s ≠ .literal := by
  intro e
  rw [(styleOf_literal pol false s e).1] at h
  exact absurd h (by simp)

/-- an inline scalar in any style reads back as its text; the flag `plain` (written bare) is left open, the callers
need only that a bare text is never a null word -/
theorem parseInline_inlineScalar (pol : LitPolicy) (inFlow : Bool) (s rest : Bytes) (ht : IsText s) (hr : RestOK rest) :
    ∃ plain, parseInline (inlineScalar pol inFlow s ++ rest) = some (s, plain, rest) ∧
      (plain && isNullWord s) = false ∧ (plain = true → styleOf pol inFlow s = .plain) := by
  unfold inlineScalar
  cases hst : styleOf pol inFlow s with
  | plain =>
    obtain ⟨hne, hall, hnw, _⟩ := styleOf_plain_facts pol inFlow s hst
    exact ⟨true, parseInline_plain s rest hne hall hr, by simp [hnw], fun _ => rfl⟩
  | dq => exact ⟨false, parseInline_emitDQ s rest ht, by simp, by simp⟩
  | literal => exact ⟨false, parseInline_emitDQ s rest ht, by simp, by simp⟩

theorem inlineScalar_head (pol : LitPolicy) (inFlow : Bool) (s : Bytes) :
    ∃ b r, inlineScalar pol inFlow s = b :: r ∧ InlineStart b := by
  unfold inlineScalar
  cases hst : styleOf pol inFlow s with
  | plain =>
    obtain ⟨hne, hall, _, _⟩ := styleOf_plain_facts pol inFlow s hst
    obtain ⟨c, cs, rfl⟩ := List.exists_cons_of_ne_nil hne
    simp only [List.all_cons, Bool.and_eq_true] at hall
    exact ⟨c, cs, rfl, Or.inl hall.1⟩
  | dq => exact ⟨34, _, rfl, Or.inr rfl⟩
  | literal => exact ⟨34, _, rfl, Or.inr rfl⟩

theorem dropSp_spaces (n : Nat) (l : Bytes) : dropSp (spaces n ++ l) = dropSp l := by
  induction n with
  | zero => rfl
  | succ k ih => exact (if_pos rfl).trans ih

theorem dropSp_cons_ne (b : UInt8) (l : Bytes) (h : b ≠ 32) : dropSp (b :: l) = b :: l := if_neg h

theorem normL_of_no_item (xs : List Cfg) (h : ¬ hasItemL xs = true) : Cfg.normL xs = [] := by
  induction xs with
  | nil => rfl
  | cons x xs ih =>
    simp only [hasItemL, Bool.or_eq_true, not_or, Bool.not_eq_true', Bool.not_eq_false] at h
    rw [Cfg.normL, h.1]
    simp [ih h.2]

theorem normM_of_no_item (kvs : List (Bytes × Cfg)) (h : ¬ hasItemM kvs = true) : Cfg.normM kvs = [] := by
  induction kvs with
  | nil => rfl
  | cons kv rest ih =>
    obtain ⟨k, v⟩ := kv
    simp only [hasItemM, Bool.or_eq_true, not_or, Bool.not_eq_true', Bool.not_eq_false] at h
    rw [Cfg.normM, h.1]
    simp [ih h.2]

theorem keysSorted_tail (kv : Bytes × Cfg) (rest : List (Bytes × Cfg)) (h : keysSorted (kv :: rest) = true) :
    keysSorted rest = true :=
  (keysSorted_iff rest).mpr (List.Pairwise.of_cons ((keysSorted_iff _).mp h))

theorem mem_normM (l : List (Bytes × Cfg)) : ∀ p ∈ Cfg.normM l, ∃ q ∈ l, q.1 = p.1 := by
  induction l with
  | nil => exact fun _ hp => nomatch hp
  | cons q l ih =>
    obtain ⟨qk, qv⟩ := q
    have ih' : ∀ p ∈ Cfg.normM l, ∃ q' ∈ (qk, qv) :: l, q'.1 = p.1 := fun p hp =>
      (ih p hp).imp fun _ h => ⟨List.mem_cons_of_mem _ h.1, h.2⟩
    rw [Cfg.normM]
    by_cases hq : qv.isNull = true
    · rw [if_pos hq]; exact ih'
    · rw [if_neg hq]; exact List.forall_mem_cons.mpr ⟨⟨(qk, qv), List.mem_cons_self, rfl⟩, ih'⟩

theorem keysSorted_normM (kvs : List (Bytes × Cfg)) (h : keysSorted kvs = true) : keysSorted (Cfg.normM kvs) = true := by
  rw [keysSorted_iff] at h ⊢
  induction kvs with
  | nil => exact List.Pairwise.nil
  | cons kv rest ih =>
    obtain ⟨k, v⟩ := kv
    have hd := List.pairwise_cons.mp h
    rw [Cfg.normM]
    by_cases hv : v.isNull = true
    · rw [if_pos hv]; exact ih hd.2
    · rw [if_neg hv]
      refine List.pairwise_cons.mpr ⟨fun p hp => ?_, ih hd.2⟩
      obtain ⟨q, hq, e⟩ := mem_normM rest p hp
      exact e ▸ hd.1 q hq

theorem mapSet_append_last (acc : List (Bytes × Cfg)) (k : Bytes) (v : Cfg)
    (h : ∀ kv ∈ acc, bytesLt kv.1 k = true) : mapSet acc k v = acc ++ [(k, v)] := by
  induction acc with
  | nil => rfl
  | cons kv acc ih =>
    obtain ⟨j, y⟩ := kv
    have hj : bytesLt j k = true := (List.forall_mem_cons.mp h).1
    have hne : j ≠ k := fun e => by rw [e, bytesLt_irrefl] at hj; exact absurd hj (by decide)
    have hnlt : ¬ bytesLt k j = true := fun hk => by
      have := bytesLt_trans _ _ _ hj hk
      rw [bytesLt_irrefl] at this; exact absurd this (by decide)
    rw [mapSet, if_neg hne, if_neg hnlt, ih (List.forall_mem_cons.mp h).2]
    rfl

theorem buildMap_go (acc l : List (Bytes × Cfg)) (h : keysSorted (acc ++ l) = true) :
    l.foldl (fun m kv => mapSet m kv.1 kv.2) acc = acc ++ l := by
  induction l generalizing acc with
  | nil => exact (List.append_nil acc).symm
  | cons kv l ih =>
    obtain ⟨k, v⟩ := kv
    have hlt : ∀ p ∈ acc, bytesLt p.1 k = true := fun p hp =>
      (List.pairwise_append.mp ((keysSorted_iff _).mp h)).2.2 p hp (k, v) (List.mem_cons_self ..)
    have e : acc ++ [(k, v)] ++ l = acc ++ (k, v) :: l := List.append_cons .. |>.symm
    rw [List.foldl_cons, mapSet_append_last acc k v hlt, ih (acc ++ [(k, v)]) (e ▸ h), e]

theorem buildMap_sorted (kvs : List (Bytes × Cfg)) (h : keysSorted kvs = true) : buildMap kvs = kvs :=
  buildMap_go [] kvs h

end RimeModel.C18
