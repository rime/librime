import RimeModel.C18.Value
/-! C18 — resolved locations (`Step`), the key order, `Set`-then-`Get` on lists and maps, one step of `writeAt` -/
namespace RimeModel.C18

/-- one resolved step of a location: a map key or a list index -/
inductive Step where
  | key (k : Bytes)
  | idx (i : Nat)
  deriving DecidableEq, Repr

def getStep : Cfg → Step → Cfg
  | .map kvs, .key k => mapGet kvs k
  | .list xs, .idx i => listGet xs i
  | _, _ => .null

def getSteps (t : Cfg) (ss : List Step) : Cfg := ss.foldl getStep t

/-- the step a key is resolved to when the write passes through a node that currently holds `cur` -/
def writtenStep (cur : Cfg) (key : Bytes) : Step :=
  if isListRef key then .idx (resolveIdx (asList cur).length key).index else .key key

/-- the location `writeAt cur keys item` stores `item` at -/
def written : Cfg → List Bytes → List Step
  | _, [] => []
  | cur, key :: rest => writtenStep cur key :: written (childRead cur key) rest

/-- the key inserts a new list element on the write path -/
def keyInserts (cur : Cfg) (key : Bytes) : Bool :=
  isListRef key && (resolveIdx (asList cur).length key).willInsert

/-- no key of the path is an inserting form (`@before …` / `@after …`) -/
def noInsert : Cfg → List Bytes → Bool
  | _, [] => true
  | cur, key :: rest => !keyInserts cur key && noInsert (childRead cur key) rest

theorem bytesLt_iff {a b : Bytes} : bytesLt a b = true ↔ a < b := by
  induction a generalizing b with
  | nil => cases b <;> simp [bytesLt]
  | cons x xs ih =>
    cases b with
    | nil => simp [bytesLt]
    | cons y ys =>
      rw [bytesLt, List.cons_lt_cons_iff, ← ih, UInt8.lt_iff_toNat_lt, ← UInt8.toNat_inj]
      by_cases hxy : x.toNat < y.toNat
      · simp [hxy]
      · by_cases hyx : y.toNat < x.toNat
        · simp [hxy, hyx]; omega
        · simp [hxy, hyx]; omega

theorem bytesLt_irrefl (a : Bytes) : bytesLt a a = false :=
  Bool.eq_false_iff.mpr fun h => List.lt_irrefl a (bytesLt_iff.mp h)

theorem bytesLt_trans (a b c : Bytes) (h1 : bytesLt a b = true) (h2 : bytesLt b c = true) : bytesLt a c = true :=
  bytesLt_iff.mpr (List.lt_trans (bytesLt_iff.mp h1) (bytesLt_iff.mp h2))

theorem bytesLt_total (a b : Bytes) (h1 : bytesLt a b = false) (h2 : a ≠ b) : bytesLt b a = true :=
  bytesLt_iff.mpr (Std.lt_of_le_of_ne (List.not_lt.mp fun h' => Bool.eq_false_iff.mp h1 (bytesLt_iff.mpr h')) h2.symm)

theorem padTo_length (xs : List Cfg) (n : Nat) : (padTo xs n).length = max xs.length n := by
  rw [padTo, List.length_append, List.length_replicate]; omega

theorem listGet_eq (xs : List Cfg) (j : Nat) : listGet xs j = xs[j]?.getD .null :=
  List.getD_eq_getElem?_getD ..

theorem listGet_padTo (xs : List Cfg) (n j : Nat) : listGet (padTo xs n) j = listGet xs j := by
  rw [listGet_eq, listGet_eq, padTo]
  by_cases h : j < xs.length
  · rw [List.getElem?_append_left h]
  · rw [List.getElem?_append_right (Nat.le_of_not_lt h), List.getElem?_eq_none (Nat.le_of_not_lt h),
      List.getElem?_replicate]
    by_cases h2 : j - xs.length < n - xs.length
    · rw [if_pos h2]; rfl
    · rw [if_neg h2]

theorem listGet_listSetAt (xs : List Cfg) (i j : Nat) (v : Cfg) :
    listGet (listSetAt xs i v) j = if i = j then v else listGet xs j := by
  rw [listSetAt, listGet_eq, List.getElem?_set]
  by_cases h : i = j
  · rw [if_pos h, if_pos h, if_pos (by rw [padTo_length]; omega)]; rfl
  · rw [if_neg h, if_neg h, ← listGet_eq, listGet_padTo]

theorem listSetAt_length (xs : List Cfg) (i : Nat) (v : Cfg) : (listSetAt xs i v).length = max xs.length (i + 1) := by
  rw [listSetAt, List.length_set, padTo_length]

theorem listInsert_length (xs : List Cfg) (i : Nat) (v : Cfg) : (listInsert xs i v).length = max xs.length i + 1 := by
  have := padTo_length xs i
  rw [listInsert, List.length_append, List.length_cons, List.length_take, List.length_drop, this]
  omega

theorem listGet_listInsert (xs : List Cfg) (i j : Nat) (v : Cfg) :
    listGet (listInsert xs i v) j = if j < i then listGet xs j else if j = i then v else listGet xs (j - 1) := by
  have htl : ((padTo xs i).take i).length = i := by rw [List.length_take, padTo_length]; omega
  rw [listInsert, listGet_eq]
  by_cases h1 : j < i
  · rw [if_pos h1, List.getElem?_append_left (htl.symm ▸ h1), List.getElem?_take_of_lt h1, ← listGet_eq, listGet_padTo]
  · rw [if_neg h1, List.getElem?_append_right (htl.symm ▸ Nat.le_of_not_lt h1), htl]
    by_cases h2 : j = i
    · rw [if_pos h2, h2, Nat.sub_self]; rfl
    · obtain ⟨k, hk⟩ : ∃ k, j - i = k + 1 := ⟨j - i - 1, by omega⟩
      rw [if_neg h2, hk, List.getElem?_cons_succ, List.getElem?_drop, show i + k = j - 1 by omega, ← listGet_eq,
        listGet_padTo]

theorem mapGet_mapSet (kvs : List (Bytes × Cfg)) (k j : Bytes) (v : Cfg) :
    mapGet (mapSet kvs k v) j = if k = j then v else mapGet kvs j := by
  induction kvs with
  | nil => rfl
  | cons kv rest ih =>
    obtain ⟨k', x⟩ := kv
    rw [mapSet]
    by_cases h1 : k' = k
    · rw [if_pos h1, mapGet, mapGet, h1]
      by_cases h : k = j
      · rw [if_pos h, if_pos h]
      · rw [if_neg h, if_neg h, if_neg h]
    · rw [if_neg h1]
      by_cases h2 : bytesLt k k' = true
      · rw [if_pos h2, mapGet]
      · rw [if_neg h2, mapGet, ih, mapGet]
        by_cases h : k = j
        · rw [if_pos h, if_pos h, if_neg (h ▸ h1)]
        · rw [if_neg h, if_neg h]

theorem childRead_eq_getStep (cur : Cfg) (key : Bytes) : childRead cur key = getStep cur (writtenStep cur key) := by
  unfold childRead writtenStep
  by_cases hl : isListRef key = true
  · rw [if_pos hl, if_pos hl]; cases cur <;> rfl
  · rw [if_neg hl, if_neg hl]; cases cur <;> rfl

theorem writeAt_cons (cur : Cfg) (key : Bytes) (rest : List Bytes) (item : Cfg) :
    writeAt cur (key :: rest) item =
      if isListRef key then
        .list (listSetAt
          (if (resolveIdx (asList cur).length key).willInsert then
              listInsert (asList cur) (resolveIdx (asList cur).length key).index .null
            else asList cur)
          (resolveIdx (asList cur).length key).index (writeAt (childRead cur key) rest item))
      else .map (mapSet (asMap cur) key (writeAt (childRead cur key) rest item)) := by
  rw [writeAt]

theorem getStep_writeAt_head (cur : Cfg) (key : Bytes) (rest : List Bytes) (item : Cfg) :
    getStep (writeAt cur (key :: rest) item) (writtenStep cur key) = writeAt (childRead cur key) rest item := by
  rw [writeAt_cons, writtenStep]
  by_cases hl : isListRef key = true
  · rw [if_pos hl, if_pos hl, getStep, listGet_listSetAt, if_pos rfl]
  · rw [if_neg hl, if_neg hl, getStep, mapGet_mapSet, if_pos rfl]

theorem getStep_null (s : Step) : getStep .null s = .null := by
  cases s <;> rfl

/-- a node that passed the type check for `key` reads like the container the write goes through -/
theorem getStep_of_ty (cur : Cfg) (key : Bytes) (s : Step) (hty : (cur.ty = .null || cur.ty = expectedTy key) = true) :
    getStep cur s = getStep (if isListRef key then .list (asList cur) else .map (asMap cur)) s := by
  unfold expectedTy at hty
  by_cases hl : isListRef key = true
  · rw [if_pos hl] at hty ⊢
    cases cur with
    | null => cases s <;> rfl
    | list xs => rfl
    | scalar _ => exact absurd hty Bool.false_ne_true
    | map _ => exact absurd hty Bool.false_ne_true
  · rw [if_neg hl] at hty ⊢
    cases cur with
    | null => cases s <;> rfl
    | map kvs => rfl
    | scalar _ => exact absurd hty Bool.false_ne_true
    | list _ => exact absurd hty Bool.false_ne_true

/-- a step other than the written one sees the old value (non-inserting key, type check passed) -/
theorem getStep_writeAt_other (cur : Cfg) (key : Bytes) (rest : List Bytes) (item : Cfg) (s : Step)
    (hty : (cur.ty = .null || cur.ty = expectedTy key) = true)
    (hins : keyInserts cur key = false) (hs : s ≠ writtenStep cur key) :
    getStep (writeAt cur (key :: rest) item) s = getStep cur s := by
  rw [writeAt_cons, getStep_of_ty cur key s hty]
  rw [writtenStep] at hs
  by_cases hl : isListRef key = true
  · have hw : (resolveIdx (asList cur).length key).willInsert = false := by
      rw [keyInserts, hl, Bool.true_and] at hins; exact hins
    rw [if_pos hl] at hs
    rw [if_pos hl, if_pos hl, hw, if_neg (by decide)]
    cases s with
    | key k => rfl
    | idx j => rw [getStep, getStep, listGet_listSetAt, if_neg (fun e : _ = j => hs (e ▸ rfl))]
  · rw [if_neg hl] at hs
    rw [if_neg hl, if_neg hl]
    cases s with
    | idx j => rfl
    | key k => rw [getStep, getStep, mapGet_mapSet, if_neg (fun e : key = k => hs (e ▸ rfl))]

end RimeModel.C18
