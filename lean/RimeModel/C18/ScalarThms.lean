import RimeModel.C18.Utf8Thms
/-! scalar round trips of C18: `splitOn` facts, the literal block (`readLiteral_literalPieces`) and the plain style
(`parseInline_plain`); the double-quoted style is in Utf8Thms.  Restated in Props/C18.lean. -/
namespace RimeModel.C18

theorem splitOn_cons_exists (sep : UInt8) (xs : Bytes) : ∃ cur rest, splitOn sep xs = cur :: rest := by
  induction xs with
  | nil => exact ⟨[], [], rfl⟩
  | cons b bs ih =>
    obtain ⟨cur, rest, h⟩ := ih
    rw [splitOn, h]
    by_cases hb : b = sep
    · exact ⟨[], cur :: rest, by simp [hb]⟩
    · exact ⟨b :: cur, rest, by simp [hb]⟩

theorem splitOn_cons_sep (sep : UInt8) (xs : Bytes) : splitOn sep (sep :: xs) = [] :: splitOn sep xs := by
  obtain ⟨cur, rest, h⟩ := splitOn_cons_exists sep xs
  rw [splitOn, h]; simp

theorem splitOn_cons_other (sep b : UInt8) (xs cur : Bytes) (rest : List Bytes) (hb : b ≠ sep)
    (h : splitOn sep xs = cur :: rest) : splitOn sep (b :: xs) = (b :: cur) :: rest := by
  rw [splitOn, h]; simp [hb]

/-- induction along the pieces: nothing, a separator, or one more byte in the first piece -/
theorem splitOn_induct (sep : UInt8) {P : Bytes → List Bytes → Prop} (nil : P [] [[]])
    (brk : ∀ xs ps, P xs ps → P (sep :: xs) ([] :: ps))
    (byte : ∀ b xs cur rest, b ≠ sep → P xs (cur :: rest) → P (b :: xs) ((b :: cur) :: rest)) :
    ∀ xs, P xs (splitOn sep xs) := by
  intro xs
  induction xs with
  | nil => exact nil
  | cons b bs ih =>
    by_cases hb : b = sep
    · rw [hb, splitOn_cons_sep]; exact brk _ _ ih
    · obtain ⟨cur, rest, h⟩ := splitOn_cons_exists sep bs
      rw [splitOn_cons_other sep b bs cur rest hb h]
      exact byte b bs cur rest hb (h ▸ ih)

theorem splitOn_prefix (sep : UInt8) (bs xs cur : Bytes) (rest : List Bytes) (hbs : ∀ b ∈ bs, b ≠ sep)
    (h : splitOn sep xs = cur :: rest) : splitOn sep (bs ++ xs) = (bs ++ cur) :: rest := by
  induction bs with
  | nil => exact h
  | cons b bs ih =>
    exact splitOn_cons_other sep b _ (bs ++ cur) rest (List.forall_mem_cons.mp hbs).1
      (ih (List.forall_mem_cons.mp hbs).2)

theorem splitOn_append_sep (sep : UInt8) (xs : Bytes) : splitOn sep (xs ++ [sep]) = splitOn sep xs ++ [[]] := by
  refine splitOn_induct sep (P := fun xs ps => splitOn sep (xs ++ [sep]) = ps ++ [[]]) ?_ ?_ ?_ xs
  · exact splitOn_cons_sep sep []
  · intro xs ps ih; rw [List.cons_append, splitOn_cons_sep, ih]; rfl
  · intro b xs cur rest hb ih; exact splitOn_cons_other sep b _ cur (rest ++ [[]]) hb ih

def joinLF : List Bytes → Bytes
  | [] => []
  | p :: ps => p ++ c_lf :: joinLF ps

theorem joinLF_splitOn (x : Bytes) : joinLF (splitOn c_lf x) = x ++ [c_lf] := by
  refine splitOn_induct c_lf (P := fun x ps => joinLF ps = x ++ [c_lf]) rfl ?_ ?_ x
  · intro xs ps ih; rw [joinLF, ih]; rfl
  · intro b xs cur rest _ ih; rw [joinLF] at ih ⊢; rw [List.cons_append, List.cons_append, ih]

theorem mem_splitOn (sep : UInt8) (xs : Bytes) : ∀ p ∈ splitOn sep xs, ∀ b ∈ p, b ∈ xs ∧ b ≠ sep := by
  refine splitOn_induct sep (P := fun xs ps => ∀ p ∈ ps, ∀ b ∈ p, b ∈ xs ∧ b ≠ sep) ?_ ?_ ?_ xs
  · exact List.forall_mem_singleton.mpr nofun
  · intro xs ps ih
    exact List.forall_mem_cons.mpr
      ⟨nofun, fun p hp b hb => (ih p hp b hb).imp_left (List.mem_cons_of_mem _)⟩
  · intro c xs cur rest hc ih
    obtain ⟨hcur, hrest⟩ := List.forall_mem_cons.mp ih
    exact List.forall_mem_cons.mpr
      ⟨List.forall_mem_cons.mpr ⟨⟨List.mem_cons_self, hc⟩, fun b hb => (hcur b hb).imp_left (List.mem_cons_of_mem _)⟩,
        fun p hp b hb => (hrest p hp b hb).imp_left (List.mem_cons_of_mem _)⟩

theorem encodeCp_no_lf (cp : Nat) (h : cp ≠ 10) : ∀ b ∈ encodeCp cp, b ≠ c_lf :=
  fun _ hb e => encodeCp_not_mem cp c_lf (by decide) h (e ▸ hb)

theorem splitOn_text (cps : List Nat) (hg : ∀ cp ∈ cps, goodCp cp = true) :
    ∀ p ∈ splitOn c_lf (encodeAll cps), IsText p := by
  have nil : IsText [] := ⟨[], nofun, rfl⟩
  induction cps with
  | nil => exact List.forall_mem_singleton.mpr nil
  | cons c cs ih =>
    obtain ⟨hc0, hgs⟩ := List.forall_mem_cons.mp hg
    have ih' := ih hgs
    obtain ⟨cur, rest, h⟩ := splitOn_cons_exists c_lf (encodeAll cs)
    rw [h] at ih'
    rw [encodeAll]
    by_cases hc : c = 10
    · rw [hc, show encodeCp 10 = [c_lf] by decide, List.singleton_append, splitOn_cons_sep, h]
      exact List.forall_mem_cons.mpr ⟨nil, ih'⟩
    · obtain ⟨⟨cc, hcc, e⟩, hrest⟩ := List.forall_mem_cons.mp ih'
      rw [splitOn_prefix c_lf _ _ cur rest (encodeCp_no_lf c hc) h]
      exact List.forall_mem_cons.mpr ⟨⟨c :: cc, List.forall_mem_cons.mpr ⟨hc0, hcc⟩, by rw [e]; rfl⟩, hrest⟩

theorem literalPieces_text (s : Bytes) (h : IsText s) : literalPieces s = splitOn c_lf s := by
  obtain ⟨cps, hg, rfl⟩ := h
  exact (List.map_congr_left fun p hp => sanitize_text p (splitOn_text cps hg p hp)).trans (List.map_id _)

theorem leadingSpaces_two (b : UInt8) (p : Bytes) (hb : b ≠ 32) : leadingSpaces (32 :: 32 :: b :: p) = 2 := by
  rw [leadingSpaces, if_pos rfl, leadingSpaces, if_pos rfl, leadingSpaces, if_neg hb]

theorem leadingSpaces_ge_two (p : Bytes) : 2 ≤ leadingSpaces (32 :: 32 :: p) := by
  rw [leadingSpaces, if_pos rfl, leadingSpaces, if_pos rfl]; exact Nat.le_add_left ..

theorem stripCR_noCR (l : Bytes) (h : (13 : UInt8) ∉ l) : stripCR l = l := by
  unfold stripCR
  split
  · rename_i r heq
    exact absurd (List.mem_reverse.mp (heq ▸ List.mem_cons_self ..)) h
  · rfl

theorem indentLine_nil : indentLine 2 [] = [] := rfl

theorem indentLine_cons (b : UInt8) (p : Bytes) : indentLine 2 (b :: p) = 32 :: 32 :: b :: p := rfl

theorem mem_indentLine (n : Nat) (l : Bytes) (b : UInt8) (h : b ∈ indentLine n l) : b = 32 ∨ b ∈ l := by
  rw [indentLine] at h
  by_cases hl : l = []
  · rw [if_pos hl] at h; exact nomatch h
  · rw [if_neg hl] at h
    exact (List.mem_append.mp h).imp (fun h => (List.mem_replicate.mp h).2) id

theorem stripCR_indentLine (p : Bytes) (h : (13 : UInt8) ∉ p) : stripCR (indentLine 2 p) = indentLine 2 p :=
  stripCR_noCR _ fun hm => (mem_indentLine 2 p 13 hm).elim (by decide) h

def NoCR (ps : List Bytes) : Prop := ∀ p ∈ ps, (13 : UInt8) ∉ p

def tailNL (atEnd : Bool) : Bytes := if atEnd then [] else [c_lf]

theorem litRest_line (atEnd : Bool) (p : Bytes) (ls : List Bytes) (hls : ls.isEmpty = false) (hp : (13 : UInt8) ∉ p) :
    litRest 2 atEnd (indentLine 2 p :: ls) = (litRest 2 atEnd ls).map (p ++ [c_lf] ++ ·) := by
  rw [litRest]
  simp only [hls, Bool.false_and, Bool.false_eq_true, if_false, stripCR_indentLine p hp]
  cases p with
  | nil => rfl
  | cons b p' =>
    rw [indentLine_cons, Nat.min_eq_right (leadingSpaces_ge_two _)]
    rfl

theorem indentLines_isEmpty (qs : List Bytes) : (indentLines 2 (qs ++ [[]])).isEmpty = false := by
  cases qs <;> rfl

theorem litRest_ok (atEnd : Bool) (qs : List Bytes) (h : NoCR qs) :
    litRest 2 atEnd (indentLines 2 (qs ++ [[]])) = some (joinLF qs ++ tailNL atEnd) := by
  induction qs with
  | nil =>
    show litRest 2 atEnd [[]] = some (tailNL atEnd)
    rw [litRest, litRest]
    cases atEnd <;> rfl
  | cons p qs ih =>
    have e : indentLines 2 (p :: qs ++ [[]]) = indentLine 2 p :: indentLines 2 (qs ++ [[]]) := rfl
    rw [e, litRest_line atEnd p _ (indentLines_isEmpty qs) (List.forall_mem_cons.mp h).1,
      ih (List.forall_mem_cons.mp h).2, joinLF, Option.map_some, List.append_assoc, List.append_assoc]
    rfl

/-- the first non-empty line does not start with a space -/
def FirstOK : List Bytes → Prop
  | [] => False
  | [] :: ps => FirstOK ps
  | (b :: _) :: _ => b ≠ 32

theorem litDetect_ok (atEnd : Bool) (qs : List Bytes) (ind : Nat) (hind : ind ≤ 2) (h : NoCR qs) (hf : FirstOK qs) :
    litDetect ind atEnd (indentLines 2 (qs ++ [[]])) = some (joinLF qs ++ tailNL atEnd) := by
  induction qs with
  | nil => exact absurd hf (by simp [FirstOK])
  | cons p qs ih =>
    have hq : NoCR qs := fun x hx => h x (List.mem_cons_of_mem _ hx)
    have e : indentLines 2 (p :: qs ++ [[]]) = indentLine 2 p :: indentLines 2 (qs ++ [[]]) := rfl
    rw [e, litDetect]
    simp only [indentLines_isEmpty qs, Bool.false_and, Bool.false_eq_true, if_false,
      stripCR_indentLine p (List.forall_mem_cons.mp h).1]
    cases p with
    | nil =>
      show (litDetect (max ind 0) atEnd _).map _ = _
      rw [Nat.max_zero, ih hq hf]
      rfl
    | cons b p' =>
      rw [indentLine_cons, leadingSpaces_two b p' hf, Nat.max_eq_right hind]
      show (litRest 2 atEnd _).map _ = _
      rw [litRest_ok atEnd qs hq, joinLF, Option.map_some, List.append_assoc, List.append_assoc]
      rfl

theorem firstOK_splitOn (s : Bytes) : ∀ c t, dropLF s = c :: t → c ≠ 32 → FirstOK (splitOn c_lf s) := by
  refine splitOn_induct c_lf (P := fun s ps => ∀ c t, dropLF s = c :: t → c ≠ 32 → FirstOK ps) ?_ ?_ ?_ s
  · exact fun c t h => nomatch h
  · intro xs ps ih c t h hc
    rw [dropLF, if_pos rfl] at h
    exact ih c t h hc
  · intro b xs cur rest hb _ c t h hc
    rw [dropLF, if_neg hb] at h
    exact (List.cons.inj h).1 ▸ hc

theorem firstOK_of_append : ∀ qs : List Bytes, FirstOK (qs ++ [[]]) → FirstOK qs
  | [], h => h
  | [] :: qs, h => firstOK_of_append qs h
  | (_ :: _) :: _, h => h

theorem literalSafe_unpack (s : Bytes) (h : literalSafe s = true) :
    (∃ body b, s = (body ++ [b]) ++ [c_lf] ∧ b ≠ c_lf) ∧
    (∀ x ∈ s, x ≠ c_lf → x.toNat ≥ 32 ∨ x = 9) ∧
    (∃ c t, dropLF s = c :: t ∧ c ≠ 32) := by
  unfold literalSafe at h
  simp only [Bool.and_eq_true] at h
  obtain ⟨⟨h1, h2⟩, h3⟩ := h
  refine ⟨?_, ?_, ?_⟩
  · cases hr : s.reverse with
    | nil => rw [hr] at h1; simp at h1
    | cons a r1 =>
      cases r1 with
      | nil => rw [hr] at h1; simp at h1
      | cons b r2 =>
        rw [hr] at h1
        simp only [Bool.and_eq_true, decide_eq_true_eq, ne_eq] at h1
        refine ⟨r2.reverse, b, ?_, by simpa using h1.2⟩
        have : s = (a :: b :: r2).reverse := by rw [← hr, List.reverse_reverse]
        rw [this, h1.1]
        simp
  · intro x hx hne
    have := List.all_eq_true.mp h2 x hx
    simp only [Bool.or_eq_true, decide_eq_true_eq] at this
    exact this.elim (fun h => Or.inl (h.resolve_right hne)) Or.inr
  · cases hd : dropLF s with
    | nil => rw [hd] at h3; simp at h3
    | cons c t =>
      rw [hd] at h3
      exact ⟨c, t, rfl, by simpa using h3⟩

theorem dropTrailingLF_lf (x : Bytes) : dropTrailingLF (x ++ [c_lf]) = dropTrailingLF x := by
  rw [dropTrailingLF, dropTrailingLF, List.reverse_append]
  show (dropLF (c_lf :: x.reverse)).reverse = _
  rw [dropLF, if_pos rfl]

theorem dropTrailingLF_ne (x : Bytes) (b : UInt8) (hb : b ≠ c_lf) : dropTrailingLF (x ++ [b]) = x ++ [b] := by
  rw [dropTrailingLF, List.reverse_append]
  show (dropLF (b :: x.reverse)).reverse = _
  rw [dropLF, if_neg hb, List.reverse_cons, List.reverse_reverse]

theorem clip_body (body : Bytes) (b : UInt8) (hb : b ≠ c_lf) (atEnd : Bool) :
    clip (((body ++ [b]) ++ [c_lf]) ++ tailNL atEnd) = (body ++ [b]) ++ [c_lf] := by
  have hcore : dropTrailingLF (((body ++ [b]) ++ [c_lf]) ++ tailNL atEnd) = body ++ [b] := by
    cases atEnd
    · show dropTrailingLF (_ ++ [c_lf] ++ [c_lf]) = _
      rw [dropTrailingLF_lf, dropTrailingLF_lf, dropTrailingLF_ne _ _ hb]
    · show dropTrailingLF (_ ++ [c_lf] ++ []) = _
      rw [List.append_nil, dropTrailingLF_lf, dropTrailingLF_ne _ _ hb]
  have hne : (body ++ [b]).isEmpty = false := by cases body <;> rfl
  have hlen : (body ++ [b]).length < (((body ++ [b]) ++ [c_lf]) ++ tailNL atEnd).length := by
    simp only [List.length_append, List.length_cons, List.length_nil]; omega
  rw [clip]
  simp only [hcore, hne, Bool.false_eq_true, if_false, hlen, if_true]

/-- **literal block round trip**: a text that `literalSafe` accepts is read back from its literal block,
whether or not the block is the last thing in the input -/
theorem readLiteral_literalPieces (s : Bytes) (atEnd : Bool) (ht : IsText s) (hs : literalSafe s = true) :
    readLiteral (indentLines 2 (literalPieces s)) atEnd = some s := by
  obtain ⟨⟨body, b, hsb, hb⟩, hctl, ⟨c, t, hd, hc⟩⟩ := literalSafe_unpack s hs
  -- the bytes of the pieces: no LF any more, so printable or TAB
  have hbyte : ∀ p ∈ splitOn c_lf s, ∀ x ∈ p, x.toNat ≥ 32 ∨ x = 9 := fun p hp x hx =>
    hctl x (mem_splitOn c_lf s p hp x hx).1 (mem_splitOn c_lf s p hp x hx).2
  have hsplit : splitOn c_lf s = splitOn c_lf (body ++ [b]) ++ [[]] := by
    rw [hsb, splitOn_append_sep]
  have hany : (indentLines 2 (splitOn c_lf s)).any (fun l => l.any fun b => b = 0 || b = 4) = false := by
    rw [Bool.eq_false_iff]
    intro hh
    obtain ⟨l, hl, hl2⟩ := List.any_eq_true.mp hh
    obtain ⟨x, hx, hx2⟩ := List.any_eq_true.mp hl2
    obtain ⟨p, hp, rfl⟩ := List.mem_map.mp hl
    have h04 : x = 0 ∨ x = 4 := by simpa [Bool.or_eq_true] using hx2
    rcases mem_indentLine 2 p x hx with e | hx
    · rw [e] at h04; exact absurd h04 (by decide)
    · rcases h04 with e | e <;> (rw [e] at hx; exact (hbyte p hp _ hx).elim (by decide) (by decide))
  have hq : NoCR (splitOn c_lf (body ++ [b])) := fun p hp hm =>
    (hbyte p (hsplit ▸ List.mem_append_left _ hp) 13 hm).elim (by decide) (by decide)
  have hfirst : FirstOK (splitOn c_lf (body ++ [b])) :=
    firstOK_of_append _ (hsplit ▸ firstOK_splitOn s c t hd hc)
  rw [literalPieces_text s ht, readLiteral, hany, if_neg (by decide), hsplit, litDetect_ok atEnd _ 1 (by omega) hq hfirst,
    joinLF_splitOn, Option.map_some, hsb, clip_body body b hb atEnd]

theorem takePlain_append (s rest : Bytes) (hs : s.all isPlainSafe = true)
    (hr : ∀ b r, rest = b :: r → isPlainSafe b = false) : takePlain (s ++ rest) = (s, rest) := by
  induction s with
  | nil =>
    cases rest with
    | nil => rfl
    | cons b r => simp [takePlain, hr b r rfl]
  | cons c cs ih =>
    simp only [List.all_cons, Bool.and_eq_true] at hs
    rw [List.cons_append, takePlain]
    simp [hs.1, ih hs.2]

theorem parseInline_plain (s rest : Bytes) (hne : s ≠ []) (hs : s.all isPlainSafe = true)
    (hr : ∀ b r, rest = b :: r → isPlainSafe b = false) : parseInline (s ++ rest) = some (s, true, rest) := by
  obtain ⟨c, cs, rfl⟩ := List.exists_cons_of_ne_nil hne
  have hc : isPlainSafe c = true := by
    simp only [List.all_cons, Bool.and_eq_true] at hs; exact hs.1
  have hc34 : c ≠ 34 := fun e => absurd (e ▸ hc) (by decide)
  unfold parseInline
  rw [List.cons_append]
  split
  · rename_i r heq
    simp only [List.cons.injEq] at heq
    exact absurd heq.1 hc34
  · rw [← List.cons_append, takePlain_append _ _ hs hr]
    simp

end RimeModel.C18
