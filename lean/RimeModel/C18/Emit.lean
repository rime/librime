import RimeModel.C18.Utf8
import RimeModel.Gen.C18Emit
/-!
C18 — the YAML text `ConfigData::SaveToStream` writes: librime's `EmitYaml` / `EmitScalar`
(src/rime/config/config_data.cc) driving yaml-cpp 0.7's `Emitter`.

librime's part (modelled from the source): the style request of `EmitScalar` (line break → literal,
else any byte outside `[A-Za-z0-9_.]` → double-quoted, else yaml-cpp's automatic choice), null map
values skipped, null list elements emitting nothing, flow style requested from depth 3.
yaml-cpp's part (modelled from observed behaviour, trusted base, compared byte for byte on every run):
automatic style = plain unless the text is empty / `~` / `null` / `Null` / `NULL`; a literal request is
replaced by double quotes inside flow collections; literal blocks are written as `|`, then each line
of the text indented by the current indentation + 2 (empty lines stay empty), with no indentation or
chomping indicator; block layout (`- ` entries, `key:` entries, nested collections on following lines
indented by 2, a map inside a sequence entry starting on the `- ` line, collections without emitted
children as `[]` / `{}`); flow layout `[a, b]`, `{k: v}`.

The layout is produced as *relative lines*: a child contributes the text that continues its parent's
header line (`first`) and further lines relative to the parent entry's column (`rest`), which the
parent indents by 2 (`indentLines`; empty lines stay empty, exactly as yaml-cpp writes them).

`LitPolicy.legacy` is `EmitScalar` as found in the pinned tree; `LitPolicy.safe` is `EmitScalar` with
the repair proposed in hooks/C18_fix_proposal.diff (literal only when the block can carry the text,
`...` never plain).  Which one the working tree has is regenerated into `Gen/C18Emit.lean`.
-/
namespace RimeModel.C18

inductive LitPolicy where
  | legacy | safe
  deriving DecidableEq, Repr

/-- the policy of the working tree, as recognised by gen/c18_emit.py (`none`: unknown shape) -/
def currentPolicy : Option LitPolicy :=
  match Gen.C18.emitScalarShape with
  | some 0 => some .legacy
  | some 1 => some .safe
  | _ => none

/-- `EmitYaml`'s `depth >= N` threshold for flow style, read from the working tree -/
def flowDepth : Nat := Gen.C18.flowDepth

inductive Style where
  | plain | dq | literal
  deriving DecidableEq, Repr

def c_lf : UInt8 := 10
def c_cr : UInt8 := 13

/-- the character class of `EmitScalar`'s `all_of` test -/
def isPlainSafe (b : UInt8) : Bool := isAlnum b || b = 95 || b = 46

/-- `str_value.find_first_of("\r\n") != npos` -/
def hasBreak (s : Bytes) : Bool := s.any fun b => b = c_cr || b = c_lf

/-- yaml-cpp `IsNullString` -/
def isNullString (s : Bytes) : Bool :=
  s = [] || s = [126] || s = [110, 117, 108, 108] || s = [78, 117, 108, 108] || s = [78, 85, 76, 76]

def dropLF : Bytes → Bytes
  | [] => []
  | b :: bs => if b = c_lf then dropLF bs else b :: bs

/-- `IsLiteralBlockSafe` of the proposed repair: the text ends in exactly one line break, has no control
characters other than LF and TAB, and its first non-empty line does not start with a space -/
def literalSafe (s : Bytes) : Bool :=
  let r := s.reverse
  (match r with
   | a :: b :: _ => a = c_lf && b ≠ c_lf
   | _ => false)
  && s.all (fun b => b.toNat ≥ 32 || b = c_lf || b = 9)
  && (match dropLF s with
      | b :: _ => b ≠ 32
      | [] => false)

def threeDots : Bytes := [46, 46, 46]

def wantsLiteral (pol : LitPolicy) (s : Bytes) : Bool :=
  hasBreak s && (pol = .legacy || literalSafe s)

def plainOk (pol : LitPolicy) (s : Bytes) : Bool :=
  s.all isPlainSafe && (pol = .legacy || s ≠ threeDots)

/-- the style a scalar is finally written in (`EmitScalar` request + yaml-cpp `ComputeStringFormat`) -/
def styleOf (pol : LitPolicy) (inFlow : Bool) (s : Bytes) : Style :=
  if wantsLiteral pol s then (if inFlow then .dq else .literal)
  else if !plainOk pol s then .dq
  else if isNullString s then .dq
  else .plain

/-- a scalar written on one line (plain or double-quoted).  Only meaningful when the style is not literal. -/
def inlineScalar (pol : LitPolicy) (inFlow : Bool) (s : Bytes) : Bytes :=
  match styleOf pol inFlow s with
  | .plain => s
  | _ => emitDQ s

def spaces (n : Nat) : Bytes := List.replicate n 32

def indentLine (n : Nat) (l : Bytes) : Bytes := if l = [] then [] else spaces n ++ l

def indentLines (n : Nat) (ls : List Bytes) : List Bytes := ls.map (indentLine n)

/-- the lines of a literal block's content, before indentation -/
def literalPieces (s : Bytes) : List Bytes := (splitOn c_lf s).map sanitize

/-- `sep`-separated concatenation -/
def joinWith (sep : Bytes) : List Bytes → Bytes
  | [] => []
  | [x] => x
  | x :: y :: rest => x ++ sep ++ joinWith sep (y :: rest)

def emptySeqText : Bytes := [91, 93]
def emptyMapText : Bytes := [123, 125]
def commaSpace : Bytes := [44, 32]
def colonSpace : Bytes := [58, 32]

/-! ### flow style

yaml-cpp writes the opening bracket of a flow collection lazily, after `IndentTo(LastIndent())`, and an
empty collection as `IndentTo(CurIndent())` + `[]`; the indentation counters grow by 2 per nesting level
whatever the style, so a collection visited at depth `d` whose text would start at (byte) column `c` is
preceded by `2d-2-c` spaces when it has children and by `2d-c` spaces when it has none (usually zero: the
column is already further right; deep first-child nesting is where it shows, `[[[ [ [x]]]]]`). -/

def hasItemL : List Cfg → Bool
  | [] => false
  | x :: xs => !x.isNull || hasItemL xs

def hasItemM : List (Bytes × Cfg) → Bool
  | [] => false
  | (_, v) :: rest => !v.isNull || hasItemM rest

mutual
/-- the text of a non-null node inside flow context; `d` = the depth `EmitYaml` visits it at, `c` = the
column its text starts at -/
def emitFlow (pol : LitPolicy) (d c : Nat) : Cfg → Bytes
  | .null => []
  | .scalar s => inlineScalar pol true s
  | .list xs =>
    if hasItemL xs then
      spaces (2 * d - 2 - c) ++ 91 :: (emitFlowL pol (d + 1) (max c (2 * d - 2) + 1) true xs ++ [93])
    else spaces (2 * d - c) ++ emptySeqText
  | .map kvs =>
    if hasItemM kvs then
      spaces (2 * d - 2 - c) ++ 123 :: (emitFlowM pol (d + 1) (max c (2 * d - 2) + 1) true kvs ++ [125])
    else spaces (2 * d - c) ++ emptyMapText
/-- the items of a flow sequence from column `c` on; `first`: no item written yet -/
def emitFlowL (pol : LitPolicy) (d c : Nat) (first : Bool) : List Cfg → Bytes
  | [] => []
  | x :: xs =>
    if x.isNull then emitFlowL pol d c first xs
    else
      let sep : Bytes := if first then [] else commaSpace
      let tx := emitFlow pol d (c + sep.length) x
      sep ++ tx ++ emitFlowL pol d (c + sep.length + tx.length) false xs
/-- the entries of a flow map from column `c` on -/
def emitFlowM (pol : LitPolicy) (d c : Nat) (first : Bool) : List (Bytes × Cfg) → Bytes
  | [] => []
  | (k, v) :: rest =>
    if v.isNull then emitFlowM pol d c first rest
    else
      let sep : Bytes := if first then [] else commaSpace
      let kt := inlineScalar pol true k ++ colonSpace
      let tx := emitFlow pol d (c + sep.length + kt.length) v
      sep ++ kt ++ tx ++ emitFlowM pol d (c + sep.length + kt.length + tx.length) false rest
end

/-! ### block style -/

/-- what a child node contributes: the continuation of the parent's header line and the following
lines, relative to the parent entry's column -/
structure Chunk where
  first : Bytes
  rest : List Bytes
  deriving Repr

def scalarChunk (pol : LitPolicy) (s : Bytes) : Chunk :=
  match styleOf pol false s with
  | .literal => ⟨[32, 124], literalPieces s⟩
  | .plain => ⟨32 :: s, []⟩
  | .dq => ⟨32 :: emitDQ s, []⟩

mutual
/-- `depth` is the depth `EmitYaml` is called with for this node, `col` the column at which text that
continues the parent's header line starts (after `- ` or `key: `) -/
def emitChild (pol : LitPolicy) (depth : Nat) (inSeq : Bool) (col : Nat) : Cfg → Chunk
  | .null => ⟨[], []⟩
  | .scalar s => scalarChunk pol s
  | .list xs =>
    if depth ≥ flowDepth then ⟨32 :: emitFlow pol depth col (.list xs), []⟩
    else match emitSeq pol depth xs with
      | [] => ⟨[], [emptySeqText]⟩
      | l :: ls => ⟨[], l :: ls⟩
  | .map kvs =>
    if depth ≥ flowDepth then ⟨32 :: emitFlow pol depth col (.map kvs), []⟩
    else match emitMap pol depth kvs with
      | [] => if inSeq then ⟨32 :: emptyMapText, []⟩ else ⟨[], [emptyMapText]⟩
      | l :: ls => if inSeq then ⟨32 :: l, ls⟩ else ⟨[], l :: ls⟩
/-- the lines of a block sequence that `EmitYaml` visits at `depth` (its entries stand at column `2·depth`) -/
def emitSeq (pol : LitPolicy) (depth : Nat) : List Cfg → List Bytes
  | [] => []
  | x :: xs =>
    if x.isNull then emitSeq pol depth xs
    else
      let c := emitChild pol (depth + 1) true (2 * depth + 2) x
      ((45 :: c.first) :: indentLines 2 c.rest) ++ emitSeq pol depth xs
/-- the lines of a block map that `EmitYaml` visits at `depth` -/
def emitMap (pol : LitPolicy) (depth : Nat) : List (Bytes × Cfg) → List Bytes
  | [] => []
  | (k, v) :: rest =>
    if v.isNull then emitMap pol depth rest
    else
      let kt := inlineScalar pol false k
      let c := emitChild pol (depth + 1) false (2 * depth + kt.length + 2) v
      ((kt ++ 58 :: c.first) :: indentLines 2 c.rest) ++ emitMap pol depth rest
end

/-- the lines of the whole document: the root is visited at depth 0 with nothing before it, so a block
collection starts at column 0 and whatever would continue a header line (a scalar, a `|`, a flow
collection) starts the first line, its further lines indented as below any other entry -/
def emitDocLines (pol : LitPolicy) (t : Cfg) : List Bytes :=
  if t.isNull then [[]]
  else
    let c := emitChild pol 0 false 0 t
    if c.first.isEmpty then c.rest else c.first.drop 1 :: indentLines 2 c.rest

/-- `SaveToStream` -/
def emitDoc (pol : LitPolicy) (t : Cfg) : Bytes := joinWith [c_lf] (emitDocLines pol t)

/-! ### which trees the layout model covers: map keys written as simple keys.
yaml-cpp switches to the long form `? key` / `: value` for keys longer than 1024 bytes and for keys in
literal style; those are exercised on the implementation only. -/

def keyModelled (pol : LitPolicy) (k : Bytes) : Bool :=
  k.length ≤ 1024 && styleOf pol false k ≠ .literal

mutual
def keysModelled (pol : LitPolicy) : Cfg → Bool
  | .null => true
  | .scalar _ => true
  | .list xs => keysModelledL pol xs
  | .map kvs => keysModelledM pol kvs
def keysModelledL (pol : LitPolicy) : List Cfg → Bool
  | [] => true
  | x :: xs => keysModelled pol x && keysModelledL pol xs
def keysModelledM (pol : LitPolicy) : List (Bytes × Cfg) → Bool
  | [] => true
  | (k, v) :: rest => keyModelled pol k && keysModelled pol v && keysModelledM pol rest
end

end RimeModel.C18
