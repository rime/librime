import RimeModel.C18.TreeLemmas
/-! flow-style round trip of C18: `flow_rt`, by `treeOK_induct` over `flow_list` / `flow_map` -/
namespace RimeModel.C18

theorem restOK_cons (b : UInt8) (r : Bytes) (h : isPlainSafe b = false) : RestOK (b :: r) := by
  intro b' r' e
  rw [← (List.cons.inj e).1]; exact h

theorem restOK_nil : RestOK [] := nofun

/-- the element hypothesis of the list lemmas: every non-null element round-trips in flow style -/
def FlowElemOK (pol : LitPolicy) (x : Cfg) : Prop :=
  ¬ x.isNull = true → ∀ d c rest fuel, RestOK rest → (emitFlow pol d c x).length ≤ fuel →
    parseFlow fuel (emitFlow pol d c x ++ rest) = some (x.norm, rest)

theorem parseFlow_spaces (fuel n : Nat) (l : Bytes) : parseFlow (fuel + 1) (spaces n ++ l) = parseFlow (fuel + 1) l := by
  rw [parseFlow, parseFlow, dropSp_spaces]

/-- an emitted flow node starts with the first byte of an inline scalar, a space of the padding, or a bracket -/
theorem emitFlow_head_ne (pol : LitPolicy) (d c : Nat) (t : Cfg) (rest : Bytes) (v : UInt8) (h : ¬ t.isNull = true)
    (hv : isPlainSafe v = false ∧ v ≠ 34 ∧ v ≠ 32 ∧ v ≠ 91 ∧ v ≠ 123) :
    headIs (emitFlow pol d c t ++ rest) v = false := by
  have pad : ∀ (n : Nat) (b : UInt8) (r : Bytes), v ≠ b → headIs (spaces n ++ b :: r ++ rest) v = false := by
    intro n b r hb
    cases n with
    | zero => exact decide_eq_false (Ne.symm hb)
    | succ k => exact decide_eq_false (Ne.symm hv.2.2.1)
  cases t with
  | null => exact absurd rfl h
  | scalar s =>
    obtain ⟨b, r, e, hb⟩ := inlineScalar_head pol true s
    rw [emitFlow, e]
    exact decide_eq_false (inlineStart_ne b hb v ⟨hv.1, hv.2.1⟩)
  | list xs =>
    rw [emitFlow]
    by_cases hi : hasItemL xs = true
    · rw [if_pos hi]; exact pad _ _ _ hv.2.2.2.1
    · rw [if_neg hi]; exact pad _ 91 [93] hv.2.2.2.1
  | map kvs =>
    rw [emitFlow]
    by_cases hi : hasItemM kvs = true
    · rw [if_pos hi]; exact pad _ _ _ hv.2.2.2.2
    · rw [if_neg hi]; exact pad _ 123 [125] hv.2.2.2.2

/-! the columns of the later text are left open: everything below holds at every column -/

theorem emitFlowL_cons_false (pol : LitPolicy) (d c : Nat) (x : Cfg) (xs : List Cfg) (h : ¬ x.isNull = true) :
    ∃ c₁ c₂, emitFlowL pol d c false (x :: xs) = 44 :: 32 :: (emitFlow pol d c₁ x ++ emitFlowL pol d c₂ false xs) := by
  exact ⟨_, _, by rw [emitFlowL, if_neg h]; exact List.append_assoc ..⟩

theorem emitFlowL_cons_true (pol : LitPolicy) (d c : Nat) (x : Cfg) (xs : List Cfg) (h : ¬ x.isNull = true) :
    ∃ c₂, emitFlowL pol d c true (x :: xs) = emitFlow pol d c x ++ emitFlowL pol d c₂ false xs := by
  exact ⟨_, by rw [emitFlowL, if_neg h]; rfl⟩

/-- what follows an item: the comma of the next one, or the closing bracket -/
theorem restOK_seq_tail (pol : LitPolicy) (d c : Nat) (xs : List Cfg) (rest : Bytes) :
    RestOK (emitFlowL pol d c false xs ++ 93 :: rest) := by
  induction xs with
  | nil => exact restOK_cons _ _ (by decide)
  | cons y ys ih =>
    by_cases hy : y.isNull = true
    · rw [emitFlowL, if_pos hy]; exact ih
    · obtain ⟨_, _, e⟩ := emitFlowL_cons_false pol d c y ys hy
      rw [e]; exact restOK_cons _ _ (by decide)

theorem flow_seq_tail (pol : LitPolicy) (xs : List Cfg) (hP : ∀ x ∈ xs, FlowElemOK pol x) :
    ∀ d c rest fuel, (emitFlowL pol d c false xs).length + 1 ≤ fuel →
      parseSeqTail fuel (emitFlowL pol d c false xs ++ 93 :: rest) = some (Cfg.normL xs, rest) := by
  induction xs with
  | nil =>
    intro d c rest fuel hf
    obtain _ | f := fuel
    · omega
    · rw [emitFlowL, List.nil_append, parseSeqTail, if_pos rfl]; rfl
  | cons x xs ih =>
    intro d c rest fuel hf
    have ih' := ih (List.forall_mem_cons.mp hP).2
    rw [Cfg.normL]
    by_cases hx : x.isNull = true
    · rw [emitFlowL, if_pos hx] at hf ⊢
      rw [if_pos hx]
      exact ih' d c rest fuel hf
    · obtain ⟨c₁, c₂, e⟩ := emitFlowL_cons_false pol d c x xs hx
      rw [e] at hf ⊢
      rw [List.length_cons, List.length_cons, List.length_append] at hf
      obtain _ | f := fuel
      · omega
      · rw [if_neg hx, List.cons_append, List.cons_append, List.append_assoc, parseSeqTail, if_neg (by decide),
          if_pos (by rfl)]
        show (match parseFlow f (_ ++ _) with | some (x, r1) => _ | none => _) = _
        rw [(List.forall_mem_cons.mp hP).1 hx d c₁ _ f (restOK_seq_tail pol d _ xs rest) (by omega)]
        show (match parseSeqTail f _ with | some (xs, r2) => _ | none => _) = _
        rw [ih' d _ rest f (by omega)]

theorem flow_list (pol : LitPolicy) (xs : List Cfg) (hP : ∀ x ∈ xs, FlowElemOK pol x) (hi : hasItemL xs = true)
    (d c : Nat) (rest : Bytes) (f : Nat) (hf : (emitFlowL pol d c true xs).length + 1 ≤ f) :
    parseFlow (f + 1) (91 :: (emitFlowL pol d c true xs ++ 93 :: rest)) = some (.list (Cfg.normL xs), rest) := by
  induction xs with
  | nil => exact absurd hi (by decide)
  | cons x xs ih =>
    rw [Cfg.normL]
    by_cases hx : x.isNull = true
    · rw [emitFlowL, if_pos hx] at hf ⊢
      rw [if_pos hx]
      exact ih (List.forall_mem_cons.mp hP).2 (by simpa [hasItemL, hx] using hi) hf
    · obtain ⟨c₂, e'⟩ := emitFlowL_cons_true pol d c x xs hx
      rw [e'] at hf ⊢
      rw [List.length_append] at hf
      rw [if_neg hx, List.append_assoc, parseFlow, dropSp_cons_ne _ _ (by decide)]
      show (if (91 : UInt8) = 91 then (if headIs _ 93 = true then _ else _) else _) = _
      -- the first item does not start with `]`
      rw [if_pos rfl, emitFlow_head_ne pol d c x _ 93 hx (by decide), if_neg (by decide),
        (List.forall_mem_cons.mp hP).1 hx d c _ f (restOK_seq_tail pol d _ xs rest) (by omega)]
      show (match parseSeqTail f _ with | some (xs, r2) => _ | none => _) = _
      rw [flow_seq_tail pol xs (List.forall_mem_cons.mp hP).2 d _ rest f (by omega)]

/-- the text of a key inside a flow map, with its `: ` -/
def flowKey (pol : LitPolicy) (k : Bytes) : Bytes := inlineScalar pol true k ++ colonSpace

theorem emitFlowM_cons_false (pol : LitPolicy) (d c : Nat) (k : Bytes) (v : Cfg) (rest : List (Bytes × Cfg))
    (h : ¬ v.isNull = true) :
    ∃ c₁ c₂, emitFlowM pol d c false ((k, v) :: rest) =
      44 :: 32 :: (flowKey pol k ++ (emitFlow pol d c₁ v ++ emitFlowM pol d c₂ false rest)) := by
  exact ⟨_, _, by rw [emitFlowM, if_neg h]; simp only [commaSpace, flowKey, List.append_assoc]; rfl⟩

theorem emitFlowM_cons_true (pol : LitPolicy) (d c : Nat) (k : Bytes) (v : Cfg) (rest : List (Bytes × Cfg))
    (h : ¬ v.isNull = true) :
    ∃ c₁ c₂, emitFlowM pol d c true ((k, v) :: rest) =
      flowKey pol k ++ (emitFlow pol d c₁ v ++ emitFlowM pol d c₂ false rest) := by
  exact ⟨_, _, by rw [emitFlowM, if_neg h]; simp only [flowKey, List.append_assoc]; rfl⟩

theorem restOK_map_tail (pol : LitPolicy) (d c : Nat) (kvs : List (Bytes × Cfg)) (rest : Bytes) :
    RestOK (emitFlowM pol d c false kvs ++ 125 :: rest) := by
  induction kvs with
  | nil => exact restOK_cons _ _ (by decide)
  | cons kv ys ih =>
    obtain ⟨k, v⟩ := kv
    by_cases hy : v.isNull = true
    · rw [emitFlowM, if_pos hy]; exact ih
    · obtain ⟨_, _, e⟩ := emitFlowM_cons_false pol d c k v ys hy
      rw [e]; exact restOK_cons _ _ (by decide)

theorem flow_entry (pol : LitPolicy) (k : Bytes) (v : Cfg) (hk : KeyOK pol k) (hv : FlowElemOK pol v)
    (hn : ¬ v.isNull = true) (d c : Nat) (rest : Bytes) (fuel : Nat) (hr : RestOK rest)
    (hf : (emitFlow pol d c v).length + 1 ≤ fuel) :
    parseFlowEntry fuel (flowKey pol k ++ (emitFlow pol d c v ++ rest)) = some (k, v.norm, rest) := by
  obtain _ | f := fuel
  · omega
  obtain ⟨plain, hp, hnw, _⟩ := parseInline_inlineScalar pol true k (58 :: 32 :: (emitFlow pol d c v ++ rest)) hk.1
    (restOK_cons _ _ (by decide))
  rw [parseFlowEntry, flowKey, List.append_assoc, show colonSpace ++ (emitFlow pol d c v ++ rest) =
    58 :: 32 :: (emitFlow pol d c v ++ rest) from rfl, hp]
  show (if (true && true) = true then (if (plain && isNullWord k) = true then _ else _) else _) = _
  rw [if_pos (by decide), hnw, if_neg (by decide)]
  show (match parseFlow f (_ ++ _) with | some (v, r1) => _ | none => _) = _
  rw [hv hn d c rest f hr (by omega)]

theorem flow_map_tail (pol : LitPolicy) (kvs : List (Bytes × Cfg))
    (hP : ∀ kv ∈ kvs, KeyOK pol kv.1 ∧ FlowElemOK pol kv.2) :
    ∀ d c rest fuel, (emitFlowM pol d c false kvs).length + 1 ≤ fuel →
      parseMapTail fuel (emitFlowM pol d c false kvs ++ 125 :: rest) = some (Cfg.normM kvs, rest) := by
  induction kvs with
  | nil =>
    intro d c rest fuel hf
    obtain _ | f := fuel
    · omega
    · rw [emitFlowM, List.nil_append, parseMapTail, if_pos rfl]; rfl
  | cons kv kvs ih =>
    obtain ⟨k, v⟩ := kv
    intro d c rest fuel hf
    have ih' := ih (List.forall_mem_cons.mp hP).2
    have hkv := (List.forall_mem_cons.mp hP).1
    rw [Cfg.normM]
    by_cases hx : v.isNull = true
    · rw [emitFlowM, if_pos hx] at hf ⊢
      rw [if_pos hx]
      exact ih' d c rest fuel hf
    · obtain ⟨c₁, c₂, e⟩ := emitFlowM_cons_false pol d c k v kvs hx
      rw [e] at hf ⊢
      rw [List.length_cons, List.length_cons, List.length_append, List.length_append] at hf
      obtain _ | f := fuel
      · omega
      · rw [if_neg hx, List.cons_append, List.cons_append, List.append_assoc, List.append_assoc, parseMapTail,
          if_neg (by decide), if_pos (by rfl)]
        show (match parseFlowEntry f (_ ++ (_ ++ _)) with | some (k, v, r1) => _ | none => _) = _
        rw [flow_entry pol k v hkv.1 hkv.2 hx d _ _ f (restOK_map_tail pol d _ kvs rest) (by omega)]
        show (match parseMapTail f _ with | some (kvs, r2) => _ | none => _) = _
        rw [ih' d _ rest f (by omega)]

theorem flow_map (pol : LitPolicy) (kvs : List (Bytes × Cfg)) (hP : ∀ kv ∈ kvs, KeyOK pol kv.1 ∧ FlowElemOK pol kv.2)
    (hs : keysSorted kvs = true) (hi : hasItemM kvs = true)
    (d c : Nat) (rest : Bytes) (f : Nat) (hf : (emitFlowM pol d c true kvs).length + 1 ≤ f) :
    parseFlow (f + 1) (123 :: (emitFlowM pol d c true kvs ++ 125 :: rest)) = some (.map (Cfg.normM kvs), rest) := by
  induction kvs with
  | nil => exact absurd hi (by decide)
  | cons kv kvs ih =>
    obtain ⟨k, v⟩ := kv
    have hkv := (List.forall_mem_cons.mp hP).1
    by_cases hx : v.isNull = true
    · rw [emitFlowM, if_pos hx] at hf ⊢
      rw [Cfg.normM, if_pos hx]
      exact ih (List.forall_mem_cons.mp hP).2 (keysSorted_tail _ _ hs) (by simpa [hasItemM, hx] using hi) hf
    · obtain ⟨c₁, c₂, e'⟩ := emitFlowM_cons_true pol d c k v kvs hx
      rw [e'] at hf ⊢
      rw [List.length_append, List.length_append] at hf
      -- the first key does not start with `}`
      obtain ⟨b, r, e, hb⟩ := inlineScalar_head pol true k
      have h125 : headIs (flowKey pol k ++ (emitFlow pol d c₁ v ++ emitFlowM pol d c₂ false kvs) ++ 125 :: rest) 125
          = false := by
        rw [flowKey, e]; exact decide_eq_false (inlineStart_ne b hb 125 (by decide))
      rw [parseFlow, dropSp_cons_ne _ _ (by decide)]
      show (if (123 : UInt8) = 91 then _ else if (123 : UInt8) = 123 then (if headIs _ 125 = true then _ else _) else _) = _
      rw [if_neg (by decide), if_pos rfl, h125, if_neg (by decide), List.append_assoc, List.append_assoc,
        flow_entry pol k v hkv.1 hkv.2 hx d _ _ f (restOK_map_tail pol d _ kvs rest) (by omega)]
      show (match parseMapTail f _ with | some (kvs, r2) => _ | none => _) = _
      rw [flow_map_tail pol kvs (List.forall_mem_cons.mp hP).2 d _ rest f (by omega)]
      show some (Cfg.map (buildMap ((k, v.norm) :: Cfg.normM kvs)), rest) = _
      have hn : Cfg.normM ((k, v) :: kvs) = (k, v.norm) :: Cfg.normM kvs := by rw [Cfg.normM, if_neg hx]
      rw [← hn, buildMap_sorted _ (keysSorted_normM _ hs)]

/-- **flow round trip**: a non-null tree of the domain written in flow style at any depth and column is
read back as its normal form, with the rest of the line untouched -/
theorem flow_rt (pol : LitPolicy) (t : Cfg) (hok : TreeOK pol t) : FlowElemOK pol t := by
  refine treeOK_induct pol ?_ ?_ ?_ ?_ t hok
  · exact fun h => absurd rfl h
  · intro s hs _ d c rest fuel hr hf
    rw [emitFlow] at hf ⊢
    obtain ⟨plain, hp, hnw, _⟩ := parseInline_inlineScalar pol true s rest hs.1 hr
    obtain ⟨b, r, e, hb⟩ := inlineScalar_head pol true s
    rw [e] at hf hp ⊢
    obtain _ | f := fuel
    · exact absurd hf (by simp)
    rw [parseFlow, List.cons_append, dropSp_cons_ne _ _ (inlineStart_ne b hb 32 (by decide))]
    show (if b = 91 then _ else if b = 123 then _ else
      match parseInline (b :: (r ++ rest)) with | some (s, plain, r1) => some (scalarNode s plain, r1) | none => none) = _
    rw [if_neg (inlineStart_ne b hb 91 (by decide)), if_neg (inlineStart_ne b hb 123 (by decide)), ← List.cons_append, hp]
    show some (scalarNode s plain, rest) = _
    rw [scalarNode, hnw, if_neg (by decide)]
    rfl
  · intro xs _ ih _ d c rest fuel hr hf
    rw [emitFlow] at hf ⊢
    by_cases hi : hasItemL xs = true
    · rw [if_pos hi] at hf ⊢
      rw [List.length_append, List.length_cons, List.length_append, List.length_singleton] at hf
      obtain _ | f := fuel
      · omega
      rw [List.append_assoc, parseFlow_spaces, List.cons_append, List.append_assoc]
      exact flow_list pol xs ih hi _ _ rest f (by omega)
    · rw [if_neg hi] at hf ⊢
      obtain _ | f := fuel
      · rw [List.length_append] at hf; exact absurd hf (by simp [emptySeqText])
      rw [List.append_assoc, parseFlow_spaces, Cfg.norm, normL_of_no_item xs hi, parseFlow]
      rfl
  · intro kvs hs _ ih _ d c rest fuel hr hf
    rw [emitFlow] at hf ⊢
    by_cases hi : hasItemM kvs = true
    · rw [if_pos hi] at hf ⊢
      rw [List.length_append, List.length_cons, List.length_append, List.length_singleton] at hf
      obtain _ | f := fuel
      · omega
      rw [List.append_assoc, parseFlow_spaces, List.cons_append, List.append_assoc]
      exact flow_map pol kvs ih hs hi _ _ rest f (by omega)
    · rw [if_neg hi] at hf ⊢
      obtain _ | f := fuel
      · rw [List.length_append] at hf; exact absurd hf (by simp [emptyMapText])
      rw [List.append_assoc, parseFlow_spaces, Cfg.norm, normM_of_no_item kvs hi, parseFlow]
      rfl

end RimeModel.C18
