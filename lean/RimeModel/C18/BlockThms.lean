import RimeModel.C18.FlowThms
/-! block-style round trip of C18: `block_rt` (a tree as the child of a block collection), by `treeOK_induct` over
`block_seq` / `block_map`; flow collections below the flow depth go through `flow_rt` -/
namespace RimeModel.C18

theorem foldr_body (body : List Bytes) (st : List Bytes × List Entry) (hb : ∀ l ∈ body, isHeader l = false) :
    body.foldr groupStep st = (body ++ st.1, st.2) := by
  induction body with
  | nil => rfl
  | cons l ls ih =>
    rw [List.foldr_cons, ih (List.forall_mem_cons.mp hb).2, groupStep, (List.forall_mem_cons.mp hb).1,
      if_neg (by decide)]
    rfl

theorem group_cons (h : Bytes) (body rest : List Bytes) (es : List Entry) (hh : isHeader h = true)
    (hb : ∀ l ∈ body, isHeader l = false) (hr : rest.foldr groupStep ([], []) = ([], es)) :
    (h :: (body ++ rest)).foldr groupStep ([], []) = ([], (h, body) :: es) := by
  rw [List.foldr_cons, List.foldr_append, hr, foldr_body body _ hb, groupStep, if_pos hh, List.append_nil]

theorem isHeader_indentLine (l : Bytes) : isHeader (indentLine 2 l) = false := by
  cases l <;> rfl

theorem isHeader_indentLines (ls : List Bytes) : ∀ l ∈ indentLines 2 ls, isHeader l = false :=
  List.forall_mem_map.mpr fun p _ => isHeader_indentLine p

theorem unindent2_indentLines (ls : List Bytes) : unindent2 (indentLines 2 ls) = some ls := by
  induction ls with
  | nil => rfl
  | cons l ls ih =>
    cases l with
    | nil =>
      show unindent2 ([] :: indentLines 2 ls) = _
      rw [unindent2, ih]; rfl
    | cons b p =>
      show unindent2 (indentLine 2 (b :: p) :: indentLines 2 ls) = _
      rw [indentLine_cons, unindent2, ih]; rfl

theorem emitSeq_nil (pol : LitPolicy) (d : Nat) (xs : List Cfg) (hi : ¬ hasItemL xs = true) : emitSeq pol d xs = [] := by
  induction xs with
  | nil => rfl
  | cons x xs ih =>
    rw [hasItemL, Bool.or_eq_true, not_or, Bool.not_eq_true', Bool.not_eq_false] at hi
    rw [emitSeq, if_pos hi.1, ih hi.2]

theorem emitMap_nil (pol : LitPolicy) (d : Nat) (kvs : List (Bytes × Cfg)) (hi : ¬ hasItemM kvs = true) :
    emitMap pol d kvs = [] := by
  induction kvs with
  | nil => rfl
  | cons kv kvs ih =>
    obtain ⟨k, v⟩ := kv
    rw [hasItemM, Bool.or_eq_true, not_or, Bool.not_eq_true', Bool.not_eq_false] at hi
    rw [emitMap, if_pos hi.1, ih hi.2]

theorem emitSeq_head (pol : LitPolicy) (d : Nat) (xs : List Cfg) (hi : hasItemL xs = true) :
    ∃ r ls, emitSeq pol d xs = (45 :: r) :: ls := by
  induction xs with
  | nil => exact absurd hi (by decide)
  | cons x xs ih =>
    rw [emitSeq]
    by_cases hx : x.isNull = true
    · rw [if_pos hx]; exact ih (by simpa [hasItemL, hx] using hi)
    · rw [if_neg hx]; exact ⟨_, _, rfl⟩

theorem emitMap_head (pol : LitPolicy) (d : Nat) (kvs : List (Bytes × Cfg)) (hi : hasItemM kvs = true)
    (hok : ∀ kv ∈ kvs, KeyOK pol kv.1) :
    ∃ (k : Bytes) (c : Chunk) (ls : List Bytes),
      emitMap pol d kvs = (inlineScalar pol false k ++ 58 :: c.first) :: ls ∧ KeyOK pol k := by
  induction kvs with
  | nil => exact absurd hi (by decide)
  | cons kv kvs ih =>
    obtain ⟨k, v⟩ := kv
    rw [emitMap]
    by_cases hx : v.isNull = true
    · rw [if_pos hx]
      exact ih (by simpa [hasItemM, hx] using hi) (List.forall_mem_cons.mp hok).2
    · rw [if_neg hx]; exact ⟨k, _, _, rfl, (List.forall_mem_cons.mp hok).1⟩

theorem inlineStart_line (b : UInt8) (r : Bytes) (hb : InlineStart b) : b :: r ≠ [124] ∧ startsFlow (b :: r) = false :=
  ⟨fun h => inlineStart_ne b hb 124 (by decide) (List.cons.inj h).1,
    by rw [startsFlow, headIs, headIs, decide_eq_false (inlineStart_ne b hb 91 (by decide)),
      decide_eq_false (inlineStart_ne b hb 123 (by decide))]; rfl⟩

theorem parseChildWith_nil (blk : List Bytes → Bool → Option Cfg) (inSeq : Bool) (body : List Bytes) (atEnd : Bool) :
    parseChildWith blk inSeq [] body atEnd =
      if body.isEmpty then some .null
      else match unindent2 body with
        | some ls => blk ls atEnd
        | none => none := rfl

theorem parseChildWith_cons (blk : List Bytes → Bool → Option Cfg) (inSeq : Bool) (b : UInt8) (x : Bytes)
    (body : List Bytes) (atEnd : Bool) :
    parseChildWith blk inSeq (b :: x) body atEnd =
      if b ≠ 32 then none
      else if x = [124] then (readLiteral body atEnd).map .scalar
      else if startsFlow x then (if body.isEmpty then parseFlowLine x else none)
      else
        match parseInline x with
        | some (s, plain, r) =>
          if r.isEmpty then (if body.isEmpty then some (scalarNode s plain) else none)
          else if headIs r 58 && inSeq then
            match unindent2 body with
            | some ls => blk (x :: ls) atEnd
            | none => none
          else none
        | none => none := rfl

theorem parseBlock_flowLine (fuel : Nat) (l : Bytes) (atEnd : Bool) (h : startsFlow l = true) :
    parseBlock (fuel + 1) [l] atEnd = parseFlowLine l := by
  rw [parseBlock]
  show (if startsFlow l = true then _ else _) = _
  rw [if_pos h]
  rfl

theorem parseFlowLine_emitFlow (pol : LitPolicy) (t : Cfg) (d c : Nat) (hn : ¬ t.isNull = true) (hok : TreeOK pol t) :
    parseFlowLine (emitFlow pol d c t) = some t.norm := by
  have := flow_rt pol t hok hn d c [] ((emitFlow pol d c t).length + 1) restOK_nil (Nat.le_succ _)
  rw [List.append_nil] at this
  rw [parseFlowLine, this]
  rfl

/-- a non-null node written as a child of a block collection (at depth `d`, text starting at column
`col ≥ 2d`) is read back as its normal form by `parseChildWith` over `parseBlock f`, provided the fuel
covers the block levels that can still follow (`flowDepth ≤ d + f`) -/
def BlockElemOK (pol : LitPolicy) (f : Nat) (x : Cfg) : Prop :=
  ¬ x.isNull = true → ∀ d inSeq col atEnd, flowDepth ≤ d + f → 2 * d ≤ col →
    parseChildWith (parseBlock f) inSeq (emitChild pol d inSeq col x).first
      (indentLines 2 (emitChild pol d inSeq col x).rest) atEnd = some x.norm

theorem seq_entries (pol : LitPolicy) (f d : Nat) (atEnd : Bool) (xs : List Cfg)
    (hP : ∀ x ∈ xs, BlockElemOK pol f x) (hfd : flowDepth ≤ d + 1 + f) :
    ∃ es, (emitSeq pol d xs).foldr groupStep ([], []) = ([], es) ∧
      seqEntries (parseChildWith (parseBlock f)) atEnd es = some (Cfg.normL xs) := by
  induction xs with
  | nil => exact ⟨[], rfl, rfl⟩
  | cons x xs ih =>
    obtain ⟨es, hg, hs⟩ := ih (List.forall_mem_cons.mp hP).2
    rw [emitSeq, Cfg.normL]
    by_cases hx : x.isNull = true
    · rw [if_pos hx, if_pos hx]; exact ⟨es, hg, hs⟩
    · rw [if_neg hx, if_neg hx]
      refine ⟨_, group_cons _ _ _ es rfl (isHeader_indentLines _) hg, ?_⟩
      rw [seqEntries, if_pos (by rfl), List.drop_succ_cons, List.drop_zero,
        (List.forall_mem_cons.mp hP).1 hx (d + 1) true (2 * d + 2) _ hfd (by omega), hs]

theorem map_entries (pol : LitPolicy) (f d : Nat) (atEnd : Bool) (kvs : List (Bytes × Cfg))
    (hP : ∀ kv ∈ kvs, KeyOK pol kv.1 ∧ BlockElemOK pol f kv.2) (hfd : flowDepth ≤ d + 1 + f) :
    ∃ es, (emitMap pol d kvs).foldr groupStep ([], []) = ([], es) ∧
      mapEntries (parseChildWith (parseBlock f)) atEnd es = some (Cfg.normM kvs) := by
  induction kvs with
  | nil => exact ⟨[], rfl, rfl⟩
  | cons kv kvs ih =>
    obtain ⟨k, v⟩ := kv
    obtain ⟨es, hg, hs⟩ := ih (List.forall_mem_cons.mp hP).2
    have hkv := (List.forall_mem_cons.mp hP).1
    rw [emitMap, Cfg.normM]
    by_cases hx : v.isNull = true
    · rw [if_pos hx, if_pos hx]; exact ⟨es, hg, hs⟩
    · obtain ⟨plain, hp, hnw, _⟩ := parseInline_inlineScalar pol false k
        (58 :: (emitChild pol (d + 1) false (2 * d + (inlineScalar pol false k).length + 2) v).first) hkv.1.1
        (restOK_cons _ _ (by decide))
      obtain ⟨b, r, e, hb⟩ := inlineScalar_head pol false k
      rw [if_neg hx, if_neg hx]
      refine ⟨_, group_cons _ _ _ es ?_ (isHeader_indentLines _) hg, ?_⟩
      · rw [e]; exact decide_eq_true (inlineStart_ne b hb 32 (by decide))
      · rw [mapEntries, hp]
        show (if true = true then (if (plain && isNullWord k) = true then _ else _) else _) = _
        rw [if_pos rfl, hnw, if_neg (by decide), List.drop_succ_cons, List.drop_zero,
          hkv.2 hx (d + 1) false _ _ hfd (by omega), hs]

theorem block_seq (pol : LitPolicy) (f d : Nat) (atEnd : Bool) (xs : List Cfg)
    (hP : ∀ x ∈ xs, BlockElemOK pol f x) (hfd : flowDepth ≤ d + 1 + f) (hi : hasItemL xs = true) :
    parseBlock (f + 1) (emitSeq pol d xs) atEnd = some (.list (Cfg.normL xs)) := by
  obtain ⟨r, ls, e⟩ := emitSeq_head pol d xs hi
  obtain ⟨es, hg, hs⟩ := seq_entries pol f d atEnd xs hP hfd
  rw [e] at hg
  rw [e, parseBlock, show startsFlow (45 :: r) = false from rfl, if_neg (by decide),
    show headIs (45 :: r) 45 = true from rfl, if_pos rfl, groupEntries, hg]
  show Option.map Cfg.list (seqEntries _ _ es) = _
  rw [hs]
  rfl

theorem block_map (pol : LitPolicy) (f d : Nat) (atEnd : Bool) (kvs : List (Bytes × Cfg))
    (hP : ∀ kv ∈ kvs, KeyOK pol kv.1 ∧ BlockElemOK pol f kv.2) (hfd : flowDepth ≤ d + 1 + f)
    (hs : keysSorted kvs = true) (hi : hasItemM kvs = true) :
    parseBlock (f + 1) (emitMap pol d kvs) atEnd = some (.map (Cfg.normM kvs)) := by
  obtain ⟨k, c, ls, e, _⟩ := emitMap_head pol d kvs hi (fun kv h => (hP kv h).1)
  obtain ⟨b, r, eb, hb⟩ := inlineScalar_head pol false k
  obtain ⟨es, hg, hes⟩ := map_entries pol f d atEnd kvs hP hfd
  rw [eb, List.cons_append] at e
  rw [e] at hg
  rw [e, parseBlock, (inlineStart_line b _ hb).2, if_neg (by decide), headIs, decide_eq_false (inlineStart_ne b hb 45 (by decide)),
    if_neg (by decide), groupEntries, hg]
  show Option.map _ (mapEntries _ _ es) = _
  rw [hes]
  show some (Cfg.map (buildMap _)) = _
  rw [buildMap_sorted _ (keysSorted_normM kvs hs)]

theorem scalarChunk_nonliteral (pol : LitPolicy) (s : Bytes) (h : styleOf pol false s ≠ .literal) :
    scalarChunk pol s = ⟨32 :: inlineScalar pol false s, []⟩ := by
  unfold scalarChunk inlineScalar
  cases hst : styleOf pol false s with
  | plain => rfl
  | dq => rfl
  | literal => exact absurd hst h

theorem scalarChunk_literal (pol : LitPolicy) (s : Bytes) (h : styleOf pol false s = .literal) :
    scalarChunk pol s = ⟨[32, 124], literalPieces s⟩ := by
  unfold scalarChunk
  rw [h]

theorem child_scalar (pol : LitPolicy) (blk : List Bytes → Bool → Option Cfg) (inSeq : Bool) (s : Bytes) (atEnd : Bool)
    (hok : ScalarOK pol s) :
    parseChildWith blk inSeq (scalarChunk pol s).first (indentLines 2 (scalarChunk pol s).rest) atEnd =
      some (.scalar s) := by
  by_cases hst : styleOf pol false s = .literal
  · rw [scalarChunk_literal pol s hst, parseChildWith_cons, if_neg (by decide), if_pos rfl,
      readLiteral_literalPieces s atEnd hok.1 (hok.2 (styleOf_literal pol false s hst).1)]
    rfl
  · obtain ⟨plain, hp, hnw, _⟩ := parseInline_inlineScalar pol false s [] hok.1 restOK_nil
    obtain ⟨b, r, e, hb⟩ := inlineScalar_head pol false s
    rw [List.append_nil] at hp
    rw [scalarChunk_nonliteral pol s hst, parseChildWith_cons, if_neg (by decide), hp, e,
      if_neg (inlineStart_line b r hb).1, (inlineStart_line b r hb).2, if_neg (by decide)]
    show some (scalarNode s plain) = _
    rw [scalarNode, hnw, if_neg (by decide)]

theorem spaces_zero : spaces 0 = [] := rfl

/-- a flow collection as a block child starts right at its bracket (no padding when `2d ≤ col`) -/
theorem startsFlow_flow_list (pol : LitPolicy) (d col : Nat) (xs : List Cfg) (h : 2 * d ≤ col) :
    startsFlow (emitFlow pol d col (.list xs)) = true := by
  rw [emitFlow, show 2 * d - 2 - col = 0 by omega, show 2 * d - col = 0 by omega]
  by_cases hi : hasItemL xs = true
  · rw [if_pos hi]; rfl
  · rw [if_neg hi]; rfl

theorem startsFlow_flow_map (pol : LitPolicy) (d col : Nat) (kvs : List (Bytes × Cfg)) (h : 2 * d ≤ col) :
    startsFlow (emitFlow pol d col (.map kvs)) = true := by
  rw [emitFlow, show 2 * d - 2 - col = 0 by omega, show 2 * d - col = 0 by omega]
  by_cases hi : hasItemM kvs = true
  · rw [if_pos hi]; rfl
  · rw [if_neg hi]; rfl

theorem startsFlow_ne_bar (l : Bytes) (h : startsFlow l = true) : l ≠ [124] :=
  fun e => absurd (e ▸ h) (by decide)

theorem child_flow (pol : LitPolicy) (blk : List Bytes → Bool → Option Cfg) (inSeq : Bool) (t : Cfg) (d col : Nat)
    (atEnd : Bool) (hn : ¬ t.isNull = true) (hok : TreeOK pol t) (hsf : startsFlow (emitFlow pol d col t) = true) :
    parseChildWith blk inSeq (32 :: emitFlow pol d col t) (indentLines 2 []) atEnd = some t.norm := by
  rw [parseChildWith_cons, if_neg (by decide), if_neg (startsFlow_ne_bar _ hsf), hsf, if_pos rfl]
  exact parseFlowLine_emitFlow pol t d col hn hok

theorem emptySeq_line : parseFlowLine emptySeqText = some (.list []) := by rfl
theorem emptyMap_line : parseFlowLine emptyMapText = some (.map []) := by rfl

theorem child_block (blk : List Bytes → Bool → Option Cfg) (inSeq : Bool) (l : Bytes) (ls : List Bytes) (atEnd : Bool) :
    parseChildWith blk inSeq [] (indentLines 2 (l :: ls)) atEnd = blk (l :: ls) atEnd := by
  rw [parseChildWith_nil, unindent2_indentLines]
  rfl

/-- **block round trip, child form.** Every non-null tree of the domain, written as a child of a block
collection, is read back as its normal form. -/
theorem block_rt (pol : LitPolicy) (t : Cfg) (hok : TreeOK pol t) : ∀ f, BlockElemOK pol f t := by
  refine treeOK_induct pol (P := fun t => ∀ f, BlockElemOK pol f t) ?_ ?_ ?_ ?_ t hok
  · exact fun _ h => absurd rfl h
  · intro s hs f _ d inSeq col atEnd _ _
    rw [emitChild]
    exact child_scalar pol _ inSeq s atEnd hs
  · intro xs hok ih f hnn d inSeq col atEnd hfd hcol
    rw [emitChild]
    by_cases hd : d ≥ flowDepth
    · rw [if_pos hd]
      exact child_flow pol _ inSeq (.list xs) d col atEnd hnn hok (startsFlow_flow_list pol d col xs hcol)
    · rw [if_neg hd]
      obtain _ | f := f
      · omega
      by_cases hi : hasItemL xs = true
      · obtain ⟨r, ls, e⟩ := emitSeq_head pol d xs hi
        rw [e]
        show parseChildWith _ inSeq [] (indentLines 2 (_ :: ls)) atEnd = _
        rw [child_block, ← e]
        exact block_seq pol f d atEnd xs (fun x hx => ih x hx f) (by omega) hi
      · rw [emitSeq_nil pol d xs hi]
        show parseChildWith _ inSeq [] (indentLines 2 [emptySeqText]) atEnd = _
        rw [child_block, parseBlock_flowLine _ _ _ (by rfl), emptySeq_line, Cfg.norm, normL_of_no_item xs hi]
  · intro kvs hs hok ih f hnn d inSeq col atEnd hfd hcol
    rw [emitChild]
    by_cases hd : d ≥ flowDepth
    · rw [if_pos hd]
      exact child_flow pol _ inSeq (.map kvs) d col atEnd hnn ⟨hs, hok⟩ (startsFlow_flow_map pol d col kvs hcol)
    · rw [if_neg hd]
      obtain _ | f := f
      · omega
      by_cases hi : hasItemM kvs = true
      · have hb := block_map pol f d atEnd kvs (fun kv hkv => ⟨(ih kv hkv).1, (ih kv hkv).2 f⟩) (by omega) hs hi
        obtain ⟨k, c, ls, e, hk⟩ := emitMap_head pol d kvs hi (fun kv h => (ih kv h).1)
        rw [e] at hb ⊢
        cases inSeq with
        | false =>
          show parseChildWith _ false [] (indentLines 2 (_ :: ls)) atEnd = _
          rw [child_block, hb]
          rfl
        | true =>
          -- the map starts on the line of the sequence entry: its first line is read as `key:` and handed down
          obtain ⟨plain, hp, hnw, _⟩ := parseInline_inlineScalar pol false k (58 :: c.first) hk.1
            (restOK_cons _ _ (by decide))
          obtain ⟨b, r, eb, hbb⟩ := inlineScalar_head pol false k
          show parseChildWith _ true (32 :: _) (indentLines 2 ls) atEnd = _
          rw [parseChildWith_cons, if_neg (by decide), hp, eb, List.cons_append, if_neg (inlineStart_line b _ hbb).1,
            (inlineStart_line b _ hbb).2, if_neg (by decide)]
          show (if (false : Bool) = true then _ else if (true && true) = true then
            (match unindent2 (indentLines 2 ls) with | some ls => _ | none => _) else _) = _
          rw [if_neg (by decide), if_pos (by rfl), unindent2_indentLines, ← List.cons_append, ← eb]
          exact hb
      · rw [emitMap_nil pol d kvs hi, Cfg.norm, normM_of_no_item kvs hi]
        cases inSeq with
        | false =>
          show parseChildWith _ false [] (indentLines 2 [emptyMapText]) atEnd = _
          rw [child_block, parseBlock_flowLine _ _ _ (by rfl), emptyMap_line]
        | true =>
          show parseChildWith _ true (32 :: emptyMapText) [] atEnd = _
          rw [parseChildWith_cons, if_neg (by decide), if_neg (by decide), if_pos (by rfl), if_pos (by rfl), emptyMap_line]

end RimeModel.C18
