import RimeModel.C18.DocThms
/-! from lines to bytes: the emitted lines contain no line break, so splitting the document gives them back -/
namespace RimeModel.C18

def NoLF (l : Bytes) : Prop := c_lf ∉ l

theorem noLF_nil : NoLF [] := List.not_mem_nil

theorem noLF_append (a b : Bytes) (ha : NoLF a) (hb : NoLF b) : NoLF (a ++ b) :=
  fun h => (List.mem_append.mp h).elim ha hb

theorem noLF_cons (x : UInt8) (a : Bytes) (hx : x ≠ c_lf) (ha : NoLF a) : NoLF (x :: a) :=
  fun h => (List.mem_cons.mp h).elim (fun e => hx e.symm) ha

theorem noLF_spaces (n : Nat) : NoLF (spaces n) :=
  fun h => absurd (List.mem_replicate.mp h).2 (by decide)

theorem splitOn_noSep (sep : UInt8) (x : Bytes) (h : sep ∉ x) : splitOn sep x = [x] := by
  have := splitOn_prefix sep x [] [] [] (fun b hb e => h (e ▸ hb)) rfl
  simpa using this

theorem splitOn_joinWith (ls : List Bytes) (hne : ls ≠ []) (h : ∀ l ∈ ls, NoLF l) :
    splitOn c_lf (joinWith [c_lf] ls) = ls := by
  induction ls with
  | nil => exact absurd rfl hne
  | cons x rest ih =>
    cases rest with
    | nil =>
      rw [joinWith]
      exact splitOn_noSep c_lf x (List.forall_mem_cons.mp h).1
    | cons y rest' =>
      rw [joinWith]
      have ih' := ih (by simp) (List.forall_mem_cons.mp h).2
      have hx := (List.forall_mem_cons.mp h).1
      have : splitOn c_lf ([c_lf] ++ joinWith [c_lf] (y :: rest')) = [] :: (y :: rest') := by
        rw [List.singleton_append, splitOn_cons_sep, ih']
      rw [List.append_assoc, splitOn_prefix c_lf x _ [] (y :: rest') (fun b hb e => hx (e ▸ hb)) this]
      simp

theorem noLF_ite {c : Prop} [Decidable c] {a b : Bytes} (ha : NoLF a) (hb : ¬ c → NoLF b) :
    NoLF (if c then a else b) := by
  by_cases h : c
  · rw [if_pos h]; exact ha
  · rw [if_neg h]; exact hb h

theorem hexDigitLower_ne_lf (n : Nat) : hexDigitLower (n % 16) ≠ c_lf :=
  (by decide : ∀ d, d < 16 → hexDigitLower d ≠ c_lf) _ (Nat.mod_lt _ (by omega))

theorem noLF_hexEscape (c : UInt8) (hc : c ≠ c_lf) (ds : List Nat) :
    NoLF (c_bslash :: c :: ds.map fun n => hexDigitLower (n % 16)) := by
  refine noLF_cons _ _ (by decide) (noLF_cons _ _ hc ?_)
  intro hm
  obtain ⟨n, _, e⟩ := List.mem_map.mp hm
  exact hexDigitLower_ne_lf n e

theorem noLF_escapeSeq (cp : Nat) : NoLF (escapeSeq cp) :=
  noLF_ite (noLF_hexEscape 120 (by decide) [cp / 16, cp]) fun _ =>
  noLF_ite (noLF_hexEscape 117 (by decide) [cp / 4096, cp / 256, cp / 16, cp]) fun _ =>
    noLF_hexEscape 85 (by decide) [cp / 268435456, cp / 16777216, cp / 1048576, cp / 65536, cp / 4096, cp / 256, cp / 16, cp]

theorem noLF_escapeCp (cp : Nat) : NoLF (escapeCp cp) :=
  have esc : ∀ c : UInt8, c ≠ c_lf → NoLF [c_bslash, c] := fun c hc => noLF_hexEscape c hc []
  noLF_ite (esc 34 (by decide)) fun _ => noLF_ite (esc 92 (by decide)) fun _ =>
  noLF_ite (esc 110 (by decide)) fun h10 => noLF_ite (esc 116 (by decide)) fun _ =>
  noLF_ite (esc 114 (by decide)) fun _ => noLF_ite (esc 98 (by decide)) fun _ =>
  noLF_ite (esc 102 (by decide)) fun _ => noLF_ite (noLF_escapeSeq cp) fun _ =>
  noLF_ite (noLF_escapeSeq cp) fun _ hm => encodeCp_no_lf cp h10 _ hm rfl

theorem noLF_escapeAll (cps : List Nat) : NoLF (escapeAll cps) := by
  induction cps with
  | nil => exact noLF_nil
  | cons cp cps ih => rw [escapeAll]; exact noLF_append _ _ (noLF_escapeCp cp) ih

theorem noLF_emitDQ (s : Bytes) : NoLF (emitDQ s) := by
  unfold emitDQ
  exact noLF_cons _ _ (by decide) (noLF_append _ _ (noLF_escapeAll _) (noLF_cons _ _ (by decide) noLF_nil))

theorem noLF_plain (s : Bytes) (h : s.all isPlainSafe = true) : NoLF s :=
  fun hm => absurd (List.all_eq_true.mp h _ hm) (by decide)

theorem noLF_inline (pol : LitPolicy) (inFlow : Bool) (s : Bytes) : NoLF (inlineScalar pol inFlow s) := by
  unfold inlineScalar
  cases hst : styleOf pol inFlow s with
  | plain => exact noLF_plain s (styleOf_plain_facts pol inFlow s hst).2.1
  | dq => exact noLF_emitDQ s
  | literal => exact noLF_emitDQ s

theorem noLF_literalPieces (s : Bytes) (ht : IsText s) : ∀ p ∈ literalPieces s, NoLF p := by
  rw [literalPieces_text s ht]
  exact fun p hp hm => (mem_splitOn c_lf s p hp c_lf hm).2 rfl

theorem noLF_indentLines (n : Nat) (ls : List Bytes) (h : ∀ l ∈ ls, NoLF l) : ∀ l ∈ indentLines n ls, NoLF l :=
  List.forall_mem_map.mpr fun p hp hm => (mem_indentLine n p c_lf hm).elim (by decide) (h p hp)

theorem noLF_flowL (pol : LitPolicy) (xs : List Cfg) (hP : ∀ x ∈ xs, ∀ d c, NoLF (emitFlow pol d c x)) :
    ∀ d c first, NoLF (emitFlowL pol d c first xs) := by
  induction xs with
  | nil => exact fun _ _ _ => noLF_nil
  | cons x xs ih =>
    intro d c first
    have ih' := ih (List.forall_mem_cons.mp hP).2
    rw [emitFlowL]
    refine noLF_ite (ih' d c first) fun _ => noLF_append _ _ (noLF_append _ _ ?_ ((List.forall_mem_cons.mp hP).1 _ _)) (ih' _ _ _)
    exact noLF_ite noLF_nil fun _ => by unfold NoLF commaSpace; decide

theorem noLF_flowM (pol : LitPolicy) (kvs : List (Bytes × Cfg)) (hP : ∀ kv ∈ kvs, ∀ d c, NoLF (emitFlow pol d c kv.2)) :
    ∀ d c first, NoLF (emitFlowM pol d c first kvs) := by
  induction kvs with
  | nil => exact fun _ _ _ => noLF_nil
  | cons kv kvs ih =>
    obtain ⟨k, v⟩ := kv
    intro d c first
    have ih' := ih (List.forall_mem_cons.mp hP).2
    rw [emitFlowM]
    refine noLF_ite (ih' d c first) fun _ =>
      noLF_append _ _ (noLF_append _ _ (noLF_append _ _ ?_ ?_) ((List.forall_mem_cons.mp hP).1 _ _)) (ih' _ _ _)
    · exact noLF_ite noLF_nil fun _ => by unfold NoLF commaSpace; decide
    · exact noLF_append _ _ (noLF_inline pol true k) (by unfold NoLF colonSpace; decide)

theorem noLF_emptySeq : NoLF emptySeqText := by unfold NoLF emptySeqText; decide
theorem noLF_emptyMap : NoLF emptyMapText := by unfold NoLF emptyMapText; decide

theorem noLF_flow (pol : LitPolicy) (t : Cfg) : ∀ d c, NoLF (emitFlow pol d c t) := by
  -- padding, an opening bracket, the items, a closing bracket
  have coll : ∀ (n : Nat) (o c : UInt8) (l : Bytes), o ≠ c_lf → c ≠ c_lf → NoLF l → NoLF (spaces n ++ o :: (l ++ [c])) :=
    fun n o c l ho hc hl =>
      noLF_append _ _ (noLF_spaces n) (noLF_cons _ _ ho (noLF_append _ _ hl (noLF_cons _ _ hc noLF_nil)))
  induction t using Cfg.induct with
  | null => exact fun _ _ => noLF_nil
  | scalar s => exact fun _ _ => noLF_inline pol true s
  | list xs ih =>
    intro d c
    rw [emitFlow]
    exact noLF_ite (coll _ _ _ _ (by decide) (by decide) (noLF_flowL pol xs ih _ _ _)) fun _ =>
      noLF_append _ _ (noLF_spaces _) noLF_emptySeq
  | map kvs ih =>
    intro d c
    rw [emitFlow]
    exact noLF_ite (coll _ _ _ _ (by decide) (by decide) (noLF_flowM pol kvs ih _ _ _)) fun _ =>
      noLF_append _ _ (noLF_spaces _) noLF_emptyMap

def ChunkNoLF (c : Chunk) : Prop := NoLF c.first ∧ ∀ l ∈ c.rest, NoLF l

theorem noLF_seqLines (pol : LitPolicy) (d : Nat) (xs : List Cfg)
    (hP : ∀ x ∈ xs, ∀ d inSeq col, ChunkNoLF (emitChild pol d inSeq col x)) : ∀ l ∈ emitSeq pol d xs, NoLF l := by
  induction xs with
  | nil => exact fun _ hl => nomatch hl
  | cons x xs ih =>
    have ih' := ih (List.forall_mem_cons.mp hP).2
    have hc := (List.forall_mem_cons.mp hP).1 (d + 1) true (2 * d + 2)
    rw [emitSeq]
    by_cases hx : x.isNull = true
    · rw [if_pos hx]; exact ih'
    · rw [if_neg hx]
      exact List.forall_mem_append.mpr
        ⟨List.forall_mem_cons.mpr ⟨noLF_cons _ _ (by decide) hc.1, noLF_indentLines 2 _ hc.2⟩, ih'⟩

theorem noLF_mapLines (pol : LitPolicy) (d : Nat) (kvs : List (Bytes × Cfg))
    (hP : ∀ kv ∈ kvs, ∀ d inSeq col, ChunkNoLF (emitChild pol d inSeq col kv.2)) : ∀ l ∈ emitMap pol d kvs, NoLF l := by
  induction kvs with
  | nil => exact fun _ hl => nomatch hl
  | cons kv kvs ih =>
    obtain ⟨k, v⟩ := kv
    have ih' := ih (List.forall_mem_cons.mp hP).2
    have hc := (List.forall_mem_cons.mp hP).1 (d + 1) false (2 * d + (inlineScalar pol false k).length + 2)
    rw [emitMap]
    by_cases hx : v.isNull = true
    · rw [if_pos hx]; exact ih'
    · rw [if_neg hx]
      exact List.forall_mem_append.mpr ⟨List.forall_mem_cons.mpr
        ⟨noLF_append _ _ (noLF_inline pol false k) (noLF_cons _ _ (by decide) hc.1), noLF_indentLines 2 _ hc.2⟩, ih'⟩

theorem noLF_child (pol : LitPolicy) (t : Cfg) (hok : TreeOK pol t) :
    ∀ d inSeq col, ChunkNoLF (emitChild pol d inSeq col t) := by
  have flow : ∀ t d col, ChunkNoLF ⟨32 :: emitFlow pol d col t, []⟩ := fun t d col =>
    ⟨noLF_cons _ _ (by decide) (noLF_flow pol t d col), fun _ h => nomatch h⟩
  refine treeOK_induct pol (P := fun t => ∀ d inSeq col, ChunkNoLF (emitChild pol d inSeq col t)) ?_ ?_ ?_ ?_ t hok
  · exact fun _ _ _ => ⟨noLF_nil, fun _ h => nomatch h⟩
  · intro s hs d inSeq col
    rw [emitChild]
    by_cases hst : styleOf pol false s = .literal
    · rw [scalarChunk_literal pol s hst]
      exact ⟨noLF_cons _ _ (by decide) (noLF_cons _ _ (by decide) noLF_nil), noLF_literalPieces s hs.1⟩
    · rw [scalarChunk_nonliteral pol s hst]
      exact ⟨noLF_cons _ _ (by decide) (noLF_inline pol false s), fun _ h => nomatch h⟩
  · intro xs _ ih d inSeq col
    rw [emitChild]
    by_cases hd : d ≥ flowDepth
    · rw [if_pos hd]; exact flow _ d col
    · have hl := noLF_seqLines pol d xs ih
      rw [if_neg hd]
      cases hes : emitSeq pol d xs with
      | nil => exact ⟨noLF_nil, List.forall_mem_singleton.mpr noLF_emptySeq⟩
      | cons l ls => rw [hes] at hl; exact ⟨noLF_nil, hl⟩
  · intro kvs _ _ ih d inSeq col
    rw [emitChild]
    by_cases hd : d ≥ flowDepth
    · rw [if_pos hd]; exact flow _ d col
    · have hl := noLF_mapLines pol d kvs (fun kv hkv => (ih kv hkv).2)
      rw [if_neg hd]
      cases hes : emitMap pol d kvs with
      | nil =>
        cases inSeq
        · exact ⟨noLF_nil, List.forall_mem_singleton.mpr noLF_emptyMap⟩
        · exact ⟨noLF_cons _ _ (by decide) noLF_emptyMap, fun _ h => nomatch h⟩
      | cons l ls =>
        rw [hes] at hl
        cases inSeq
        · exact ⟨noLF_nil, hl⟩
        · exact ⟨noLF_cons _ _ (by decide) (List.forall_mem_cons.mp hl).1, (List.forall_mem_cons.mp hl).2⟩

theorem emitDocLines_noLF (pol : LitPolicy) (t : Cfg) (hok : TreeOK pol t) : ∀ l ∈ emitDocLines pol t, NoLF l := by
  rw [emitDocLines]
  by_cases hn : t.isNull = true
  · rw [if_pos hn]
    exact List.forall_mem_singleton.mpr noLF_nil
  · have hc := noLF_child pol t hok 0 false 0
    rw [if_neg hn]
    by_cases hfe : (emitChild pol 0 false 0 t).first.isEmpty = true
    · exact (if_pos hfe).symm ▸ hc.2
    · exact (if_neg hfe).symm ▸
        List.forall_mem_cons.mpr ⟨fun hm => hc.1 (List.mem_of_mem_drop hm), noLF_indentLines 2 _ hc.2⟩

theorem docLines_emitDoc (pol : LitPolicy) (t : Cfg) (hok : TreeOK pol t) (hne : emitDocLines pol t ≠ []) :
    docLines (emitDoc pol t) = emitDocLines pol t :=
  splitOn_joinWith _ hne (emitDocLines_noLF pol t hok)

end RimeModel.C18
