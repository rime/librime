import RimeModel.C18.BlockThms
/-! whole-document round trip of C18 at the level of lines: `lines_rt`, restated in Props/C18.lean as `parse_emit_lines` -/
namespace RimeModel.C18

/-- the one root the writer cannot mark: under the legacy policy a root scalar `...` is written plain and
is a document end marker.  (Under `LitPolicy.safe` it is double-quoted: `C18.root_unrestricted_safe`.) -/
def RootOK (pol : LitPolicy) (t : Cfg) : Prop :=
  ∀ s, t = .scalar s → styleOf pol false s = .plain → s ≠ threeDots

theorem parseInline_dash (r : Bytes) : parseInline (45 :: r) = none := rfl

theorem parseLines_cons (l : Bytes) (rest : List Bytes) (h : l :: rest ≠ [[]]) :
    parseLines (l :: rest) =
      if l = [124] then (readLiteral rest true).map .scalar
      else if startsFlow l then parseBlock ((l :: rest).length + flowDepth + 1) (l :: rest) true
      else
        match parseInline l with
        | some (s, plain, r) =>
          if r.isEmpty then
            if rest.isEmpty then
              (if plain && s = threeDots then some .null else some (scalarNode s plain))
            else none
          else parseBlock ((l :: rest).length + flowDepth + 1) (l :: rest) true
        | none => parseBlock ((l :: rest).length + flowDepth + 1) (l :: rest) true := by
  unfold parseLines
  simp only [h, if_false]
  rfl

theorem parseLines_block (l : Bytes) (rest : List Bytes)
    (h : startsFlow l = true ∨ (∃ r, l = 45 :: r) ∨
      ∃ b r k plain r', l = b :: r ∧ InlineStart b ∧ parseInline l = some (k, plain, 58 :: r')) :
    parseLines (l :: rest) = parseBlock ((l :: rest).length + flowDepth + 1) (l :: rest) true := by
  rcases h with h | ⟨r, rfl⟩ | ⟨b, r, k, plain, r', rfl, hb, hp⟩
  · rw [parseLines_cons _ _ (by intro e; rw [(List.cons.inj e).1] at h; exact absurd h (by decide)),
      if_neg (startsFlow_ne_bar l h), if_pos h]
  · rw [parseLines_cons _ _ (by simp), if_neg (by simp), show startsFlow (45 :: r) = false from rfl, if_neg (by decide),
      parseInline_dash]
  · rw [parseLines_cons _ _ (by simp), if_neg (inlineStart_line b r hb).1, (inlineStart_line b r hb).2,
      if_neg (by decide), hp]
    rfl

/-- **the save/load round trip at the level of lines**: for every tree of the domain, reading the lines the
writer produces gives the tree's normal form -/
theorem lines_rt (pol : LitPolicy) (t : Cfg) (hok : TreeOK pol t) (hroot : RootOK pol t) :
    parseLines (emitDocLines pol t) = some t.norm := by
  rw [emitDocLines]
  cases t with
  | null => rfl
  | scalar s =>
    rw [TreeOK] at hok
    rw [if_neg (show ¬ (Cfg.scalar s).isNull = true from Bool.false_ne_true), emitChild]
    by_cases hst : styleOf pol false s = .literal
    · rw [scalarChunk_literal pol s hst]
      show parseLines ([124] :: indentLines 2 (literalPieces s)) = _
      rw [parseLines_cons _ _ (by simp), if_pos rfl,
        readLiteral_literalPieces s true hok.1 (hok.2 (styleOf_literal pol false s hst).1)]
      rfl
    · obtain ⟨plain, hp, hnw, hpl⟩ := parseInline_inlineScalar pol false s [] hok.1 restOK_nil
      obtain ⟨b, r, e, hb⟩ := inlineScalar_head pol false s
      rw [List.append_nil] at hp
      have h3 : (plain && decide (s = threeDots)) = false := by
        cases plain with
        | false => rfl
        | true => exact (Bool.true_and _).trans (decide_eq_false (hroot s rfl (hpl rfl)))
      rw [scalarChunk_nonliteral pol s hst]
      show parseLines [inlineScalar pol false s] = _
      rw [parseLines_cons _ _ (by rw [e]; simp), hp, e, if_neg (inlineStart_line b r hb).1, (inlineStart_line b r hb).2,
        if_neg (by decide)]
      show (if (true : Bool) = true then (if (true : Bool) = true then
        (if (plain && decide (s = threeDots)) = true then _ else _) else _) else _) = _
      rw [if_pos rfl, if_pos rfl, h3, if_neg (by decide), scalarNode, hnw, if_neg (by decide)]
      rfl
  | list xs =>
    have hokL : TreeOKL pol xs := by rwa [TreeOK] at hok
    rw [if_neg (show ¬ (Cfg.list xs).isNull = true from Bool.false_ne_true), emitChild]
    by_cases hd : 0 ≥ flowDepth
    · have hsf := startsFlow_flow_list pol 0 0 xs (Nat.le_refl _)
      rw [if_pos hd]
      show parseLines [emitFlow pol 0 0 (.list xs)] = _
      rw [parseLines_block _ _ (Or.inl hsf), parseBlock_flowLine _ _ _ hsf]
      exact parseFlowLine_emitFlow pol _ 0 0 Bool.false_ne_true hok
    · rw [if_neg hd]
      by_cases hi : hasItemL xs = true
      · obtain ⟨r, ls, e⟩ := emitSeq_head pol 0 xs hi
        rw [e]
        show parseLines ((45 :: r) :: ls) = _
        rw [parseLines_block _ _ (Or.inr (Or.inl ⟨r, rfl⟩)), ← e]
        exact block_seq pol _ 0 true xs (fun x hx => block_rt pol x (treeOKL_mem pol xs hokL x hx) _) (by omega) hi
      · rw [emitSeq_nil pol 0 xs hi]
        show parseLines [emptySeqText] = _
        rw [parseLines_block _ _ (Or.inl rfl), parseBlock_flowLine _ _ _ (by rfl), emptySeq_line, Cfg.norm,
          normL_of_no_item xs hi]
  | map kvs =>
    have hokM : keysSorted kvs = true ∧ TreeOKM pol kvs := by rwa [TreeOK] at hok
    rw [if_neg (show ¬ (Cfg.map kvs).isNull = true from Bool.false_ne_true), emitChild]
    by_cases hd : 0 ≥ flowDepth
    · have hsf := startsFlow_flow_map pol 0 0 kvs (Nat.le_refl _)
      rw [if_pos hd]
      show parseLines [emitFlow pol 0 0 (.map kvs)] = _
      rw [parseLines_block _ _ (Or.inl hsf), parseBlock_flowLine _ _ _ hsf]
      exact parseFlowLine_emitFlow pol _ 0 0 Bool.false_ne_true hok
    · rw [if_neg hd]
      by_cases hi : hasItemM kvs = true
      · obtain ⟨k, c, ls, e, hk⟩ := emitMap_head pol 0 kvs hi (fun kv h => (treeOKM_mem pol kvs hokM.2 kv h).1)
        obtain ⟨plain, hp, _, _⟩ := parseInline_inlineScalar pol false k (58 :: c.first) hk.1 (restOK_cons _ _ (by decide))
        obtain ⟨b, r, eb, hbb⟩ := inlineScalar_head pol false k
        rw [e]
        show parseLines ((inlineScalar pol false k ++ 58 :: c.first) :: ls) = _
        rw [parseLines_block _ _ (Or.inr (Or.inr ⟨b, r ++ 58 :: c.first, k, plain, c.first, by rw [eb]; rfl, hbb, hp⟩)), ← e]
        exact block_map pol _ 0 true kvs (fun kv hkv => ⟨(treeOKM_mem pol kvs hokM.2 kv hkv).1,
          block_rt pol kv.2 (treeOKM_mem pol kvs hokM.2 kv hkv).2 _⟩) (by omega) hokM.1 hi
      · rw [emitMap_nil pol 0 kvs hi]
        show parseLines [emptyMapText] = _
        rw [parseLines_block _ _ (Or.inl rfl), parseBlock_flowLine _ _ _ (by rfl), emptyMap_line, Cfg.norm,
          normM_of_no_item kvs hi]

end RimeModel.C18
