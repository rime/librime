import RimeModel.C18.Parse
/-! UTF-8 codec and double-quote escaper: what `WriteCodePoint` and `WriteDoubleQuotedString` write is read back -/
namespace RimeModel.C18

theorem ofNat_toNat (x : Nat) (h : x < 256) : (UInt8.ofNat x).toNat = x := by
  rw [UInt8.toNat_ofNat', Nat.mod_eq_of_lt h]

theorem decodeGo_lead (b : UInt8) (rest : Bytes) (x : Nat) :
    decodeGo (b :: rest) 0 x =
      match leadOf b with
      | .done cp => cp :: decodeGo rest 0 0
      | .pending k acc => decodeGo rest k acc := by
  rw [decodeGo]
  rfl

theorem decodeGo_trail (b : UInt8) (rest : Bytes) (k acc : Nat) (ht : isTrailing b = true) :
    decodeGo (b :: rest) (k + 1) acc =
      if k = 0 then legalize (acc * 64 + b.toNat % 64) :: decodeGo rest 0 0
      else decodeGo rest k (acc * 64 + b.toNat % 64) := by
  rw [decodeGo, ht]
  rfl

theorem goodCp_le (cp : Nat) (h : goodCp cp = true) : cp ≤ 0x10FFFF := by
  simp only [goodCp, Bool.and_eq_true, decide_eq_true_eq] at h
  exact h.1.1.1

theorem legalize_good (cp : Nat) (h : goodCp cp = true) : legalize cp = cp := by
  simp only [goodCp, Bool.and_eq_true, Bool.not_eq_true', decide_eq_true_eq, decide_eq_false_iff_not] at h
  obtain ⟨⟨⟨h1, h2⟩, h3⟩, h4⟩ := h
  rw [legalize, if_neg (Nat.not_lt.mpr h1), h2, h4, if_neg h3]
  rfl

theorem encodeCp_eq (cp : Nat) (h : cp ≤ 0x10FFFF) :
    encodeCp cp =
      if cp ≤ 0x7F then [UInt8.ofNat cp]
      else if cp ≤ 0x7FF then [UInt8.ofNat (192 + cp / 64), UInt8.ofNat (128 + cp % 64)]
      else if cp ≤ 0xFFFF then
        [UInt8.ofNat (224 + cp / 4096), UInt8.ofNat (128 + cp / 64 % 64), UInt8.ofNat (128 + cp % 64)]
      else
        [UInt8.ofNat (240 + cp / 262144), UInt8.ofNat (128 + cp / 4096 % 64), UInt8.ofNat (128 + cp / 64 % 64),
         UInt8.ofNat (128 + cp % 64)] := by
  rw [encodeCp, if_neg (Nat.not_lt.mpr h)]

theorem leadOf_1 (cp : Nat) (h : cp ≤ 0x7F) : leadOf (UInt8.ofNat cp) = .done cp := by
  have : cp / 16 < 8 := Nat.div_lt_of_lt_mul (by omega)
  rw [leadOf, utf8Len, ofNat_toNat cp (by omega)]
  simp only [this, if_true]

/-- the high nibble of a byte, which `Utf8BytesIndicated` looks at -/
theorem nibble (q x : Nat) (h : x < 16) : (16 * q + x) / 16 = q := by
  rw [Nat.mul_add_div (by decide), Nat.div_eq_of_lt h, Nat.add_zero]

theorem leadOf_2 (x : Nat) (h : x < 32) : leadOf (UInt8.ofNat (192 + x)) = .pending 1 x := by
  have hm : (192 + x) % 32 = x := by rw [show 192 + x = 32 * 6 + x from rfl, Nat.mul_add_mod, Nat.mod_eq_of_lt h]
  rw [leadOf, utf8Len, ofNat_toNat _ (by omega), hm]
  by_cases h16 : x < 16
  · rw [show 192 + x = 16 * 12 + x from rfl, nibble 12 x h16]; rfl
  · rw [show 192 + x = 16 * 13 + (x - 16) by omega, nibble 13 (x - 16) (by omega)]; rfl
theorem leadOf_3 (x : Nat) (h : x < 16) : leadOf (UInt8.ofNat (224 + x)) = .pending 2 x := by
  rw [leadOf, utf8Len, ofNat_toNat _ (by omega), show 224 + x = 16 * 14 + x from rfl, nibble 14 x h,
    Nat.mul_add_mod, Nat.mod_eq_of_lt h]
  rfl

theorem leadOf_4 (x : Nat) (h : x < 8) : leadOf (UInt8.ofNat (240 + x)) = .pending 3 x := by
  rw [leadOf, utf8Len, ofNat_toNat _ (by omega), show 240 + x = 16 * 15 + x from rfl, nibble 15 x (by omega),
    show 16 * 15 + x = 8 * 30 + x from rfl, Nat.mul_add_mod, Nat.mod_eq_of_lt h]
  rfl

/-- the trailing byte `10xxxxxx` that carries the low six bits of `x` -/
theorem trail_props (x : Nat) :
    isTrailing (UInt8.ofNat (128 + x % 64)) = true ∧ (UInt8.ofNat (128 + x % 64)).toNat % 64 = x % 64 := by
  have h : x % 64 < 64 := Nat.mod_lt _ (by omega)
  rw [isTrailing, ofNat_toNat _ (by omega), decide_eq_true_eq, Nat.add_comm, show 128 = 64 * 2 from rfl,
    Nat.add_mul_div_left _ _ (by omega), Nat.div_eq_of_lt h, Nat.add_mul_mod_self_left, Nat.mod_mod]
  exact ⟨rfl, rfl⟩

theorem decodeGo_trail_enc (x : Nat) (rest : Bytes) (k acc : Nat) :
    decodeGo (UInt8.ofNat (128 + x % 64) :: rest) (k + 1) acc =
      if k = 0 then legalize (acc * 64 + x % 64) :: decodeGo rest 0 0
      else decodeGo rest k (acc * 64 + x % 64) := by
  rw [decodeGo_trail _ _ _ _ (trail_props x).1, (trail_props x).2]

theorem decodeGo_encodeCp (cp : Nat) (tail : Bytes) (h : goodCp cp = true) :
    decodeGo (encodeCp cp ++ tail) 0 0 = cp :: decodeGo tail 0 0 := by
  rw [encodeCp_eq cp (goodCp_le cp h)]
  by_cases c1 : cp ≤ 0x7F
  · rw [if_pos c1, List.singleton_append, decodeGo_lead, leadOf_1 cp c1]
  rw [if_neg c1]
  by_cases c2 : cp ≤ 0x7FF
  · rw [if_pos c2, List.cons_append, decodeGo_lead, leadOf_2 _ (Nat.div_lt_of_lt_mul (by omega))]
    show decodeGo (_ :: ([] ++ tail)) (0 + 1) _ = _
    rw [decodeGo_trail_enc, if_pos rfl, Nat.div_add_mod', legalize_good cp h]
    rfl
  rw [if_neg c2]
  by_cases c3 : cp ≤ 0xFFFF
  · rw [if_pos c3, List.cons_append, decodeGo_lead, leadOf_3 _ (Nat.div_lt_of_lt_mul (by omega))]
    show decodeGo (_ :: _ :: ([] ++ tail)) (1 + 1) _ = _
    rw [decodeGo_trail_enc, if_neg (by omega), decodeGo_trail_enc, if_pos rfl,
      show cp / 4096 = cp / 64 / 64 from (Nat.div_div_eq_div_mul cp 64 64).symm,
      Nat.div_add_mod', Nat.div_add_mod', legalize_good cp h]
    rfl
  · rw [if_neg c3, List.cons_append, decodeGo_lead,
      leadOf_4 _ (Nat.div_lt_of_lt_mul (by have := goodCp_le cp h; omega))]
    show decodeGo (_ :: _ :: _ :: ([] ++ tail)) (2 + 1) _ = _
    rw [decodeGo_trail_enc, if_neg (by omega), decodeGo_trail_enc, if_neg (by omega), decodeGo_trail_enc, if_pos rfl,
      show cp / 262144 = cp / 64 / 64 / 64 from by rw [Nat.div_div_eq_div_mul, Nat.div_div_eq_div_mul],
      show cp / 4096 = cp / 64 / 64 from (Nat.div_div_eq_div_mul cp 64 64).symm,
      Nat.div_add_mod', Nat.div_add_mod', Nat.div_add_mod', legalize_good cp h]
    rfl

theorem decodeUtf8_encodeAll (cps : List Nat) (h : ∀ cp ∈ cps, goodCp cp = true) :
    decodeUtf8 (encodeAll cps) = cps := by
  unfold decodeUtf8
  induction cps with
  | nil => rfl
  | cons cp rest ih =>
    rw [encodeAll, decodeGo_encodeCp cp _ (List.forall_mem_cons.mp h).1, ih (List.forall_mem_cons.mp h).2]

/-- text passes through yaml-cpp's code-point loop unchanged -/
theorem sanitize_text (s : Bytes) (h : IsText s) : sanitize s = s := by
  obtain ⟨cps, hg, rfl⟩ := h
  unfold sanitize
  rw [decodeUtf8_encodeAll cps hg]

theorem encodeCp_ascii (cp : Nat) (h : cp ≤ 0x7F) : encodeCp cp = [UInt8.ofNat cp] := by
  rw [encodeCp_eq cp (by omega), if_pos h]

theorem encodeCp_byte (cp : Nat) (b : UInt8) (hb : b ∈ encodeCp cp) : b.toNat = cp ∨ 128 ≤ b.toNat := by
  have hi : ∀ n, 128 ≤ n → n < 256 → ∀ b ∈ [UInt8.ofNat n], 128 ≤ b.toNat := fun n h1 h2 b hb => by
    rw [List.mem_singleton.mp hb, ofNat_toNat _ h2]; exact h1
  have trail : ∀ x, ∀ b ∈ [UInt8.ofNat (128 + x % 64)], 128 ≤ b.toNat := fun x =>
    hi _ (Nat.le_add_right ..) (by have := Nat.mod_lt x (show 0 < 64 by omega); omega)
  have app : ∀ {l₁ l₂ : Bytes}, (∀ b ∈ l₁, 128 ≤ b.toNat) → (∀ b ∈ l₂, 128 ≤ b.toNat) → ∀ b ∈ l₁ ++ l₂, 128 ≤ b.toNat :=
    fun h1 h2 b hb => (List.mem_append.mp hb).elim (h1 b) (h2 b)
  by_cases hle : cp ≤ 0x10FFFF
  · rw [encodeCp_eq cp hle] at hb
    by_cases c1 : cp ≤ 0x7F
    · rw [if_pos c1, List.mem_singleton] at hb
      rw [hb, ofNat_toNat _ (by omega)]
      exact Or.inl rfl
    rw [if_neg c1] at hb
    right
    by_cases c2 : cp ≤ 0x7FF
    · rw [if_pos c2] at hb
      have l : cp / 64 < 32 := Nat.div_lt_of_lt_mul (by omega)
      exact app (hi _ (by omega) (by omega)) (trail _) b hb
    rw [if_neg c2] at hb
    by_cases c3 : cp ≤ 0xFFFF
    · rw [if_pos c3] at hb
      have l : cp / 4096 < 16 := Nat.div_lt_of_lt_mul (by omega)
      exact app (hi _ (by omega) (by omega)) (app (trail _) (trail _)) b hb
    · rw [if_neg c3] at hb
      have l : cp / 262144 < 8 := Nat.div_lt_of_lt_mul (by omega)
      exact app (hi _ (by omega) (by omega)) (app (trail _) (app (trail _) (trail _))) b hb
  · have e : encodeCp cp = [0xEF, 0xBF, 0xBD] := by
      rw [encodeCp, if_pos (Nat.lt_of_not_le hle)]; rfl
    rw [e] at hb
    right
    revert b
    decide

theorem encodeCp_not_mem (cp : Nat) (c : UInt8) (hc : c.toNat < 128) (hne : cp ≠ c.toNat) : c ∉ encodeCp cp :=
  fun hb => (encodeCp_byte cp c hb).elim (fun e => hne e.symm) (fun h => by omega)

theorem hexVal_hexDigitLower : ∀ d, d < 16 → hexVal? (hexDigitLower d) = some d := by decide

theorem parseDQBody_cons (b : UInt8) (rest : Bytes) :
    parseDQBody (b :: rest) =
    if b = 34 then some ([], rest)
    else if b = 92 then
      match rest with
      | [] => none
      | c :: r1 =>
        if c = 120 then
          match r1 with
          | x1 :: x2 :: r => escThen [x1, x2] (parseDQBody r)
          | _ => none
        else if c = 117 then
          match r1 with
          | x1 :: x2 :: x3 :: x4 :: r => escThen [x1, x2, x3, x4] (parseDQBody r)
          | _ => none
        else if c = 85 then
          match r1 with
          | x1 :: x2 :: x3 :: x4 :: x5 :: x6 :: x7 :: x8 :: r =>
            escThen [x1, x2, x3, x4, x5, x6, x7, x8] (parseDQBody r)
          | _ => none
        else
          match simpleEsc c, parseDQBody r1 with
          | some x, some p => some (x :: p.1, p.2)
          | _, _ => none
    else if b = 10 then none
    else
      match parseDQBody rest with
      | some p => some (b :: p.1, p.2)
      | none => none := by
  conv => lhs; unfold parseDQBody
  rfl

theorem parseDQBody_raw (bs tail : Bytes) (h : ∀ b ∈ bs, b ≠ 34 ∧ b ≠ 92 ∧ b ≠ 10) :
    parseDQBody (bs ++ tail) = (parseDQBody tail).map (fun p => (bs ++ p.1, p.2)) := by
  induction bs with
  | nil =>
    rw [List.nil_append]
    cases parseDQBody tail <;> rfl
  | cons b bs ih =>
    have hb := (List.forall_mem_cons.mp h).1
    rw [List.cons_append, parseDQBody_cons, if_neg hb.1, if_neg hb.2.1, if_neg hb.2.2,
      ih (List.forall_mem_cons.mp h).2]
    cases parseDQBody tail <;> rfl

theorem parseDQBody_simple (c x : UInt8) (tail : Bytes) (hs : simpleEsc c = some x)
    (h1 : c ≠ 120) (h2 : c ≠ 117) (h3 : c ≠ 85) :
    parseDQBody (92 :: c :: tail) = (parseDQBody tail).map (fun p => (x :: p.1, p.2)) := by
  rw [parseDQBody_cons, if_neg (by decide), if_pos rfl]
  simp only [if_neg h1, if_neg h2, if_neg h3, hs]
  cases parseDQBody tail <;> rfl

theorem escThen_hex (ds : List UInt8) (v : Nat) (tail : Option (Bytes × Bytes)) (hn : hexNum ds 0 = some v)
    (hv : escValue v = some (encodeCp v)) : escThen ds tail = tail.map (fun p => (encodeCp v ++ p.1, p.2)) := by
  rw [escThen, hn]
  simp only [hv]
  cases tail <;> rfl

theorem parseDQBody_x (cp : Nat) (tail : Bytes) (h : cp < 256) :
    parseDQBody ([92, 120, hexDigitLower (cp / 16 % 16), hexDigitLower (cp % 16)] ++ tail) =
      (parseDQBody tail).map (fun p => (encodeCp cp ++ p.1, p.2)) := by
  have hn : hexNum [hexDigitLower (cp / 16 % 16), hexDigitLower (cp % 16)] 0 = some cp := by
    unfold hexNum hexNum hexNum
    rw [hexVal_hexDigitLower _ (Nat.mod_lt _ (by omega)), hexVal_hexDigitLower _ (Nat.mod_lt _ (by omega))]
    show some ((0 * 16 + cp / 16 % 16) * 16 + cp % 16) = some cp
    rw [Nat.zero_mul, Nat.zero_add, Nat.mod_eq_of_lt (Nat.div_lt_of_lt_mul (show cp < 16 * 16 from h)), Nat.div_add_mod']
  have hv : escValue cp = some (encodeCp cp) := by
    rw [escValue, if_neg]
    simp only [Bool.or_eq_true, Bool.and_eq_true, decide_eq_true_eq]
    omega
  rw [List.cons_append, List.cons_append, parseDQBody_cons, if_neg (by decide), if_pos rfl]
  exact escThen_hex _ cp _ hn hv

theorem parseDQBody_feff (tail : Bytes) :
    parseDQBody (escapeSeq 0xFEFF ++ tail) = (parseDQBody tail).map (fun p => (encodeCp 0xFEFF ++ p.1, p.2)) := by
  rw [show escapeSeq 0xFEFF = [92, 117, 102, 101, 102, 102] by decide, List.cons_append, List.cons_append,
    parseDQBody_cons, if_neg (by decide), if_pos rfl]
  exact escThen_hex [102, 101, 102, 102] 0xFEFF _ (by decide) (by decide)

/-- one code point: what the escaper writes reads back as the code point's UTF-8 -/
theorem parseDQBody_escapeCp (cp : Nat) (tail : Bytes) :
    parseDQBody (escapeCp cp ++ tail) = (parseDQBody tail).map (fun p => (encodeCp cp ++ p.1, p.2)) := by
  have simple : ∀ (n : Nat) (c : UInt8), n ≤ 0x7F ∧ simpleEsc c = some (UInt8.ofNat n) ∧ c ≠ 120 ∧ c ≠ 117 ∧ c ≠ 85 →
      parseDQBody ([c_bslash, c] ++ tail) = (parseDQBody tail).map (fun p => (encodeCp n ++ p.1, p.2)) :=
    fun n c h => by rw [encodeCp_ascii n h.1]; exact parseDQBody_simple c _ tail h.2.1 h.2.2.1 h.2.2.2.1 h.2.2.2.2
  rw [escapeCp]
  by_cases c34 : cp = 34
  · rw [if_pos c34, c34]; exact simple 34 34 (by decide)
  rw [if_neg c34]
  by_cases c92 : cp = 92
  · rw [if_pos c92, c92]; exact simple 92 92 (by decide)
  rw [if_neg c92]
  by_cases c10 : cp = 10
  · rw [if_pos c10, c10]; exact simple 10 110 (by decide)
  rw [if_neg c10]
  by_cases c9 : cp = 9
  · rw [if_pos c9, c9]; exact simple 9 116 (by decide)
  rw [if_neg c9]
  by_cases c13 : cp = 13
  · rw [if_pos c13, c13]; exact simple 13 114 (by decide)
  rw [if_neg c13]
  by_cases c8 : cp = 8
  · rw [if_pos c8, c8]; exact simple 8 98 (by decide)
  rw [if_neg c8]
  by_cases c12 : cp = 12
  · rw [if_pos c12, c12]; exact simple 12 102 (by decide)
  rw [if_neg c12]
  by_cases cc : (decide (cp < 0x20) || (decide (0x80 ≤ cp) && decide (cp ≤ 0xA0))) = true
  · have hlt : cp < 0xFF := by
      simp only [Bool.or_eq_true, Bool.and_eq_true, decide_eq_true_eq] at cc; omega
    rw [if_pos cc, escapeSeq, if_pos hlt]
    exact parseDQBody_x cp tail (by omega)
  rw [if_neg cc]
  by_cases cf : cp = 0xFEFF
  · rw [if_pos cf, cf]; exact parseDQBody_feff tail
  · rw [if_neg cf]
    exact parseDQBody_raw _ _ fun b hb =>
      ⟨fun e => encodeCp_not_mem cp 34 (by decide) c34 (e ▸ hb), fun e => encodeCp_not_mem cp 92 (by decide) c92 (e ▸ hb),
        fun e => encodeCp_not_mem cp 10 (by decide) c10 (e ▸ hb)⟩

theorem parseDQBody_escapeAll (cps : List Nat) (rest : Bytes) :
    parseDQBody (escapeAll cps ++ 34 :: rest) = some (encodeAll cps, rest) := by
  induction cps with
  | nil => rw [escapeAll, List.nil_append, parseDQBody_cons, if_pos rfl]; rfl
  | cons cp cps ih => rw [escapeAll, List.append_assoc, parseDQBody_escapeCp, ih]; rfl

/-- whatever the bytes: the double-quoted form reads back as what yaml-cpp's code-point loop makes of them -/
theorem parseInline_emitDQ_sanitize (s rest : Bytes) : parseInline (emitDQ s ++ rest) = some (sanitize s, false, rest) := by
  rw [emitDQ, c_dquote, List.cons_append, List.append_assoc, parseInline]
  simp only [List.singleton_append, parseDQBody_escapeAll]
  rfl

theorem parseInline_emitDQ (s rest : Bytes) (h : IsText s) : parseInline (emitDQ s ++ rest) = some (s, false, rest) := by
  rw [parseInline_emitDQ_sanitize, sanitize_text s h]

end RimeModel.C18
