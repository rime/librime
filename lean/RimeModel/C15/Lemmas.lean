import RimeModel.C15.Model
/-!
C15 — specification vocabulary (`Lang`, `Open`, invariants) and the inductive-invariant lemmas behind
`RimeModel/Props/C15.lean`.  `ClientStep` / `WorkerStep` list the few forms a step of either thread
takes, as updates of the state; every invariant is shown to hold initially and to be preserved by
each of these forms, hence on all of `Reach` (any schedule, no preemption bound).
-/
namespace RimeModel.C15

/-! ### the notification grammar -/

/-- the language `(start (success|failure)+)*` over notification values -/
inductive Lang : List Note → Prop where
  | nil : Lang []
  | block {w : List Note} (r : Note) (rs : List Note) :
      Lang w → r ≠ .start → (∀ x ∈ rs, x ≠ Note.start) → Lang (w ++ .start :: r :: rs)

/-- a word of the language followed by `start` and zero or more results: a block still open -/
def Open (n : List Note) : Prop :=
  ∃ w rs, Lang w ∧ (∀ x ∈ rs, x ≠ Note.start) ∧ n = w ++ .start :: rs

theorem Open.of_lang {n : List Note} (h : Lang n) : Open (n ++ [.start]) :=
  ⟨n, [], h, by simp, rfl⟩

/-- a result notification keeps the block open and also completes a word -/
theorem Open.snoc {n : List Note} (h : Open n) {r : Note} (hr : r ≠ .start) :
    Open (n ++ [r]) ∧ Lang (n ++ [r]) := by
  obtain ⟨w, rs, hw, hrs, rfl⟩ := h
  have hrs' : ∀ x ∈ rs ++ [r], x ≠ .start := List.forall_mem_append.2 ⟨hrs, by simpa using hr⟩
  refine ⟨⟨w, rs ++ [r], hw, hrs', by simp⟩, ?_⟩
  cases rs with
  | nil => simpa using Lang.block r [] hw hr (by simp)
  | cons a rs =>
    simpa using Lang.block a (rs ++ [r]) hw (hrs' a (by simp)) (fun x hx => hrs' x (List.mem_cons_of_mem a hx))

/-- every word of the language, and every open block, extends to a word of the language -/
theorem Open.extends {n : List Note} (h : Open n) : ∃ rest, Lang (n ++ rest) :=
  ⟨[.success], (h.snoc (by decide)).2⟩

/-! ### invariants -/

/-- the task popped by `NextTask()` and not yet run -/
def State.inflight (s : State) : List Task :=
  match s.worker with
  | .running (.run t) _ => [t]
  | _ => []

/-- the worker is not going to look at the queue any more (no worker, or past its successful
`FinishWork()`) -/
def State.settled (s : State) : Bool :=
  match s.worker with
  | .running .exit _ => true
  | .running _ _ => false
  | _ => true

/-- `State.inflight` and `State.settled` read the worker alone; in this form `simp` carries them through
updates of the other fields -/
def Worker.inflight : Worker → List Task
  | .running (.run t) _ => [t]
  | _ => []

def Worker.settled : Worker → Bool
  | .running .exit _ => true
  | .running _ _ => false
  | _ => true

theorem State.inflight_eq (s : State) : s.inflight = s.worker.inflight := rfl
theorem State.settled_eq (s : State) : s.settled = s.worker.settled := rfl

/-- FIFO bookkeeping: what was scheduled = what ran ++ what is being run ++ what is queued, in this
order; ids are fresh -/
def InvQ (s : State) : Prop :=
  s.scheduled = s.ran ++ s.inflight ++ s.queue ∧ s.scheduled.map (·.id) = List.range s.nextId

/-- notification grammar, by worker position -/
def InvG (s : State) : Prop :=
  match s.worker with
  | .idle | .finished | .running .notifyStart _ => Lang s.sent
  | .running .next _ | .running (.run _) _ | .running .notifyResult _ => Open s.sent
  | .running .check _ | .running .exit _ => Open s.sent ∧ Lang s.sent

/-- the maintenance_mode argument the client is about to pass / has passed to `StartWork` -/
def CPc.mode : CPc → Bool
  | .boundary => true
  | .push _ m _ _ => m
  | .swEnter m _ _ => m
  | .swJoin _ _ => true
  | .swLaunch _ _ => true

/-- past the locked block of `StartWork`, which has stored the mode in `maintenance_mode_` -/
def CPc.isLaunch : CPc → Bool
  | .swJoin _ _ => true
  | .swLaunch _ _ => true
  | _ => false

/-- `working_` is true exactly from the locked block of `StartWork` until the worker's successful
`FinishWork()`; while the client sits between that block and the launch, the previous worker (if
any) is past its `FinishWork()` -/
def InvW (s : State) : Prop :=
  if s.cpc.isLaunch then s.wflag = true ∧ s.settled = true else (s.wflag = true ↔ s.settled = false)

/-- the maintenance flag cannot be changed under a work thread that still has work to look for:
from its launch until its successful `FinishWork()` the flag is the mode it was launched with
(`StartWork` only stores the mode when `working_` is false) -/
def InvF (s : State) : Prop := s.settled = false → s.flag = s.wmode

/-- nothing is left behind: between two API calls, when `working_` is false the queue is empty -/
def InvL (s : State) : Prop :=
  s.cpc = .boundary → s.wflag = false → s.queue = []

/-- the call passes `maintenance_mode = false` to `StartWork` -/
def Op.nonMaint : Op → Bool
  | .recover _ => true
  | .startDirect mode => !mode
  | _ => false

/-- the script never takes a non-maintenance `StartWork(false)` path (the recovery of
`UserDictionary::Load`, a direct `Deployer::StartWork()`) -/
def MaintOnly (script : List Op) : Prop := ∀ op ∈ script, op.nonMaint = false

/-- the script never removes the notification handler -/
def KeepsHandler (script : List Op) : Prop := ∀ op ∈ script, op ≠ Op.clearHandler

/-- the script never stops the service -/
def NoFinalize (script : List Op) : Prop := ∀ op ∈ script, op ≠ Op.finalize

/-- with a handler installed throughout, every notification sent was heard -/
def InvH (s : State) : Prop := s.handler = true ∧ s.notes = s.sent

/-- with API maintenance calls only, a worker only ever runs with the maintenance flag set -/
def InvM (s : State) : Prop :=
  s.cpc.mode = true ∧ (s.working = true → s.flag = true) ∧ (s.cpc.isLaunch = true → s.flag = true)

/-! ### the steps of the two threads by their effect on the state -/

/-- what a step of the client thread parked at a given point does to the state -/
inductive ClientStep (s : State) : CPc → State → Prop
  /-- an API call that returns from its first segment: it touches only what belongs to the client thread -/
  | ret : s.script = op :: rest →
      (op ≠ .finalize → s.started = true → st = true) →
      (op ≠ .clearHandler → s.handler = true → hd = true) →
      ClientStep s .boundary
        ({ s with script := rest, sessions := ss, started := st, handler := hd }.finishOp k v)
  /-- `join` and `finalize`, enabled when no worker is running, also reset `work_` -/
  | joined : s.script = op :: rest → s.working = false →
      (op ≠ .finalize → s.started = true → st = true) →
      ClientStep s .boundary
        ({ s with script := rest, sessions := ss, started := st, worker := .idle }.finishOp k v)
  /-- an API call that goes on to `ScheduleTask` × |os| and `StartWork(mode)` -/
  | enter (os : List Bool) (mode : Bool) : s.script = op :: rest → (mode = false → op.nonMaint = true) →
      ClientStep s .boundary { s with script := rest, sessions := ss, cpc := afterPush os mode k rk }
  | pushed : ClientStep s (.push [] mode k rk) { s with cpc := .swEnter mode k rk }
  | push (os : List Bool) :
      ClientStep s (.push (o :: os) mode k rk)
        { s with queue := s.queue ++ [⟨s.nextId, o⟩], nextId := s.nextId + 1,
                 log := s.log ++ [.sched ⟨s.nextId, o⟩], cpc := afterPush os mode k rk }
  | busy : s.wflag = true → ClientStep s (.swEnter mode k rk) (s.finishOp k (retVal rk false))
  | empty : s.wflag = false → s.queue = [] →
      ClientStep s (.swEnter mode k rk) ({ s with flag := mode }.finishOp k (retVal rk false))
  | claim : s.wflag = false → s.queue ≠ [] →
      ClientStep s (.swEnter mode k rk) { s with flag := mode, wflag := true, cpc := .swJoin k rk }
  | join : s.working = false →
      ClientStep s (.swJoin k rk) { s with worker := .idle, cpc := .swLaunch k rk }
  | launch :
      ClientStep s (.swLaunch k rk)
        ({ s with worker := .running .notifyStart false, wmode := s.flag }.finishOp k (retVal rk true))

theorem beginOp_shape {s s' : State} {op : Op} {rest : List Op} (hsc : s.script = op :: rest)
    (hs : beginOp s op rest = some s') : ClientStep s .boundary s' := by
  cases op with
  | maint os | maintQuick os | sync os => cases hs; exact .enter os true hsc (by simp)
  | startDirect mode => cases hs; exact .enter [] mode hsc (by simp [Op.nonMaint])
  | recover o =>
    simp only [beginOp] at hs
    split at hs
    · cases hs; exact .ret hsc (by simp) (by simp)
    · cases hs; exact .enter [o] false hsc (by simp [Op.nonMaint])
  | join | finalize =>
    simp only [beginOp] at hs
    split at hs
    · cases hs
    next hw => cases hs; exact .joined hsc (Bool.eq_false_iff.2 hw) (by simp)
  | destroy =>
    simp only [beginOp] at hs
    split at hs <;> cases hs <;> exact .ret hsc (by simp) (by simp)
  | _ => cases hs; exact .ret hsc (by simp) (by simp)

theorem clientStep_shape {s s' : State} (hs : clientStep s = some s') : ClientStep s s.cpc s' := by
  unfold clientStep at hs
  split at hs
  next hc =>
    rw [hc]
    split at hs
    · cases hs
    next hsc => exact beginOp_shape hsc hs
  next hc => rw [hc]; cases hs; exact .pushed
  next hc => rw [hc]; cases hs; exact .push _
  next hc =>
    rw [hc]
    split at hs
    next hw => cases hs; exact .busy hw
    next hw =>
      split at hs
      next hq => cases hs; exact .empty (Bool.eq_false_iff.2 hw) (List.isEmpty_iff.1 hq)
      next hq => cases hs; exact .claim (Bool.eq_false_iff.2 hw) (fun h => hq (List.isEmpty_iff.2 h))
  next hc =>
    rw [hc]
    split at hs
    · cases hs
    next hw => cases hs; exact .join (Bool.eq_false_iff.2 hw)
  next hc => rw [hc]; cases hs; exact .launch

/-- what a step of the work thread at a given point of `Deployer::Run` does to the state -/
inductive WorkerStep (s : State) : Worker → State → Prop
  | notifyStart :
      WorkerStep s (.running .notifyStart f)
        { s with worker := .running .next f, log := s.log ++ [.note .start s.handler] }
  | drained : s.queue = [] → WorkerStep s (.running .next f) { s with worker := .running .notifyResult f }
  | pop : s.queue = t :: q →
      WorkerStep s (.running .next f) { s with queue := q, worker := .running (.run t) f }
  | run :
      WorkerStep s (.running (.run t) f)
        { s with worker := .running .next (f || !t.ok), log := s.log ++ [.run t] }
  | notifyResult (f : Bool) :
      WorkerStep s (.running .notifyResult f)
        { s with worker := .running .check f,
                 log := s.log ++ [.note (if f then .failure else .success) s.handler] }
  | finish : s.queue = [] →
      WorkerStep s (.running .check f) { s with worker := .running .exit f, wflag := false }
  | again : s.queue = t :: q → WorkerStep s (.running .check f) { s with worker := .running .next f }
  | exit : WorkerStep s (.running .exit f) { s with worker := .finished, log := s.log ++ [.done] }

theorem workerStep_shape {s s' : State} (hs : workerStep s = some s') : WorkerStep s s.worker s' := by
  unfold workerStep at hs
  split at hs
  · cases hs
  · cases hs
  next hw => rw [hw]; cases hs; exact .notifyStart
  next hw =>
    rw [hw]
    split at hs
    next hq => cases hs; exact .drained hq
    next hq => cases hs; exact .pop hq
  next hw => rw [hw]; cases hs; exact .run
  next hw => rw [hw]; cases hs; exact .notifyResult _
  next hw =>
    rw [hw]
    split at hs
    next hq => cases hs; exact .finish hq
    next hq => cases hs; exact .again hq
  next hw => rw [hw]; cases hs; exact .exit

/-- an invariant that holds initially and is preserved by the steps of both threads holds on all of `Reach` -/
theorem Reach.induction {P : State → Prop} {s0 s : State} (h : Reach s0 s) (h0 : P s0)
    (hc : ∀ {s s' c}, Reach s0 s → P s → s.cpc = c → ClientStep s c s' → P s')
    (hw : ∀ {s s' w}, Reach s0 s → P s → s.worker = w → WorkerStep s w s' → P s') : P s := by
  induction h with
  | refl => exact h0
  | step t hr hs ih =>
    cases t with
    | client => exact hc hr ih rfl (clientStep_shape hs)
    | worker => exact hw hr ih rfl (workerStep_shape hs)

/-! ### what the invariants read of a state -/

@[simp] theorem Worker.working_idle : Worker.idle.working = false := rfl
@[simp] theorem Worker.working_running (pc : WPc) (f : Bool) : (Worker.running pc f).working = true := rfl
@[simp] theorem Worker.settled_idle : Worker.idle.settled = true := rfl
@[simp] theorem Worker.settled_notifyStart (f : Bool) : (Worker.running .notifyStart f).settled = false := rfl
@[simp] theorem Worker.inflight_idle : Worker.idle.inflight = [] := rfl
@[simp] theorem Worker.inflight_notifyStart (f : Bool) : (Worker.running .notifyStart f).inflight = [] := rfl

theorem Worker.settled_of_not_working {w : Worker} (h : w.working = false) : w.settled = true := by
  cases w <;> simp_all [Worker.settled]

theorem Worker.inflight_of_settled {w : Worker} (h : w.settled = true) : w.inflight = [] := by
  unfold Worker.settled at h
  unfold Worker.inflight
  split at h <;> simp_all

-- the preservation proofs are `simp` through the projections of the log and the readings of the worker
attribute [local simp] State.ran State.scheduled State.notes State.sent State.finishOp List.filterMap_cons
  State.inflight_eq State.settled_eq State.working Ev.task? Ev.sched? Ev.note? Ev.sent?

/-! ### preservation by every step of either thread -/

variable {s s' : State} {c : CPc} {w : Worker}

theorem InvW.launch (h : InvW s) (hc : s.cpc.isLaunch = true) : s.wflag = true ∧ s.settled = true :=
  (if_pos hc).mp h

theorem invQ_client (hw : InvW s) (h : InvQ s) (hc : s.cpc = c)
    (hs : ClientStep s c s') : InvQ s' := by
  cases hs with
  | push os =>
    -- the new task takes the next id and goes to the end of the queue
    obtain ⟨h1, h2⟩ := h
    simp at h1 h2
    exact ⟨by simp [h1], by simp [h2, List.range_succ]⟩
  | joined _ hnw | join hnw =>
    simpa [InvQ, Worker.inflight_of_settled (Worker.settled_of_not_working hnw)] using h
  | launch =>
    -- the worker replaced at the launch is settled (`InvW`): no popped task is lost with it
    simpa [InvQ, Worker.inflight_of_settled (hw.launch (congrArg CPc.isLaunch hc)).2] using h
  | _ => simpa [InvQ] using h

theorem invQ_worker (h : InvQ s) (hw : s.worker = w)
    (hs : WorkerStep s w s') : InvQ s' := by
  cases hs with
  | pop hq => simpa [InvQ, hw, hq, Worker.inflight] using h
  | _ => simpa [InvQ, hw, Worker.inflight] using h

theorem invW_client (h : InvW s) (hc : s.cpc = c)
    (hs : ClientStep s c s') : InvW s' := by
  cases hs with
  | joined hsc hnw =>
    simpa [InvW, hc, CPc.isLaunch, Worker.settled_of_not_working hnw] using h
  | enter os | push os => cases os <;> simpa [InvW, hc, CPc.isLaunch, afterPush] using h
  | claim hwf => simpa [InvW, hc, CPc.isLaunch, hwf] using h
  | join | launch => simp_all [InvW, CPc.isLaunch]
  | _ => simpa [InvW, hc, CPc.isLaunch] using h

theorem invW_worker (h : InvW s) (hw : s.worker = w)
    (hs : WorkerStep s w s') : InvW s' := by
  cases hs with
  | finish hq =>
    -- the client is not between the locked block of `StartWork` and the launch: there the worker is settled
    cases hl : s.cpc.isLaunch <;> simp_all [InvW, Worker.settled]
  | _ => simpa [InvW, hw, Worker.settled] using h

theorem invL_client (hw : InvW s) (h : InvL s) (hc : s.cpc = c)
    (hs : ClientStep s c s') : InvL s' := by
  cases hs with
  | ret | joined => simpa [InvL, hc] using h
  | enter os | push os => cases os <;> simp [InvL, afterPush]
  | busy hwf => simp [InvL, hwf]
  | empty hwf hq => simp [InvL, hq]
  | launch =>
    simp [InvL, (hw.launch (congrArg CPc.isLaunch hc)).1]
  | _ => simp [InvL]

theorem invL_worker (hi : InvW s) (h : InvL s) (hw : s.worker = w)
    (hs : WorkerStep s w s') : InvL s' := by
  cases hs with
  | pop hq =>
    -- with the client at the boundary `working_` is true, since the worker is about to look at the queue
    intro hc
    simp_all [InvW, CPc.isLaunch, Worker.settled]
  | finish hq => simp [InvL, hq]
  | _ => simpa [InvL] using h

theorem InvG.lang (h : InvG s) (hs : s.settled = true) : Lang s.sent := by
  unfold InvG at h
  unfold State.settled at hs
  split at h <;> simp_all

theorem InvG.lang_or_open (h : InvG s) : Lang s.sent ∨ Open s.sent := by
  unfold InvG at h
  split at h <;> simp_all

theorem invG_client (hw : InvW s) (h : InvG s) (hc : s.cpc = c)
    (hs : ClientStep s c s') : InvG s' := by
  cases hs with
  | joined _ hnw | join hnw => simpa [InvG] using h.lang (Worker.settled_of_not_working hnw)
  | launch =>
    simpa [InvG] using h.lang (hw.launch (congrArg CPc.isLaunch hc)).2
  | _ => simpa [InvG] using h

theorem invG_worker (h : InvG s) (hw : s.worker = w)
    (hs : WorkerStep s w s') : InvG s' := by
  cases hs with
  | notifyStart => simpa [InvG] using Open.of_lang (by simpa [InvG, hw] using h)
  | notifyResult f =>
    have h : Open s.sent := by simpa [InvG, hw] using h
    have hr : (if f then Note.failure else .success) ≠ .start := by cases f <;> decide
    simpa [InvG] using h.snoc hr
  | _ => simp_all [InvG]

theorem invF_client (hw : InvW s) (h : InvF s) (hc : s.cpc = c)
    (hs : ClientStep s c s') : InvF s' := by
  cases hs with
  | empty hwf | claim hwf =>
    -- the mode is stored with `working_` false, when (`InvW`) the worker is settled
    simp_all [InvW, InvF, CPc.isLaunch]
  | _ => simp_all [InvF]

theorem invF_worker (h : InvF s) (hw : s.worker = w)
    (hs : WorkerStep s w s') : InvF s' := by
  cases hs <;> simp_all [InvF, Worker.settled]

/-! ### the invariants hold on every reachable state -/

/-- the schedule-independent invariants together -/
structure Inv (s : State) : Prop where
  q : InvQ s
  g : InvG s
  w : InvW s
  l : InvL s
  f : InvF s

theorem inv_reach {script : List Op} {s : State} (h : Reach (init script) s) : Inv s := by
  refine h.induction ⟨?_, Lang.nil, ?_, ?_, ?_⟩ ?_ ?_
  · simp [InvQ, init, Worker.inflight]
  · simp [InvW, init, CPc.isLaunch]
  · simp [InvL, init]
  · simp [InvF, init]
  · intro s s' c _ ⟨hq, hg, hw, hl, hf⟩ hc hs
    exact ⟨invQ_client hw hq hc hs, invG_client hw hg hc hs, invW_client hw hc hs, invL_client hw hl hc hs,
      invF_client hw hf hc hs⟩
  · intro s s' w _ ⟨hq, hg, hi, hl, hf⟩ hw hs
    exact ⟨invQ_worker hq hw hs, invG_worker hg hw hs, invW_worker hi hw hs, invL_worker hi hl hw hs,
      invF_worker hf hw hs⟩

/-- the client only ever takes calls off the front of its script -/
theorem script_sub {script : List Op} {s : State} (h : Reach (init script) s) : ∀ op ∈ s.script, op ∈ script := by
  refine h.induction (P := fun s => ∀ op ∈ s.script, op ∈ script) (fun _ h => h) ?_ ?_
  · intro s s' c _ h _ hs
    cases hs with
    | ret hsc | joined hsc | enter _ _ hsc => exact fun op hop => h op (hsc ▸ List.mem_cons_of_mem _ hop)
    | _ => exact h
  · intro s s' w _ h _ hs
    cases hs <;> exact h

theorem invM_reach {script : List Op} (hm : MaintOnly script) {s : State}
    (h : Reach (init script) s) : InvM s := by
  refine h.induction ⟨rfl, by simp [init], by simp [init, CPc.isLaunch]⟩ ?_ ?_
  · intro s s' c hr h hc hs
    cases hs with
    | enter os mode hsc hmo =>
      have hop := hm _ (script_sub hr _ (hsc ▸ List.mem_cons_self))
      cases os <;> cases mode <;> simp_all [InvM, afterPush, CPc.mode, CPc.isLaunch]
    | push os => cases os <;> simp_all [InvM, afterPush, CPc.mode, CPc.isLaunch]
    | _ => simp_all [InvM, CPc.mode, CPc.isLaunch]
  · intro s s' w _ h hw hs
    cases hs <;> simp_all [InvM]

theorem invH_reach {script : List Op} (hk : KeepsHandler script) {s : State}
    (h : Reach (init script) s) : InvH s := by
  refine h.induction ⟨rfl, rfl⟩ ?_ ?_
  · intro s s' c hr h _ hs
    cases hs with
    | ret hsc _ hhd =>
      have := hhd (hk _ (script_sub hr _ (hsc ▸ List.mem_cons_self))) h.1
      simp_all [InvH]
    | _ => simpa [InvH] using h
  · intro s s' w _ h _ hs
    cases hs <;> simp_all [InvH]

/-- without `RimeFinalize` the service stays started -/
theorem started_reach {script : List Op} (hk : NoFinalize script) {s : State}
    (h : Reach (init script) s) : s.started = true := by
  refine h.induction (P := fun s => s.started = true) rfl ?_ ?_
  · intro s s' c hr h _ hs
    cases hs with
    | ret hsc hst | joined hsc _ hst => exact hst (hk _ (script_sub hr _ (hsc ▸ List.mem_cons_self))) h
    | _ => exact h
  · intro s s' w _ h _ hs
    cases hs <;> exact h

/-- a running worker can always take its next step -/
theorem worker_enabled {s : State} (h : s.working = true) : ∃ s', workerStep s = some s' := by
  unfold State.working at h
  unfold workerStep
  cases hw : s.worker with
  | idle => rw [hw] at h; cases h
  | finished => rw [hw] at h; cases h
  | running pc f =>
    cases pc with
    | next | check => cases s.queue <;> exact ⟨_, rfl⟩
    | _ => exact ⟨_, rfl⟩

/-- the client can take a step unless its script is finished or it waits for a running worker -/
theorem client_enabled {s : State} (h : s.working = false)
    (hc : s.script ≠ [] ∨ s.cpc ≠ .boundary) : ∃ s', clientStep s = some s' := by
  -- the calls that wait for the worker (`join`, `finalize`, the `JoinWorkThread()` of `StartWork`) find none running
  have hw : ∀ rest, ({ s with script := rest } : State).working = false := fun _ => h
  unfold clientStep
  cases hcpc : s.cpc with
  | boundary =>
    cases hsc : s.script with
    | nil => exact absurd hcpc (hc.resolve_left (· hsc))
    | cons op rest =>
      cases op with
      | recover o | join | finalize => simp only [beginOp, hw, Bool.false_eq_true, if_false]; exact ⟨_, rfl⟩
      | destroy => simp only [beginOp]; cases s.sessions <;> exact ⟨_, rfl⟩
      | _ => exact ⟨_, rfl⟩
  | push os mode k rk => cases os <;> exact ⟨_, rfl⟩
  | swEnter mode k rk =>
    show ∃ s', (if s.wflag = true then _ else if s.queue.isEmpty = true then _ else _) = some s'
    split
    · exact ⟨_, rfl⟩
    · split <;> exact ⟨_, rfl⟩
  | swJoin k rk => rw [h]; exact ⟨_, if_neg Bool.false_ne_true⟩
  | swLaunch k rk => exact ⟨_, rfl⟩

/-- a session call that `sessionOp` refuses keeps the sessions and reports 0 -/
theorem refused_call {s : State} {k : OpKind} (h : sessionOp s k = (s.sessions, 0)) :
    ({ s with sessions := (sessionOp s k).1 }.finishOp k (sessionOp s k).2).sessions = s.sessions ∧
    ({ s with sessions := (sessionOp s k).1 }.finishOp k (sessionOp s k).2).live = s.live ∧
    ∃ k', ({ s with sessions := (sessionOp s k).1 }.finishOp k (sessionOp s k).2).log = s.log ++ [.ret k' 0] := by
  rw [h]
  exact ⟨rfl, rfl, k, rfl⟩

theorem reach_of_runStrict {s0 s s' : State} (h : Reach s0 s) {l : List Tid}
    (hr : runStrict s l = some s') : Reach s0 s' := by
  induction l generalizing s with
  | nil => cases hr; exact h
  | cons t ts ih =>
    unfold runStrict at hr
    split at hr
    · cases hr
    next hs1 => exact ih (.step t h hs1) hr

end RimeModel.C15
