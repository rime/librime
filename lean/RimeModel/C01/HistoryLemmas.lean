import RimeModel.C01.History
/-!
Lemmas for `Props/C01History.lean`.  The body of the loop of `Push(composition, input)` is characterised by equations,
one per case.  From them: whatever the variant, an iteration keeps the list within its bound (`stepSeg_length_le`); in
the repaired code, started with the pointer null or at the last record, an iteration appends the text of its segment
behind the texts already there and leaves the pointer null or at the last record (`Emits`, `stepSeg_fixed`).
-/
namespace RimeModel.C01.History

theorem length_push (h : List Rec) (r : Rec) :
    (push h r).length = if h.length < maxRecords then h.length + 1 else h.length := by
  unfold push
  rw [apply_ite List.length, List.length_drop, List.length_append, List.length_singleton, Nat.add_sub_cancel]
  by_cases hl : h.length < maxRecords
  · rw [if_pos hl, if_neg (Nat.not_lt.mpr hl)]
  · rw [if_neg hl, if_pos (Nat.lt_succ_of_le (Nat.le_of_not_lt hl))]

theorem push_length_le (h : List Rec) (r : Rec) (hh : h.length ≤ maxRecords) : (push h r).length ≤ maxRecords := by
  rw [length_push]
  split
  · assumption
  · exact hh

theorem push_length_pos (h : List Rec) (r : Rec) : 0 < (push h r).length := by
  rw [length_push]
  split
  · exact Nat.succ_pos _
  · exact Nat.lt_of_lt_of_le (by decide : 0 < maxRecords) (Nat.le_of_not_lt ‹_›)

theorem push_of_lt {h : List Rec} (r : Rec) (hh : h.length < maxRecords) : push h r = h ++ [r] :=
  if_neg (by rw [List.length_append, List.length_singleton]; exact Nat.not_lt.mpr hh)

theorem St.push_recs (s : St) (r : Rec) : (s.push r).recs = History.push s.recs r := by
  unfold St.push History.push
  split <;> rfl

theorem St.push_last (s : St) (r : Rec) : (s.push r).last = s.last := by
  unfold St.push; split <;> rfl

theorem St.push_fault (s : St) (r : Rec) : (s.push r).fault = s.fault := by
  unfold St.push; split <;> rfl

theorem St.push_endPos (s : St) (r : Rec) : (s.push r).endPos = s.endPos := by
  unfold St.push; split <;> rfl

variable {fixed : Bool} {input : Bytes} {s s' : St} {g : SegV} {ty tx : Bytes} {e a b : Nat} {c : Bool}

theorem stepSeg_of_fault (g : SegV) (h : s.fault ≠ .none) : stepSeg fixed input s g = s :=
  if_neg h

theorem stepSeg_cand (hf : s.fault = .none) (hc : g.cand = some (ty, tx, e)) :
    stepSeg fixed input s g = candStep s ty tx e g.confirmed := by
  unfold stepSeg
  rw [if_pos hf, hc]

theorem stepSeg_raw (hf : s.fault = .none) (hc : g.cand = none) :
    stepSeg fixed input s g = rawStep fixed input s g.start g.stop := by
  unfold stepSeg
  rw [if_pos hf, hc]

theorem rawStep_of_gt (h : input.length < a) : rawStep fixed input s a b = { s with fault := .substrRange } :=
  if_pos h

theorem rawStep_of_le (h : a ≤ input.length) :
    rawStep fixed input s a b =
      { s with recs := push s.recs ⟨rawType, substr input a b⟩, dropped := (s.push ⟨rawType, substr input a b⟩).dropped,
               last := if fixed then none else s.last, endPos := b } := by
  unfold rawStep
  rw [if_neg (Nat.not_lt.mpr h), ← St.push_recs, ← s.push_fault ⟨rawType, substr input a b⟩]

theorem newRecStep_recs : (newRecStep s ty tx).recs = push s.recs ⟨ty, tx⟩ := by
  unfold newRecStep
  rw [St.push_recs]

theorem newRecStep_fault : (newRecStep s ty tx).fault = s.fault := by
  unfold newRecStep
  rw [St.push_fault]

/-- a join that happens appends to the record the pointer names, or finds that record destroyed -/
theorem joinStep_eq_some (h : joinStep s ty tx = some s') :
    ∃ i, s.last = some i ∧ s' = if s.alive i
      then { s with recs := s.recs.modify (i - s.dropped) (fun r => { r with text := r.text ++ tx }) }
      else { s with fault := .dangling } := by
  unfold joinStep at h
  split at h
  · rename_i i hl
    refine ⟨i, hl, ?_⟩
    by_cases ha : s.alive i = true
    · rw [if_pos ha] at h ⊢
      by_cases ht : (s.recs.getD (i - s.dropped) default).type = ty
      · rw [if_pos ht] at h
        exact (Option.some.inj h).symm
      · rw [if_neg ht] at h
        cases h
    · rw [if_neg ha] at h ⊢
      exact (Option.some.inj h).symm
  · cases h

theorem candStep_recs : (candStep s ty tx e c).recs = ((joinStep s ty tx).getD (newRecStep s ty tx)).recs :=
  (apply_ite St.recs ..).trans (ite_self _)

theorem stepSeg_length_le (h : s.recs.length ≤ maxRecords) : (stepSeg fixed input s g).recs.length ≤ maxRecords := by
  by_cases hf : s.fault = .none
  · cases hc : g.cand with
    | some c =>
      rw [stepSeg_cand hf hc, candStep_recs]
      cases hj : joinStep s c.1 c.2.1 with
      | some s' =>
        obtain ⟨i, -, rfl⟩ := joinStep_eq_some hj
        rw [Option.getD_some, apply_ite St.recs, apply_ite List.length, List.length_modify, ite_self]
        exact h
      | none =>
        rw [Option.getD_none, newRecStep_recs]
        exact push_length_le _ _ h
    | none =>
      rw [stepSeg_raw hf hc]
      by_cases ha : g.start ≤ input.length
      · rw [rawStep_of_le ha]
        exact push_length_le _ _ h
      · rw [rawStep_of_gt (Nat.lt_of_not_le ha)]
        exact h
  · rw [stepSeg_of_fault g hf]
    exact h

/-- the pointer, when set, names a record that is alive, and the last one -/
def Inv (s : St) : Prop := ∀ i, s.last = some i → s.alive i = true ∧ i - s.dropped + 1 = s.recs.length

theorem inv_of_backPos (t : St) (h : 0 < t.recs.length) : Inv { t with last := some t.backPos } := by
  intro i hi
  cases hi
  -- by hand: `omega` is slow on the truncated subtraction in `backPos`
  have hp : 0 < t.dropped + t.recs.length := Nat.add_pos_right _ h
  refine ⟨Bool.and_eq_true _ _ ▸ ⟨decide_eq_true (Nat.le_sub_one_of_lt (Nat.lt_add_of_pos_right h)),
    decide_eq_true (Nat.sub_lt hp Nat.one_pos)⟩, ?_⟩
  show t.dropped + t.recs.length - 1 - t.dropped + 1 = t.recs.length
  rw [Nat.sub_right_comm, Nat.add_sub_cancel_left, Nat.sub_add_cancel h]

theorem texts_append (l : List Rec) (r : Rec) : texts (l ++ [r]) = texts l ++ r.text := by
  simp [texts]

theorem texts_modify_last (l : List Rec) (tx : Bytes) {k : Nat} (hk : k + 1 = l.length) :
    texts (l.modify k (fun r => { r with text := r.text ++ tx })) = texts l ++ tx := by
  obtain ⟨l₁, a, l₂, rfl, hlen, hm⟩ :=
    List.exists_of_modify (l := l) (fun r => { r with text := r.text ++ tx }) (Nat.lt_of_succ_le (Nat.le_of_eq hk))
  have : l₂ = [] := by
    rw [List.length_append, List.length_cons, hlen] at hk
    exact List.eq_nil_of_length_eq_zero (Nat.succ.inj (Nat.add_left_cancel hk)).symm
  subst this
  rw [hm, texts_append, texts_append, List.append_assoc]

/-- `s'` is what the repaired code makes of `s` by a segment with text `tx` that ends at `e`; the last line as long as
the list does not rotate -/
structure Emits (s s' : St) (tx : Bytes) (e : Nat) : Prop where
  inv : Inv s'
  fault : s'.fault = .none
  endPos : s'.endPos = e
  spells : s.recs.length < maxRecords → texts s'.recs = texts s.recs ++ tx ∧ s'.recs.length ≤ s.recs.length + 1

theorem candStep_emits (hi : Inv s) (hf : s.fault = .none) : Emits s (candStep s ty tx e c) tx e := by
  -- the end of `candStep`, after the join or the new record has left `s1`
  have finish {s1 : St} (hi1 : Inv s1) (hf1 : s1.fault = .none)
      (ht : s.recs.length < maxRecords → texts s1.recs = texts s.recs ++ tx ∧ s1.recs.length ≤ s.recs.length + 1) :
      Emits s (if s1.fault = .none then { s1 with last := if c then none else s1.last, endPos := e } else s1) tx e := by
    rw [if_pos hf1]
    refine ⟨?_, hf1, rfl, ht⟩
    cases c
    · exact hi1
    · exact nofun
  unfold candStep
  cases hj : joinStep s ty tx with
  | some s' =>
    -- with the pointer at the last record the join never meets a destroyed record: it appends to the last record
    obtain ⟨i, hl, rfl⟩ := joinStep_eq_some hj
    rw [Option.getD_some, if_pos (hi i hl).1]
    refine finish (fun j hj => ?_) hf fun _ => ⟨texts_modify_last _ _ (hi i hl).2, ?_⟩
    · unfold St.alive
      rw [List.length_modify]
      exact hi j hj
    · rw [List.length_modify]
      exact Nat.le_succ _
  | none =>
    rw [Option.getD_none]
    refine finish (inv_of_backPos _ ?_) (newRecStep_fault.trans hf) fun hlt => ?_
    · rw [St.push_recs]
      exact push_length_pos ..
    · rw [newRecStep_recs, push_of_lt _ hlt, texts_append, List.length_append]
      exact ⟨rfl, Nat.le_refl _⟩

theorem rawStep_emits (hf : s.fault = .none) (ha : a ≤ input.length) :
    Emits s (rawStep true input s a b) (substr input a b) b := by
  rw [rawStep_of_le ha]
  refine ⟨nofun, hf, rfl, fun hlt => ?_⟩
  rw [push_of_lt _ hlt, texts_append, List.length_append]
  exact ⟨rfl, Nat.le_refl _⟩

theorem stepSeg_fixed (g : SegV) (acc : Bytes × Nat) (hi : Inv s) (hf : s.fault = .none) :
    (Inv (stepSeg true input s g) ∧ (stepSeg true input s g).fault = .substrRange) ∨
    ∃ tx e, cstep input acc g = (acc.1 ++ tx, e) ∧ Emits s (stepSeg true input s g) tx e := by
  cases hc : g.cand with
  | some c =>
    rw [stepSeg_cand hf hc]
    exact .inr ⟨c.2.1, c.2.2, by unfold cstep; rw [hc], candStep_emits hi hf⟩
  | none =>
    rw [stepSeg_raw hf hc]
    by_cases ha : g.start ≤ input.length
    · exact .inr ⟨_, _, by unfold cstep; rw [hc], rawStep_emits hf ha⟩
    · rw [rawStep_of_gt (Nat.lt_of_not_le ha)]
      exact .inl ⟨hi, rfl⟩

theorem foldl_fault_stays (segs : List SegV) (h : s.fault ≠ .none) : segs.foldl (stepSeg fixed input) s = s := by
  induction segs with
  | nil => rfl
  | cons g gs ih => rw [List.foldl_cons, stepSeg_of_fault g h, ih]

theorem foldl_spells {segs : List SegV} {base : Bytes} {acc : Bytes × Nat}
    (hok : (segs.foldl (stepSeg true input) s).fault = .none) (hi : Inv s) (hf : s.fault = .none)
    (hlen : s.recs.length + segs.length < maxRecords) (ht : texts s.recs = base ++ acc.1) (he : s.endPos = acc.2) :
    texts (segs.foldl (stepSeg true input) s).recs = base ++ (segs.foldl (cstep input) acc).1 ∧
    (segs.foldl (stepSeg true input) s).endPos = (segs.foldl (cstep input) acc).2 ∧
    (segs.foldl (stepSeg true input) s).recs.length < maxRecords := by
  induction segs generalizing s acc with
  | nil => exact ⟨ht, he, hlen⟩
  | cons g gs ih =>
    rw [List.foldl_cons] at hok ⊢
    rw [List.length_cons, ← Nat.add_assoc, Nat.add_right_comm] at hlen
    have hlt : s.recs.length < maxRecords :=
      Nat.lt_of_le_of_lt (Nat.le_add_right ..) (Nat.lt_of_le_of_lt (Nat.le_add_right ..) hlen)
    rcases stepSeg_fixed g acc hi hf with ⟨_, hs⟩ | ⟨tx, e, hcs, hem⟩
    · rw [foldl_fault_stays gs (by rw [hs]; decide), hs] at hok
      cases hok
    · rw [List.foldl_cons, hcs]
      obtain ⟨ht', hl'⟩ := hem.spells hlt
      exact ih hok hem.inv hem.fault (Nat.lt_of_le_of_lt (Nat.add_le_add_right hl' _) hlen)
        (by rw [ht', ht, List.append_assoc]) hem.endPos

theorem foldl_length_le (segs : List SegV) (h : s.recs.length ≤ maxRecords) :
    (segs.foldl (stepSeg fixed input) s).recs.length ≤ maxRecords :=
  List.foldlRecOn (motive := fun s : St => s.recs.length ≤ maxRecords) segs _ h fun _ hs _ _ => stepSeg_length_le hs

theorem foldl_fixed_inv (segs : List SegV) (h : Inv s ∧ s.fault ≠ .dangling) :
    Inv (segs.foldl (stepSeg true input) s) ∧ (segs.foldl (stepSeg true input) s).fault ≠ .dangling := by
  refine List.foldlRecOn (motive := fun s => Inv s ∧ s.fault ≠ .dangling) segs _ h fun s hs g _ => ?_
  by_cases hf : s.fault = .none
  · rcases stepSeg_fixed g ([], 0) hs.1 hf with ⟨hi, hf'⟩ | ⟨_, _, _, he⟩
    · exact ⟨hi, by rw [hf']; decide⟩
    · exact ⟨he.inv, by rw [he.fault]; decide⟩
  · rw [stepSeg_of_fault g hf]
    exact hs

theorem pushComposition_fault (fixed : Bool) (h : List Rec) (segs : List SegV) (input : Bytes) :
    (pushComposition fixed h segs input).fault =
      (segs.foldl (stepSeg fixed input) { recs := h, dropped := 0, last := none, endPos := 0, fault := .none }).fault :=
  (apply_ite St.fault ..).trans ((congrArg (ite _ · _) (St.push_fault ..)).trans (ite_self _))

end RimeModel.C01.History
