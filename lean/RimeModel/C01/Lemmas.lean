import RimeModel.C01.Model
/-! C01 — lemmas about the two API-boundary models: checked before used, and how often `freeObj` deletes an allocation. -/
namespace RimeModel.C01

/-- guards dominate uses ⇒ no null dereference, whatever is null -/
theorem guardedFrom_exec (nulls : List String) (evs : List Ev) (checked : List String)
    (hc : ∀ v ∈ checked, nulls.contains v = false) (hg : guardedFrom checked evs = true) (v : String) :
    exec nulls evs ≠ .nullDeref v := by
  induction evs generalizing checked with
  | nil => nofun
  | cons ev rest ih =>
    cases ev with
    | check x =>
      rw [exec]
      by_cases hx : nulls.contains x = true
      · rw [if_pos hx]
        nofun
      · rw [if_neg hx]
        exact ih (x :: checked) (fun w hw => (List.mem_cons.mp hw).elim (· ▸ Bool.eq_false_iff.mpr hx) (hc w)) hg
    | use x =>
      obtain ⟨hx, hg⟩ := Bool.and_eq_true_iff.mp hg
      rw [exec, if_neg (Bool.eq_false_iff.mp (hc x (List.contains_iff_mem.mp hx)))]
      exact ih checked hc hg

theorem count_filter_path (owned : List (String × Nat)) (e : String × Nat) (p : String) :
    List.count e (owned.filter (fun x => x.1 == p)) = if e.1 = p then List.count e owned else 0 := by
  split
  · exact List.count_filter (beq_iff_eq.mpr ‹_›)
  · exact List.count_eq_zero.mpr fun h => ‹¬ _› (beq_iff_eq.mp (List.mem_filter.mp h).2)

/-- count of an entry in the grouped-by-path flattening, for a duplicate-free path list -/
theorem count_grouped (owned : List (String × Nat)) (e : String × Nat) (D : List String) (hnd : D.Nodup) :
    List.count e (D.flatMap (fun p => owned.filter (fun x => x.1 == p))) =
      if e.1 ∈ D then List.count e owned else 0 := by
  induction D with
  | nil => rfl
  | cons p D ih =>
    obtain ⟨hp, hD⟩ := List.nodup_cons.mp hnd
    rw [List.flatMap_cons, List.count_append, ih hD, count_filter_path]
    by_cases hep : e.1 = p
    · rw [if_pos hep, if_neg (hep ▸ hp), if_pos (hep ▸ List.mem_cons_self), Nat.add_zero]
    · rw [if_neg hep, Nat.zero_add]
      by_cases hm : e.1 ∈ D
      · rw [if_pos hm, if_pos (List.mem_cons_of_mem _ hm)]
      · rw [if_neg hm, if_neg fun h => (List.mem_cons.mp h).elim hep hm]

end RimeModel.C01
