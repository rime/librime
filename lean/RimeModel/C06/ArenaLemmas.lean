import RimeModel.C06.Arena
/-! lemmas for M-arena -/
namespace RimeModel.Arena

/- With `m = n + al - 1` the rounded value is `m / al * al`, which lies in `(m - al, m]`. -/

theorem alignUp_le : ∀ (al n : Nat), alignUp al n ≤ n + (al - 1)
  | 0, n => Nat.le_trans (Nat.div_mul_le_self _ _) (Nat.sub_le n 1)
  | al + 1, n => Nat.div_mul_le_self (n + al) (al + 1)

theorem le_alignUp : ∀ (al n : Nat), 0 < al → n ≤ alignUp al n
  | al + 1, n, _ =>
    Nat.le_of_add_le_add_right (Nat.le_of_lt_succ (Nat.lt_div_mul_add (a := n + al) (Nat.succ_pos al)))

theorem alignUp_lt (al n : Nat) (h : 0 < al) : alignUp al n < n + al :=
  Nat.lt_of_le_of_lt (alignUp_le al n) (Nat.add_lt_add_left (Nat.sub_lt h Nat.one_pos) n)

theorem alignUp_dvd (al n : Nat) : al ∣ alignUp al n := Nat.dvd_mul_left _ _

theorem alignUp_of_dvd (al n : Nat) (h : 0 < al) (hd : al ∣ n) : alignUp al n = n := by
  obtain ⟨k, rfl⟩ := hd
  unfold alignUp
  rw [Nat.add_sub_assoc h, Nat.mul_add_div h, Nat.div_eq_of_lt (Nat.sub_lt h Nat.one_pos), Nat.add_zero, Nat.mul_comm]

theorem le_newCapacity (a : Arena) (need : Nat) : a.capacity ≤ newCapacity a need ∧ need ≤ newCapacity a need := by
  unfold newCapacity
  split
  · exact ⟨Nat.le_trans (Nat.le_mul_of_pos_left _ (by decide)) (Nat.le_max_right _ _), Nat.le_max_left _ _⟩
  · exact ⟨Nat.le_refl _, Nat.le_of_not_lt ‹_›⟩

section Patch
variable {α : Type} (g : List α) (u sz : Nat) (x : α)

theorem length_patch (h : u + sz ≤ g.length) :
    (g.take u ++ List.replicate sz x ++ g.drop (u + sz)).length = g.length := by
  rw [List.length_append, List.length_append, List.length_take, List.length_replicate, List.length_drop,
    Nat.min_eq_left (Nat.le_trans (Nat.le_add_right u sz) h), Nat.add_sub_cancel' h]

theorem getElem?_patch_below (h : u ≤ g.length) {i : Nat} (hi : i < u) :
    (g.take u ++ List.replicate sz x ++ g.drop (u + sz))[i]? = g[i]? := by
  rw [List.append_assoc, List.getElem?_append_left (by rw [List.length_take, Nat.min_eq_left h]; exact hi),
    List.getElem?_take_of_lt hi]

theorem getElem?_patch_block (h : u ≤ g.length) {i : Nat} (hi : i < sz) :
    (g.take u ++ List.replicate sz x ++ g.drop (u + sz))[u + i]? = some x := by
  have hl : (g.take u).length = u := by rw [List.length_take, Nat.min_eq_left h]
  rw [List.append_assoc, List.getElem?_append_right (by rw [hl]; exact Nat.le_add_right u i), hl, Nat.add_sub_cancel_left,
    List.getElem?_append_left (by rw [List.length_replicate]; exact hi), List.getElem?_replicate, if_pos hi]

end Patch

theorem grown_length (a : Arena) (hw : a.WF) (cap : Nat) (h : a.capacity ≤ cap) :
    (a.bytes ++ List.replicate (cap - a.capacity) 0).length = cap := by
  rw [List.length_append, List.length_replicate, hw.1, Nat.add_sub_cancel' h]

theorem allocate_bytes_length (a : Arena) (hw : a.WF) (al sz : Nat) :
    (allocate a al sz).1.bytes.length = (allocate a al sz).1.capacity := by
  have hc := le_newCapacity a (alignUp al a.size + sz)
  have hg := grown_length a hw _ hc.1
  exact (length_patch _ _ _ _ (by rw [hg]; exact hc.2)).trans hg

theorem allocate_get_below (a : Arena) (hw : a.WF) (al sz : Nat) (hal : 0 < al) (i : Nat) (hi : i < a.size) :
    (allocate a al sz).1.bytes[i]? = a.bytes[i]? := by
  have hc := le_newCapacity a (alignUp al a.size + sz)
  have hg := grown_length a hw _ hc.1
  exact (getElem?_patch_below _ _ _ _ (by rw [hg]; exact Nat.le_trans (Nat.le_add_right _ _) hc.2)
      (Nat.lt_of_lt_of_le hi (le_alignUp al a.size hal))).trans
    (List.getElem?_append_left (hw.1 ▸ Nat.lt_of_lt_of_le hi hw.2))

theorem allocate_get_block (a : Arena) (hw : a.WF) (al sz : Nat) (i : Nat) (hi : i < sz) :
    (allocate a al sz).1.bytes[(allocate a al sz).2 + i]? = some 0 := by
  have hc := le_newCapacity a (alignUp al a.size + sz)
  have hg := grown_length a hw _ hc.1
  exact getElem?_patch_block _ _ _ _ (by rw [hg]; exact Nat.le_trans (Nat.le_add_right _ _) hc.2) hi

theorem wrap32_of_fits (x : Int) (h : -(2 ^ 31 : Int) ≤ x ∧ x < 2 ^ 31) : wrap32 x = x := by
  unfold wrap32
  rw [Int.emod_eq_of_lt (by omega) (by omega), Int.add_sub_cancel]

end RimeModel.Arena
