import RimeModel.C06.TreeLemmas
import RimeModel.C06.Compile
/-! C06: collector invariants, id ↔ syllable round trip, the treatment of the rows -/
namespace RimeModel.C06

theorem mem_learn (z : Bytes) (syl code : List Bytes) : z ∈ learn syl code ↔ (z ∈ code ∨ z ∈ syl) :=
  foldl_insertSet_mem bytesLt_strict z code syl

theorem ascending_learn (syl code : List Bytes) (h : Ascending bytesLt syl) : Ascending bytesLt (learn syl code) :=
  foldl_insertSet_asc bytesLt_strict code syl h

def CollInv (c : Collector) : Prop :=
  Ascending bytesLt c.syllabary ∧ ∀ e ∈ c.entries, ∀ s ∈ e.code, s ∈ c.syllabary

theorem createEntry_cases (c : Collector) (r : RawRow) :
    (createEntry c r).syllabary = learn c.syllabary (tokens r.codeStr) ∧
    ((createEntry c r).entries = c.entries ∨ (createEntry c r).entries = c.entries ++ [toSRow r]) := by
  unfold createEntry
  dsimp only
  split
  · split
    · exact ⟨rfl, .inl rfl⟩
    · exact ⟨rfl, .inr rfl⟩
  · exact ⟨rfl, .inr rfl⟩

theorem collInv_createEntry (c : Collector) (r : RawRow) (h : CollInv c) : CollInv (createEntry c r) := by
  obtain ⟨hsyl, hent⟩ := createEntry_cases c r
  refine ⟨hsyl ▸ ascending_learn _ _ h.1, fun e he s hs => ?_⟩
  rw [hsyl, mem_learn]
  rcases hent with hent | hent
  · exact .inr (h.2 e (hent ▸ he) s hs)
  · rcases List.mem_append.mp (hent ▸ he) with he | he
    · exact .inr (h.2 e he s hs)
    · obtain rfl := List.mem_singleton.mp he
      exact .inl hs

theorem collInv_foldl (rows : List RawRow) (c : Collector) (h : CollInv c) : CollInv (rows.foldl collectRow c) := by
  refine List.foldlRecOn (motive := CollInv) rows collectRow h fun c hc r _ => ?_
  unfold collectRow
  split
  · exact hc
  · exact collInv_createEntry c r hc

theorem collInv_collect (rows : List RawRow) : CollInv (collect rows) :=
  collInv_foldl rows _ ⟨List.Pairwise.nil, fun _ h => nomatch h⟩

/-! ### packs: a fixed syllabary learns nothing -/

theorem learn_of_subset (syl : List Bytes) (h : Ascending bytesLt syl) (code : List Bytes)
    (hc : ∀ s ∈ code, s ∈ syl) : learn syl code = syl := by
  induction code with
  | nil => rfl
  | cons x xs ih =>
    rw [learn, List.foldl_cons, insertSet_of_mem bytesLt_strict x syl h (hc x List.mem_cons_self)]
    exact ih fun s hs => hc s (List.mem_cons_of_mem x hs)

theorem foldl_collectRow_fixed (syl : List Bytes) (h : Ascending bytesLt syl) (rows : List RawRow) (c : Collector)
    (hc : c.syllabary = syl) (hr : ∀ r ∈ rows, r.codeStr.isEmpty = true ∨ ∀ s ∈ tokens r.codeStr, s ∈ syl) :
    (rows.foldl collectRow c).syllabary = syl := by
  refine List.foldlRecOn (motive := fun c => c.syllabary = syl) rows collectRow hc fun c hc r hmem => ?_
  unfold collectRow
  split
  · exact hc
  · rw [(createEntry_cases c r).1, hc]
    exact learn_of_subset syl h _ ((hr r hmem).resolve_left ‹_›)

theorem collInv_collectPack (syl : List Bytes) (h : Ascending bytesLt syl) (rows : List RawRow) :
    CollInv (collectPack syl rows) :=
  collInv_foldl _ _ ⟨h, fun _ he => nomatch he⟩

theorem syllableId_lt {syl : List Bytes} {s : Bytes} (h : s ∈ syl) : syllableId syl s < syl.length :=
  List.idxOf_lt_length_of_mem h

theorem syllable_roundtrip {syl : List Bytes} {s : Bytes} (h : s ∈ syl) :
    syl.getD (syllableId syl s) [] = s :=
  (getD_of_lt (syllableId_lt h) []).trans (List.getElem_idxOf _)

theorem syllableId_inj {syl : List Bytes} {s t : Bytes} (hs : s ∈ syl) (ht : t ∈ syl)
    (h : syllableId syl s = syllableId syl t) : s = t := by
  rw [← syllable_roundtrip hs, ← syllable_roundtrip ht, h]

section
variable {W : Type}

theorem compileRows_valid (wt : Bytes → W) (c : Collector) (h : CollInv c) :
    ∀ r ∈ compileRows wt c, r.code ≠ [] ∧ r.code.getD 0 0 < c.syllabary.length := by
  intro r hr
  obtain ⟨e, he, rfl⟩ := List.mem_map.mp hr
  obtain ⟨he, hne⟩ := List.mem_filter.mp he
  cases hc : e.code with
  | nil => rw [hc] at hne; cases hne
  | cons a t => exact ⟨List.cons_ne_nil _ _, syllableId_lt (h.2 e he a (hc ▸ List.mem_cons_self))⟩

theorem decode_compileRows (wt : Bytes → W) (c : Collector) (h : CollInv c) :
    (compileRows wt c).map (decodeRow c.syllabary)
      = (c.entries.filter (fun r => !r.code.isEmpty)).map (sourceTriple wt) := by
  rw [compileRows, List.map_map]
  refine List.map_congr_left fun e he => ?_
  have hid : (e.code.map (syllableId c.syllabary)).map (fun i => c.syllabary.getD i []) = e.code := by
    rw [List.map_map]
    exact (List.map_congr_left fun s hs => syllable_roundtrip (h.2 e (List.mem_filter.mp he).1 s hs)).trans (List.map_id _)
  exact congrArg (fun x => (e.text, x, wt e.weightStr)) hid

/-- collector → ids → vocabulary → index → enumeration → syllables, for any collector whose syllabary is
ascending and holds every syllable of every entry: the enumeration of the compiled table, codes spelled out
again, is a permutation of the entries that have a code -/
theorem enumerate_compileTable (S : List (CRow W) → List (CRow W)) (hS : ∀ l, (S l).Perm l) (wt : Bytes → W)
    (c : Collector) (h : CollInv c) :
    ((enumerate (compileTable S wt c)).map (decodeRow c.syllabary)).Perm
      ((c.entries.filter (fun r => !r.code.isEmpty)).map (sourceTriple wt)) :=
  ((enumerate_perm S hS _ _ (compileRows_valid wt c h)).map _).trans (.of_eq (decode_compileRows wt c h))

end

theorem treatRaw_cases (seen : List (Bytes × Bytes)) (r : RawRow) (rs : List RawRow) :
    (treatRaw seen (r :: rs) = treatRaw seen rs ∧
      (r.codeStr.isEmpty = true ∨ ((tokens r.codeStr).length == 1) = true ∧ seen.contains (r.text, r.codeStr) = true)) ∨
    (treatRaw seen (r :: rs) = r :: treatRaw ((r.text, r.codeStr) :: seen) rs ∧
      r.codeStr.isEmpty = false ∧ ((tokens r.codeStr).length == 1) = true ∧ seen.contains (r.text, r.codeStr) = false) ∨
    (treatRaw seen (r :: rs) = r :: treatRaw seen rs ∧
      r.codeStr.isEmpty = false ∧ ((tokens r.codeStr).length == 1) = false) := by
  rw [treatRaw]
  cases h0 : r.codeStr.isEmpty
  · cases h1 : (tokens r.codeStr).length == 1
    · exact .inr (.inr ⟨rfl, rfl, rfl⟩)
    · cases h2 : seen.contains (r.text, r.codeStr)
      · exact .inr (.inl ⟨rfl, rfl, rfl, rfl⟩)
      · exact .inl ⟨rfl, .inr ⟨rfl, rfl⟩⟩
  · exact .inl ⟨rfl, .inl rfl⟩

theorem treatRaw_sublist (seen : List (Bytes × Bytes)) (rows : List RawRow) : (treatRaw seen rows).Sublist rows := by
  induction rows generalizing seen with
  | nil => exact List.Sublist.slnil
  | cons r rs ih =>
    rcases treatRaw_cases seen r rs with ⟨e, _⟩ | ⟨e, _⟩ | ⟨e, _⟩
    · exact e ▸ (ih seen).cons _
    · exact e ▸ (ih _).cons_cons _
    · exact e ▸ (ih seen).cons_cons _

/-- rows whose code is not a single syllable are all kept, in order -/
theorem treatRaw_keeps_phrases (seen : List (Bytes × Bytes)) (rows : List RawRow) :
    (treatRaw seen rows).filter (fun r => (tokens r.codeStr).length != 1)
      = rows.filter (fun r => !r.codeStr.isEmpty && (tokens r.codeStr).length != 1) := by
  induction rows generalizing seen with
  | nil => rfl
  | cons r rs ih =>
    rcases treatRaw_cases seen r rs with ⟨e, h0 | ⟨h1, _⟩⟩ | ⟨e, h0, h1, _⟩ | ⟨e, h0, h1⟩
    · rw [e, ih, List.filter_cons_of_neg]
      simp only [h0, Bool.not_true, Bool.false_and, Bool.false_eq_true, not_false_eq_true]
    · rw [e, ih, List.filter_cons_of_neg]
      simp only [bne, h1, Bool.not_true, Bool.and_false, Bool.false_eq_true, not_false_eq_true]
    · rw [e, List.filter_cons_of_neg, List.filter_cons_of_neg, ih]
      · simp only [bne, h1, Bool.not_true, Bool.and_false, Bool.false_eq_true, not_false_eq_true]
      · simp only [bne, h1, Bool.not_true, Bool.false_eq_true, not_false_eq_true]
    · rw [e, List.filter_cons_of_pos, List.filter_cons_of_pos, ih]
      · simp only [bne, h0, h1, Bool.not_false, Bool.and_true]
      · simp only [bne, h1, Bool.not_false]

theorem foldl_collectRow_entries (rows : List RawRow) (c : Collector) :
    (rows.foldl collectRow c).entries = c.entries ++ (treatRaw c.words rows).map toSRow := by
  induction rows generalizing c with
  | nil => exact (List.append_nil _).symm
  | cons r rs ih =>
    rw [List.foldl_cons, ih]
    rcases treatRaw_cases c.words r rs with ⟨e, h0 | ⟨h1, h2⟩⟩ | ⟨e, h0, h1, h2⟩ | ⟨e, h0, h1⟩
    · rw [e, collectRow, if_pos h0]
    · rw [e, collectRow]
      split
      · rfl
      · simp only [createEntry, h1, h2, if_true]
    · rw [e, collectRow, if_neg (h0 ▸ Bool.false_ne_true)]
      simp only [createEntry, h1, h2, if_true, Bool.false_eq_true, if_false, List.map_cons, toSRow,
        List.append_assoc, List.singleton_append]
    · rw [e, collectRow, if_neg (h0 ▸ Bool.false_ne_true)]
      simp only [createEntry, h1, Bool.false_eq_true, if_false, List.map_cons, toSRow,
        List.append_assoc, List.singleton_append]

/-- a one-syllable (text, code column) pair is kept exactly once — the first time — unless seen before;
`P` recognises the pair -/
theorem treatRaw_word_once (t cs : Bytes) (hcs : cs.isEmpty = false) (h1 : ((tokens cs).length == 1) = true)
    (P : RawRow → Bool) (hP : ∀ r, P r = true ↔ (r.text, r.codeStr) = (t, cs))
    (seen : List (Bytes × Bytes)) (rows : List RawRow) :
    ((treatRaw seen rows).filter P).length
      = if seen.contains (t, cs) = true then 0 else if rows.any P = true then 1 else 0 := by
  induction rows generalizing seen with
  | nil => rw [treatRaw, List.filter_nil, List.any_nil, if_neg Bool.false_ne_true, ite_self]; rfl
  | cons r rs ih =>
    by_cases hr : (r.text, r.codeStr) = (t, cs)
    · have hPr := (hP r).mpr hr
      obtain ⟨rfl, rfl⟩ := Prod.mk.inj hr
      rcases treatRaw_cases seen r rs with ⟨e, h | ⟨_, h⟩⟩ | ⟨e, _, _, h⟩ | ⟨e, _, h⟩
      · exact Bool.noConfusion (hcs.symm.trans h)
      · rw [e, ih, if_pos h, if_pos h]
      · rw [e, List.filter_cons_of_pos hPr, List.length_cons, ih, List.contains_cons, beq_self_eq_true, Bool.true_or,
          if_pos rfl, if_neg (h ▸ Bool.false_ne_true), List.any_cons, hPr, Bool.true_or, if_pos rfl]
      · exact Bool.noConfusion (h1.symm.trans h)
    · have hPr : ¬ P r = true := fun h => hr ((hP r).mp h)
      rw [List.any_cons, Bool.eq_false_iff.mpr hPr, Bool.false_or]
      rcases treatRaw_cases seen r rs with ⟨e, _⟩ | ⟨e, _⟩ | ⟨e, _⟩
      · rw [e, ih]
      · rw [e, List.filter_cons_of_neg hPr, ih, List.contains_cons, beq_eq_false_iff_ne.mpr (fun e => hr e.symm),
          Bool.false_or]
      · rw [e, List.filter_cons_of_neg hPr, ih]

end RimeModel.C06
