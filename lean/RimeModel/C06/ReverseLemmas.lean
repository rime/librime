import RimeModel.C06.Lemmas
import RimeModel.C06.Reverse
/-! C06: the reverse table holds, per text, exactly its one-syllable codes -/
namespace RimeModel.C06

theorem revSet_cons (t : Bytes) (set : List Bytes) (m : List (Bytes × List Bytes)) (text : Bytes) :
    revSet ((t, set) :: m) text = if t == text then set else revSet m text := by
  unfold revSet
  rw [List.find?_cons]
  cases t == text <;> rfl

theorem revSet_revInsert (t y text : Bytes) (m : List (Bytes × List Bytes)) :
    revSet (revInsert t y m) text = if t == text then insertSet bytesLt y (revSet m text) else revSet m text := by
  induction m with
  | nil => rw [revInsert, revSet_cons]; rfl
  | cons kv m ih =>
    obtain ⟨t', set⟩ := kv
    rw [revInsert]
    cases h1 : t' == t
    · rw [if_neg Bool.false_ne_true, revSet_cons, ih, revSet_cons]
      cases h2 : t' == text
      · rfl
      · have h3 : (t == text) = false := by rw [← eq_of_beq h2, BEq.comm]; exact h1
        rw [h3]
        rfl
    · obtain rfl := eq_of_beq h1
      rw [if_pos rfl, revSet_cons, revSet_cons]
      cases t' == text <;> rfl

theorem mem_revSet_foldl (text s : Bytes) (ps : List (Bytes × Bytes)) (m : List (Bytes × List Bytes)) :
    s ∈ revSet (ps.foldl (fun m p => revInsert p.1 p.2 m) m) text ↔ ((text, s) ∈ ps ∨ s ∈ revSet m text) := by
  induction ps generalizing m with
  | nil => simp
  | cons p ps ih =>
    obtain ⟨t, y⟩ := p
    rw [List.foldl_cons, ih, revSet_revInsert, List.mem_cons, Prod.mk.injEq]
    cases h : t == text
    · have hne : ¬ text = t := fun e => Bool.false_ne_true (h.symm.trans (beq_iff_eq.mpr e.symm))
      simp only [hne, false_and, false_or, Bool.false_eq_true, if_false]
    · rw [if_pos rfl, mem_insertSet bytesLt_strict, eq_of_beq h]
      simp only [true_and, or_assoc, or_left_comm]

theorem ascending_revSet_foldl (text : Bytes) (ps : List (Bytes × Bytes)) (m : List (Bytes × List Bytes))
    (h : Ascending bytesLt (revSet m text)) :
    Ascending bytesLt (revSet (ps.foldl (fun m p => revInsert p.1 p.2 m) m) text) := by
  refine List.foldlRecOn (motive := fun m => Ascending bytesLt (revSet m text)) ps _ h fun m hm p _ => ?_
  rw [revSet_revInsert]
  split
  · exact ascending_insertSet bytesLt_strict _ _ hm
  · exact hm

theorem mem_revPairs {W : Type} (syl : List Bytes) (rs : List (CRow W)) (text s : Bytes) :
    (text, s) ∈ revPairs syl rs ↔ ∃ i, syl[i]? = some s ∧ ∃ r ∈ rs, r.code = [i] ∧ r.text = text := by
  unfold revPairs
  simp only [List.mem_flatMap, List.mem_map, pageAt, List.mem_filter, beq_iff_eq, Prod.mk.injEq]
  constructor
  · rintro ⟨⟨s', i⟩, hsi, r, ⟨hr, hc⟩, ht, hs⟩
    have := List.mem_zipIdx_iff_getElem?.mp hsi
    simp only at this hs hc
    subst hs
    exact ⟨i, this, r, hr, hc, ht⟩
  · rintro ⟨i, hi, r, hr, hc, ht⟩
    exact ⟨(s, i), List.mem_zipIdx_iff_getElem?.mpr hi, r, ⟨hr, hc⟩, ht, rfl⟩

end RimeModel.C06
