import RimeModel.C06.TreeLemmas
/-! C06: what the walk shows of one code is its page, in page order -/
namespace RimeModel.C06

section Order
variable {W : Type}

/-- the entries of the enumeration that carry code `c`, in enumeration order -/
def filterCode (c : List Nat) (l : List (CRow W)) : List (CRow W) := l.filter (fun r => r.code == c)

/-- the vocabulary page all rows of code `c` are filed in -/
def pageOf (c : List Nat) (rs : List (CRow W)) : List (CRow W) :=
  if c.length ≤ indexDepth then pageAt c rs else pageBelow (c.take indexDepth) rs

theorem filterCode_nil {c : List Nat} {l : List (CRow W)} (h : ∀ r ∈ l, r.code ≠ c) : filterCode c l = [] :=
  List.filter_eq_nil_iff.mpr fun r hr => by simpa using h r hr

theorem filterCode_append (c : List Nat) (a b : List (CRow W)) :
    filterCode c (a ++ b) = filterCode c a ++ filterCode c b :=
  List.filter_append ..

theorem mem_enumD (S : List (CRow W) → List (CRow W)) (hS : ∀ l, (S l).Perm l) (rs : List (CRow W))
    (d : Nat) (p : List Nat) {r : CRow W} (h : r ∈ enumD S d p rs) : p <+: r.code ∧ r ∈ rs := by
  obtain ⟨h1, h2⟩ := List.mem_filter.mp ((enumD_perm S hS rs d p).mem_iff.mp h)
  exact ⟨List.isPrefixOf_iff_prefix.mp h2, h1⟩

theorem prefix_len_eq {p c : List Nat} (h : p <+: c) (hl : p.length = c.length) : p = c :=
  h.eq_of_length hl

theorem mem_childKeys_of_mem {rs : List (CRow W)} {c p : List Nat} {r : CRow W} (hr : r ∈ rs) (e : r.code = c) (hpc : p <+: c)
    (hlt : p.length < c.length) : c.getD p.length 0 ∈ childKeys p rs := by
  refine (mem_sortDedup natLt_strict _ _).mpr (List.mem_map.mpr ⟨r, List.mem_filter.mpr ⟨hr, ?_⟩, by rw [e]⟩)
  rw [e, Bool.and_eq_true, decide_eq_true_eq]
  exact ⟨List.isPrefixOf_iff_prefix.mpr hpc, hlt⟩

theorem mem_pageOf {rs : List (CRow W)} {c : List Nat} {r : CRow W} (h : r ∈ pageOf c rs) : r ∈ rs := by
  unfold pageOf at h
  split at h
  · exact (List.mem_filter.mp h).1
  · exact (List.mem_filter.mp h).1

variable (S : List (CRow W) → List (CRow W)) (hS : ∀ l, (S l).Perm l) (rs : List (CRow W))
include hS

theorem filterCode_pageAt_ne {c p : List Nat} (hc : c ≠ p) : filterCode c (S (pageAt p rs)) = [] :=
  filterCode_nil fun _ hr e =>
    hc (e ▸ eq_of_beq (List.mem_filter.mp ((mem_S S hS).mp hr)).2)

theorem filterCode_pageBelow_self (c : List Nat) : filterCode c (S (pageBelow c rs)) = [] :=
  filterCode_nil fun r hr e => by
    have h := (List.mem_filter.mp ((mem_S S hS).mp hr)).2
    rw [e, Bool.and_eq_true, decide_eq_true_eq] at h
    exact Nat.lt_irrefl _ h.2

theorem filterCode_children_self (c : List Nat) (d : Nat) :
    filterCode c ((childKeys c rs).flatMap fun k => enumD S d (c ++ [k]) rs) = [] :=
  filterCode_nil fun r hr e => by
    obtain ⟨k, _, hk⟩ := List.mem_flatMap.mp hr
    have h := (mem_enumD S hS rs d (c ++ [k]) hk).1.length_le
    rw [e, List.length_append] at h
    exact Nat.lt_irrefl _ h

theorem enumD_filterCode (c : List Nat) (d : Nat) (p : List Nat) (hlen : p.length + d = indexDepth) (hpc : p <+: c) :
    filterCode c (enumD S d p rs) = filterCode c (S (pageOf c rs)) := by
  induction d generalizing p with
  | zero =>
    rw [enumD, filterCode_append]
    by_cases hc : c = p
    · subst hc
      rw [filterCode_pageBelow_self S hS rs, List.append_nil, pageOf, if_pos (show c.length ≤ indexDepth from Nat.le_of_eq hlen)]
    · have hlt := prefix_ne_len hpc hc
      rw [filterCode_pageAt_ne S hS rs hc, List.nil_append, pageOf, if_neg (Nat.not_le.mpr (hlen ▸ hlt)),
        ← hlen, Nat.add_zero, ← List.prefix_iff_eq_take.mp hpc]
  | succ d ih =>
    rw [enumD, filterCode_append]
    by_cases hc : c = p
    · subst hc
      rw [filterCode_children_self S hS rs, List.append_nil, pageOf,
        if_pos (Nat.le_trans (Nat.le_add_right _ _) (Nat.le_of_eq hlen))]
    · have hlt := prefix_ne_len hpc hc
      rw [filterCode_pageAt_ne S hS rs hc, List.nil_append, filterCode, List.filter_flatMap]
      -- only the child at the next syllable of `c` has rows of code `c`
      rw [flatMap_single (fun k => (enumD S d (p ++ [k]) rs).filter (fun r : CRow W => r.code == c)) (c.getD p.length 0)
        (childKeys p rs) (nodup_sortDedup natLt_strict _) fun k _ hne => filterCode_nil (c := c) fun r hr e =>
          hne ((prefix_snoc_iff p c k).mp (e ▸ (mem_enumD S hS rs d (p ++ [k]) hr).1)).2.2.symm]
      split
      · exact ih (p ++ [c.getD p.length 0]) (by rw [List.length_append, ← hlen]; exact Nat.add_right_comm ..)
          ((prefix_snoc_iff p c _).mpr ⟨hpc, hlt, rfl⟩)
      · rename_i hk
        exact (filterCode_nil fun r hr e =>
          hk (mem_childKeys_of_mem (mem_pageOf ((mem_S S hS).mp hr)) e hpc hlt)).symm

omit hS in
theorem filterCode_pageOf (c : List Nat) : filterCode c (pageOf c rs) = filterCode c rs := by
  unfold filterCode pageOf
  split
  · rw [pageAt, List.filter_filter]
    exact List.filter_congr fun r _ => Bool.and_self _
  · rename_i h
    rw [pageBelow, List.filter_filter]
    refine List.filter_congr fun r _ => ?_
    cases e : r.code == c
    · rfl
    · rw [eq_of_beq e, Bool.true_and, Bool.and_eq_true, decide_eq_true_eq, List.length_take]
      exact ⟨List.isPrefixOf_iff_prefix.mpr (List.take_prefix _ _),
        Nat.lt_of_le_of_lt (Nat.min_le_left _ _) (Nat.not_le.mp h)⟩

end Order
end RimeModel.C06
