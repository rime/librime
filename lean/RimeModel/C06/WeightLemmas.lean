import RimeModel.C06.Weight
/-! C06: the exact order on weights is a total preorder -/
namespace RimeModel.C06

theorem Wt.frac_den_pos (a : Wt) (h : a ≠ .inf) : 0 < a.frac.2 := by
  cases a with
  | eps => exact Nat.two_pow_pos 52
  | inf => exact absurd rfl h
  | pos m e =>
    rw [Wt.frac]
    split
    · exact Nat.one_pos
    · exact Nat.pow_pos (by decide)

theorem Wt.le_inf (a : Wt) : Wt.le a .inf = true := by
  cases a <;> rfl

theorem Wt.eq_inf_of_inf_le {b : Wt} (h : Wt.le .inf b = true) : b = .inf := by
  cases b
  · cases h
  · cases h
  · rfl

theorem Wt.le_fin (a b : Wt) (ha : a ≠ .inf) (hb : b ≠ .inf) :
    Wt.le a b = decide (a.frac.1 * b.frac.2 ≤ b.frac.1 * a.frac.2) := by
  cases a <;> cases b <;> first | rfl | exact absurd rfl ha | exact absurd rfl hb

theorem Wt.le_total (a b : Wt) : (Wt.le a b || Wt.le b a) = true := by
  by_cases hb : b = .inf
  · rw [hb, Wt.le_inf]
    rfl
  · by_cases ha : a = .inf
    · rw [ha, Wt.le_inf, Bool.or_true]
    · rw [Wt.le_fin a b ha hb, Wt.le_fin b a hb ha, Bool.or_eq_true, decide_eq_true_eq, decide_eq_true_eq]
      exact Nat.le_total _ _

theorem frac_le_trans (n1 d1 n2 d2 n3 d3 : Nat) (h2 : 0 < d2)
    (h12 : n1 * d2 ≤ n2 * d1) (h23 : n2 * d3 ≤ n3 * d2) : n1 * d3 ≤ n3 * d1 := by
  apply Nat.le_of_mul_le_mul_right (c := d2) _ h2
  calc n1 * d3 * d2 = n1 * d2 * d3 := Nat.mul_right_comm ..
    _ ≤ n2 * d1 * d3 := Nat.mul_le_mul_right _ h12
    _ = n2 * d3 * d1 := Nat.mul_right_comm ..
    _ ≤ n3 * d2 * d1 := Nat.mul_le_mul_right _ h23
    _ = n3 * d1 * d2 := Nat.mul_right_comm ..

theorem Wt.le_trans (a b c : Wt) (h1 : Wt.le a b = true) (h2 : Wt.le b c = true) : Wt.le a c = true := by
  by_cases hc : c = .inf
  · rw [hc, Wt.le_inf]
  · have hb : b ≠ .inf := fun e => hc (Wt.eq_inf_of_inf_le (e ▸ h2))
    have ha : a ≠ .inf := fun e => hb (Wt.eq_inf_of_inf_le (e ▸ h1))
    rw [Wt.le_fin a b ha hb, decide_eq_true_eq] at h1
    rw [Wt.le_fin b c hb hc, decide_eq_true_eq] at h2
    rw [Wt.le_fin a c ha hc, decide_eq_true_eq]
    exact frac_le_trans _ _ _ _ _ _ (Wt.frac_den_pos b hb) h1 h2

end RimeModel.C06
