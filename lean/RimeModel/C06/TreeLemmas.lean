import RimeModel.C06.EnumLemmas
/-! C06: the enumeration of the built `Tree` is `enumD` -/
namespace RimeModel.C06

section TreeEnum
variable {W : Type}

theorem mem_itemsOf {p : List Nat} {es : List (Entry W)} {i : Item W} (h : i ∈ itemsOf p es) :
    i.index = p ∧ i.extra = [] := by
  obtain ⟨e, _, rfl⟩ := List.mem_map.mp h
  exact ⟨rfl, rfl⟩

theorem mem_longItemsOf {p : List Nat} {es : List (LongEntry W)} {i : Item W} (h : i ∈ longItemsOf p es) :
    i.index = p := by
  obtain ⟨e, _, rfl⟩ := List.mem_map.mp h
  rfl

theorem mem_enum3 {p : List Nat} {ns : List (Node3 W)} {i : Item W} (h : i ∈ enum3 p ns) :
    i.index.length = p.length + 1 := by
  obtain ⟨n, _, h⟩ := List.mem_flatMap.mp h
  rcases List.mem_append.mp h with h | h
  · rw [(mem_itemsOf h).1, List.length_append]; rfl
  · split at h
    · cases h
    · rw [mem_longItemsOf h, List.length_append]; rfl

theorem mem_enum2 {p : List Nat} {ns : List (Node2 W)} {i : Item W} (h : i ∈ enum2 p ns) :
    i.index.length ≤ p.length + 2 ∧ (i.extra ≠ [] → i.index.length = p.length + 2) := by
  obtain ⟨n, _, h⟩ := List.mem_flatMap.mp h
  rcases List.mem_append.mp h with h | h
  · have hi := mem_itemsOf h
    exact ⟨by rw [hi.1, List.length_append]; exact Nat.le_succ _, fun hne => absurd hi.2 hne⟩
  · split at h
    · cases h
    · have hi := mem_enum3 h
      rw [List.length_append] at hi
      exact ⟨Nat.le_of_eq hi, fun _ => hi⟩

theorem mem_enumNode1 {s : Nat} {n : Node1 W} {i : Item W} (h : i ∈ enumNode1 s n) :
    i.index.length ≤ indexDepth ∧ (i.extra ≠ [] → i.index.length = indexDepth) := by
  rcases List.mem_append.mp h with h | h
  · have hi := mem_itemsOf h
    exact ⟨by rw [hi.1]; exact (by decide : 1 ≤ indexDepth), fun hne => absurd hi.2 hne⟩
  · split at h
    · cases h
    · exact mem_enum2 h

theorem mem_enumHead {i : Item W} (s : Nat) (ns : List (Node1 W)) (h : i ∈ enumHead s ns) :
    i.index.length ≤ indexDepth ∧ (i.extra ≠ [] → i.index.length = indexDepth) := by
  induction ns generalizing s with
  | nil => cases h
  | cons n ns ih => exact (List.mem_append.mp h).elim mem_enumNode1 (ih (s + 1))

theorem build2_keys (S : List (CRow W) → List (CRow W)) (p : List Nat) (rs : List (CRow W)) :
    (build2 S p rs).map (·.key) = childKeys p rs := by
  rw [build2, List.map_map]
  exact List.map_id _

theorem build3_keys (S : List (CRow W) → List (CRow W)) (p : List Nat) (rs : List (CRow W)) :
    (build3 S p rs).map (·.key) = childKeys p rs := by
  rw [build3, List.map_map]
  exact List.map_id _

theorem childKeys_nil_of_below_nil (p : List Nat) (rs : List (CRow W)) (h : pageBelow p rs = []) :
    childKeys p rs = [] := by
  simp [childKeys, h, sortDedup]

theorem enumHead_range' (f : Nat → Node1 W) (n a : Nat) :
    enumHead a ((List.range' a n).map f) = (List.range' a n).flatMap (fun s => enumNode1 s (f s)) := by
  induction n generalizing a with
  | zero => rfl
  | succ n ih => rw [List.range'_succ, List.map_cons, enumHead, List.flatMap_cons, ih]

variable (S : List (CRow W) → List (CRow W)) (hS : ∀ l, (S l).Perm l)
include hS

theorem mem_S {r : CRow W} {l : List (CRow W)} : r ∈ S l ↔ r ∈ l :=
  (hS l).mem_iff

theorem rows_itemsOf (p : List Nat) (rs : List (CRow W)) :
    (itemsOf p ((S (pageAt p rs)).map toEntry)).map Item.row = S (pageAt p rs) := by
  rw [itemsOf, List.map_map, List.map_map]
  refine (List.map_congr_left fun r hr => ?_).trans (List.map_id _)
  have hc : r.code = p := eq_of_beq (List.mem_filter.mp ((mem_S S hS).mp hr)).2
  show (⟨p ++ [], r.text, r.weight⟩ : CRow W) = r
  rw [List.append_nil, ← hc]

theorem rows_longItemsOf (p : List Nat) (hp : p.length = indexDepth) (rs : List (CRow W)) :
    (longItemsOf p ((S (pageBelow p rs)).map toLong)).map Item.row = S (pageBelow p rs) := by
  rw [longItemsOf, List.map_map, List.map_map]
  refine (List.map_congr_left fun r hr => ?_).trans (List.map_id _)
  have hpre := List.prefix_iff_eq_take.mp (List.isPrefixOf_iff_prefix.mp
    (Bool.and_eq_true_iff.mp (List.mem_filter.mp ((mem_S S hS).mp hr)).2).1)
  show (⟨p ++ r.code.drop indexDepth, r.text, r.weight⟩ : CRow W) = r
  rw [← hp, hpre, List.length_take_of_le (hpre ▸ List.length_take_le' ..), List.take_append_drop]

/-- what a built node shows; `f` is the walk's match on the node's next level -/
theorem rows_node (q : List Nat) (rs : List (CRow W)) {α : Type} (x : α) (f : Option α → List (Item W)) (ys : List (CRow W))
    (hnone : f none = []) (hnil : pageBelow q rs = [] → ys = []) (hsome : (f (some x)).map Item.row = ys) :
    (itemsOf q ((S (pageAt q rs)).map toEntry) ++ f (if (pageBelow q rs).isEmpty then none else some x)).map Item.row
      = S (pageAt q rs) ++ ys := by
  rw [List.map_append, rows_itemsOf S hS]
  congr 1
  split
  · rw [hnone, hnil (List.isEmpty_iff.mp ‹_›)]
    rfl
  · exact hsome

theorem rows_enum3 (p : List Nat) (hp : p.length + 1 = indexDepth) (rs : List (CRow W)) :
    (enum3 p (build3 S p rs)).map Item.row = (childKeys p rs).flatMap (fun k => enumD S 0 (p ++ [k]) rs) := by
  rw [enum3, build3, List.flatMap_map, List.map_flatMap]
  refine flatMap_congr' _ fun k _ => ?_
  exact rows_node S hS (p ++ [k]) rs _ (fun o => match o with | none => [] | some t => longItemsOf (p ++ [k]) t) _ rfl
    (fun h => h ▸ (hS []).eq_nil) (rows_longItemsOf S hS (p ++ [k]) (by rw [List.length_append]; exact hp) rs)

theorem rows_enum2 (p : List Nat) (hp : p.length + 2 = indexDepth) (rs : List (CRow W)) :
    (enum2 p (build2 S p rs)).map Item.row = (childKeys p rs).flatMap (fun k => enumD S 1 (p ++ [k]) rs) := by
  rw [enum2, build2, List.flatMap_map, List.map_flatMap]
  refine flatMap_congr' _ fun k _ => ?_
  exact rows_node S hS (p ++ [k]) rs _ (fun o => match o with | none => [] | some t => enum3 (p ++ [k]) t) _ rfl
    (fun h => by rw [childKeys_nil_of_below_nil _ _ h]; rfl)
    (rows_enum3 S hS (p ++ [k]) (by rw [List.length_append]; exact hp) rs)

theorem rows_enumerate (n : Nat) (rs : List (CRow W)) :
    enumerate (build S n rs) = (List.range n).flatMap (fun s => enumD S 2 [s] rs) := by
  rw [enumerate, enumerateRaw, build, List.range_eq_range', enumHead_range', List.map_flatMap]
  refine flatMap_congr' _ fun s _ => ?_
  exact rows_node S hS [s] rs _ (fun o => match o with | none => [] | some t => enum2 [s] t) _ rfl
    (fun h => by rw [childKeys_nil_of_below_nil _ _ h]; rfl) (rows_enum2 S hS [s] rfl rs)

/-- nothing lost, nothing invented, nothing attached to another code: the enumeration of the built index is a
permutation of the builder's rows, provided every row has a code the head index can hold -/
theorem enumerate_perm (n : Nat) (rs : List (CRow W)) (hv : ∀ r ∈ rs, r.code ≠ [] ∧ r.code.getD 0 0 < n) :
    (enumerate (build S n rs)).Perm rs := by
  rw [rows_enumerate S hS]
  exact (flatMap_perm_congr _ fun s _ => enumD_perm S hS rs 2 [s]).trans (head_split n rs hv)

end TreeEnum
end RimeModel.C06
