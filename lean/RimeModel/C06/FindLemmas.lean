import RimeModel.C06.Lemmas
import RimeModel.C06.Table
/-! C06: `find_node` on ascending keys -/
namespace RimeModel.C06

theorem asc_getD_lt {ks : List Nat} (hs : Ascending natLt ks) {i j : Nat} (hij : i < j) (hj : j < ks.length) :
    ks.getD i 0 < ks.getD j 0 := by
  rw [getD_of_lt (Nat.lt_trans hij hj), getD_of_lt hj]
  exact of_decide_eq_true (List.pairwise_iff_getElem.mp hs i j _ hj hij)

theorem asc_getD_le {ks : List Nat} (hs : Ascending natLt ks) {i j : Nat} (hij : i ≤ j) (hj : j < ks.length) :
    ks.getD i 0 ≤ ks.getD j 0 := by
  rcases Nat.lt_or_eq_of_le hij with h | rfl
  · exact Nat.le_of_lt (asc_getD_lt hs h hj)
  · exact Nat.le_refl _

/-- `r` is the `lower_bound` of `key` in the window `[lo, lo + len)` of `ks` -/
structure IsLowerBound (ks : List Nat) (key lo len r : Nat) : Prop where
  ge : lo ≤ r
  le : r ≤ lo + len
  before : ∀ j, lo ≤ j → j < r → ks.getD j 0 < key
  here : r < lo + len → key ≤ ks.getD r 0

theorem isLowerBound_empty (ks : List Nat) (key lo : Nat) : IsLowerBound ks key lo 0 lo :=
  ⟨Nat.le_refl _, Nat.le_refl _, fun _ h1 h2 => absurd h2 (Nat.not_lt.mpr h1), fun h => absurd h (Nat.lt_irrefl _)⟩

theorem window_right {lo len half : Nat} (hh : half < len) : lo + half + 1 + (len - half - 1) = lo + len := by
  rw [Nat.sub_sub, Nat.add_assoc lo, Nat.add_assoc lo, Nat.add_sub_cancel' (Nat.succ_le_of_lt hh)]

theorem IsLowerBound.of_right {ks : List Nat} {key lo len half r : Nat} (hs : Ascending natLt ks)
    (hb : lo + len ≤ ks.length) (hh : half < len) (hm : ks.getD (lo + half) 0 < key)
    (h : IsLowerBound ks key (lo + half + 1) (len - half - 1) r) : IsLowerBound ks key lo len r := by
  have hend := window_right (lo := lo) hh
  refine ⟨Nat.le_trans (Nat.le_add_right lo (half + 1)) h.ge, hend ▸ h.le, fun j _ hj => ?_, fun hr => h.here (hend ▸ hr)⟩
  rcases Nat.lt_or_ge (lo + half) j with hjm | hjm
  · exact h.before j hjm hj
  · exact Nat.lt_of_le_of_lt (asc_getD_le hs hjm (Nat.lt_of_lt_of_le (Nat.add_lt_add_left hh lo) hb)) hm

theorem IsLowerBound.of_left {ks : List Nat} {key lo len half r : Nat} (hh : half < len)
    (hm : ¬ ks.getD (lo + half) 0 < key) (h : IsLowerBound ks key lo half r) : IsLowerBound ks key lo len r := by
  refine ⟨h.ge, Nat.le_trans h.le (Nat.add_le_add_left (Nat.le_of_lt hh) lo), h.before, fun _ => ?_⟩
  rcases Nat.lt_or_eq_of_le h.le with hr | hr
  · exact h.here hr
  · rw [hr]; exact Nat.le_of_not_lt hm

theorem lowerBound_spec (ks : List Nat) (key : Nat) (hs : Ascending natLt ks) (fuel lo len : Nat)
    (hf : len ≤ fuel) (hb : lo + len ≤ ks.length) : IsLowerBound ks key lo len (lowerBound ks key fuel lo len) := by
  induction fuel generalizing lo len with
  | zero =>
    rw [Nat.le_zero.mp hf]
    exact isLowerBound_empty ks key lo
  | succ fuel ih =>
    rw [lowerBound]
    by_cases h0 : len = 0
    · rw [h0]
      exact isLowerBound_empty ks key lo
    · have hh : len / 2 < len := Nat.div_lt_self (Nat.pos_of_ne_zero h0) (by decide)
      rw [if_neg (by simpa using h0)]
      dsimp only
      split
      · exact .of_right hs hb hh ‹_› (ih _ _ (Nat.le_trans (Nat.sub_le_sub_right (Nat.sub_le _ _) 1) (Nat.sub_le_of_le_add hf))
          (Nat.le_trans (Nat.le_of_eq (window_right hh)) hb))
      · exact .of_left hh ‹_› (ih _ _ (Nat.le_of_lt_succ (Nat.lt_of_lt_of_le hh hf))
          (Nat.le_trans (Nat.add_le_add_left (Nat.le_of_lt hh) lo) hb))

theorem findNode_iff (ks : List Nat) (key : Nat) (hs : Ascending natLt ks) (i : Nat) :
    findNode ks key = some i ↔ (i < ks.length ∧ ks.getD i 0 = key) := by
  have sp := lowerBound_spec ks key hs ks.length 0 ks.length (Nat.le_refl _) (Nat.le_of_eq (Nat.zero_add _))
  unfold findNode
  generalize lowerBound ks key ks.length 0 ks.length = r at sp
  have hle : r ≤ ks.length := Nat.le_trans sp.le (Nat.le_of_eq (Nat.zero_add _))
  have hhere : r < ks.length → key ≤ ks.getD r 0 := fun h => sp.here (Nat.lt_of_lt_of_eq h (Nat.zero_add _).symm)
  dsimp only
  constructor
  · intro h
    split at h
    · cases h
    · rename_i hc
      cases h
      rw [Bool.or_eq_true, not_or, beq_iff_eq, decide_eq_true_eq] at hc
      have hl : i < ks.length := Nat.lt_of_le_of_ne hle hc.1
      exact ⟨hl, Nat.le_antisymm (Nat.le_of_not_lt hc.2) (hhere hl)⟩
  · rintro ⟨hi, rfl⟩
    -- the key is not before `r`, and no key after `r` equals the one at `r`
    have h1 : r ≤ i := Nat.le_of_not_lt fun h => Nat.lt_irrefl _ (sp.before i (Nat.zero_le _) h)
    have h2 : i ≤ r := Nat.le_of_not_lt fun h =>
      Nat.lt_irrefl _ (Nat.lt_of_le_of_lt (hhere (Nat.lt_trans h hi)) (asc_getD_lt hs h hi))
    obtain rfl := Nat.le_antisymm h1 h2
    rw [if_neg]
    rw [Bool.or_eq_true, not_or, beq_iff_eq, decide_eq_true_eq]
    exact ⟨Nat.ne_of_lt hi, Nat.lt_irrefl _⟩

theorem findNode_isSome (ks : List Nat) (hs : Ascending natLt ks) (key : Nat) :
    (findNode ks key).isSome = true ↔ key ∈ ks := by
  constructor
  · intro h
    obtain ⟨i, hi⟩ := Option.isSome_iff_exists.mp h
    obtain ⟨hl, rfl⟩ := (findNode_iff ks key hs i).mp hi
    rw [getD_of_lt hl]
    exact List.getElem_mem hl
  · intro h
    obtain ⟨i, hl, rfl⟩ := List.getElem_of_mem h
    exact Option.isSome_iff_exists.mpr ⟨i, (findNode_iff ks _ hs i).mpr ⟨hl, getD_of_lt hl 0⟩⟩

end RimeModel.C06
