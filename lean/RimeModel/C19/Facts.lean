import RimeModel.C19.Model
import RimeModel.C19.Sort
/-!
C19 — the domain of the round-trip property, the facts about the generated tables that the proofs
use (`TableFacts`), and the Boolean checkers (linear or n·log n, kernel-evaluable) with the lemmas
that turn a successful check into the stated fact.
-/
namespace RimeModel.C19

/-! ### domain of the property -/

/-- the key code has a name: some row of the key table carries it -/
def Named (k : Nat) : Prop := ∃ r ∈ byVal, r.keyval = k

instance (k : Nat) : Decidable (Named k) := by unfold Named; infer_instance

/-- every set bit of the mask has a modifier name (the mask is a combination of named modifiers) -/
def NamedMask (m : Nat) : Prop := ∀ i, m.testBit i = true → ∃ n, modifierNames[i]? = some (some n)

/-- a key event the property speaks about -/
def InDomain (e : KeyEvent) : Prop := Named e.keycode ∧ e.keycode ≠ voidSymbol ∧ NamedMask e.modifier

/-- a well-formed name: non-empty, no NUL, no '+', no '{', no '}' -/
def WfName (n : Bytes) : Prop := n ≠ [] ∧ ∀ b ∈ n, b ≠ 0 ∧ b ≠ 43 ∧ b ≠ 123 ∧ b ≠ 125

/-- what the proofs need to know about the generated tables -/
structure TableFacts : Prop where
  names_nodup : (byVal.map (·.name)).Nodup
  perm : byName.Perm byVal
  names_wf : ∀ r ∈ byVal, WfName r.name
  one_byte : ∀ r ∈ byVal, ∀ c, r.name = [c] → r.keyval = c.toNat ∧ c.toNat < 128
  terminated : ∃ pre t, byVal = pre ++ [t] ∧ t.keyval = voidSymbol ∧ ∀ r ∈ pre, r.keyval ≠ voidSymbol
  mods : ∀ i n, modifierNames[i]? = some (some n) →
    modifierByName n = 1 <<< i ∧ WfName n ∧ kModifierMask.testBit i = true
  mask_lt : kModifierMask < 2 ^ 32

/-! ### checkers

The row checks run on the row codes themselves: arithmetic on a literal is one step for the kernel, a decoded
byte list costs a step per byte and per `UInt8` operation. -/

def okByte (b : UInt8) : Bool :=
  let n := b.toNat
  !(n == 0 || n == 43 || n == 123 || n == 125)

def wfName (n : Bytes) : Bool := !n.isEmpty && n.all okByte

theorem okByte_spec {b : UInt8} (h : okByte b = true) : b ≠ 0 ∧ b ≠ 43 ∧ b ≠ 123 ∧ b ≠ 125 := by
  simp only [okByte, Bool.not_eq_true', Bool.or_eq_false_iff, beq_eq_false_iff_ne, ne_eq] at h
  refine ⟨?_, ?_, ?_, ?_⟩ <;> (intro hb; subst hb; simp at h)

theorem wfName_spec {n : Bytes} (h : wfName n = true) : WfName n := by
  simp only [wfName, Bool.and_eq_true, Bool.not_eq_true', List.all_eq_true] at h
  refine ⟨?_, fun b hb => okByte_spec (h.2 b hb)⟩
  intro hn; subst hn; simp at h

theorem length_unpackName : ∀ (n p : Nat), (unpackName n p).length = n
  | 0, _ => rfl
  | n + 1, p => by rw [unpackName, List.length_cons, length_unpackName n]

theorem toNat_ofNat_mod (p : Nat) : (UInt8.ofNat (p % 256)).toNat = p % 256 := by
  rw [UInt8.toNat_ofNat']
  exact Nat.mod_mod_of_dvd _ (by decide)

theorem packName_unpackName : ∀ (n p : Nat), packName (unpackName n p) = p % 256 ^ n
  | 0, p => by simp [unpackName, packName, Nat.mod_one]
  | n + 1, p => by
    rw [unpackName, packName, packName_unpackName n, toNat_ofNat_mod, Nat.pow_succ', Nat.mod_mul]

/-- `wfName` of the `n`-byte name packed in `p`, byte by byte on the number -/
def wfPacked : Nat → Nat → Bool
  | 0, _ => true
  | n + 1, p => okByte (UInt8.ofNat (p % 256)) && wfPacked n (p / 256)

theorem wfPacked_spec : ∀ (n p : Nat), wfPacked n p = true → (unpackName n p).all okByte = true
  | 0, _, _ => rfl
  | n + 1, p, h => by
    simp only [wfPacked, Bool.and_eq_true] at h
    simp only [unpackName, List.all_cons, Bool.and_eq_true]
    exact ⟨h.1, wfPacked_spec n _ h.2⟩

/-- a row code whose name is well-formed and, if one byte long, is the 7-bit character of the key code -/
def rowOk (c : Nat) : Bool :=
  let len := (c / 4294967296) % 65536
  let p := c / 281474976710656
  len != 0 && wfPacked len p && (len != 1 || (c % 4294967296 == p % 256 && p % 256 < 128))

theorem rowOk_spec {c : Nat} (h : rowOk c = true) :
    WfName (decodeRow c).name ∧
      ∀ b, (decodeRow c).name = [b] → (decodeRow c).keyval = b.toNat ∧ b.toNat < 128 := by
  simp only [rowOk, Bool.and_eq_true, bne_iff_ne, ne_eq, Bool.or_eq_true, beq_iff_eq, decide_eq_true_eq] at h
  obtain ⟨⟨hlen, hwf⟩, hone⟩ := h
  refine ⟨wfName_spec ?_, fun b hb => ?_⟩
  · simp only [wfName, decodeRow, Bool.and_eq_true, Bool.not_eq_true', List.isEmpty_eq_false_iff]
    exact ⟨fun he => hlen (by simpa [length_unpackName] using congrArg List.length he), wfPacked_spec _ _ hwf⟩
  · have hl := congrArg List.length hb
    simp only [decodeRow, length_unpackName, List.length_singleton] at hl
    simp only [decodeRow, hl, unpackName, List.cons.injEq, and_true] at hb
    obtain ⟨hk, h128⟩ := hone.resolve_left (fun h => h hl)
    subst hb
    rw [toNat_ofNat_mod]
    exact ⟨hk, h128⟩

/-- the last row, and only the last row, has the terminator keyval -/
def terminatedOk (void : Nat) : List Row → Bool
  | [] => false
  | [t] => t.keyval == void
  | r :: rs => r.keyval != void && terminatedOk void rs

theorem terminatedOk_spec (void : Nat) (rows : List Row) (h : terminatedOk void rows = true) :
    ∃ pre t, rows = pre ++ [t] ∧ t.keyval = void ∧ ∀ r ∈ pre, r.keyval ≠ void := by
  induction rows with
  | nil => cases h
  | cons r rs ih =>
    cases rs with
    | nil => exact ⟨[], r, rfl, beq_iff_eq.mp h, nofun⟩
    | cons r2 rs =>
      obtain ⟨hr, hrs⟩ := Bool.and_eq_true_iff.mp h
      obtain ⟨pre, t, he, ht, hp⟩ := ih hrs
      exact ⟨r :: pre, t, congrArg (r :: ·) he, ht, List.forall_mem_cons.mpr ⟨bne_iff_ne.mp hr, hp⟩⟩

/-- every named slot: the by-name lookup gives back exactly its bit, the name is well-formed and the
bit survives `& kModifierMask` -/
def modsOkFrom (i : Nat) : List (Option Bytes) → Bool
  | [] => true
  | none :: ss => modsOkFrom (i + 1) ss
  | some n :: ss =>
    (modifierByName n == 1 <<< i && wfName n && kModifierMask.testBit i) && modsOkFrom (i + 1) ss

theorem modsOkFrom_spec (sl : List (Option Bytes)) (i : Nat) (h : modsOkFrom i sl = true) (j : Nat) (n : Bytes)
    (hj : sl[j]? = some (some n)) :
    modifierByName n = 1 <<< (i + j) ∧ WfName n ∧ kModifierMask.testBit (i + j) = true := by
  induction sl generalizing i j with
  | nil => cases hj
  | cons s ss ih =>
    cases j with
    | zero =>
      obtain rfl : s = some n := Option.some.inj hj
      simp only [modsOkFrom, Bool.and_eq_true, beq_iff_eq] at h
      exact ⟨h.1.1.1, wfName_spec h.1.1.2, h.1.2⟩
    | succ j =>
      have h' : modsOkFrom (i + 1) ss = true := by
        cases s with
        | none => exact h
        | some m => exact (Bool.and_eq_true_iff.mp h).2
      have := ih (i + 1) h' j hj
      rw [Nat.add_right_comm] at this
      exact this

/-- sort key of a row for the distinct-names check: `packName` of its name, computed on the code -/
def nameKey (c : Nat) : Nat := (c / 281474976710656) % 256 ^ ((c / 4294967296) % 65536)

theorem nameKey_eq (c : Nat) : nameKey c = packName (decodeRow c).name :=
  (packName_unpackName _ _).symm

/-- both table checks on one sort of `keys_by_keyval`: the codes carry the packed name in their high digits, so equal
names are neighbours in the sorted list; `keys_by_name` must sort to the same list -/
def tablesOk (byVal byName : List Nat) : Bool :=
  let s := msort byVal.length byVal
  strictInc (s.map nameKey) && msort byName.length byName == s

theorem tablesOk_spec {v n : List Nat} (h : tablesOk v n = true) :
    ((v.map decodeRow).map (·.name)).Nodup ∧ (n.map decodeRow).Perm (v.map decodeRow) := by
  simp only [tablesOk, Bool.and_eq_true, beq_iff_eq] at h
  have hv := msort_perm v.length v
  refine ⟨?_, ((msort_perm n.length n).symm.trans (h.2 ▸ hv)).map decodeRow⟩
  have h1 : (v.map nameKey).Nodup := (hv.map nameKey).nodup_iff.mp (nodup_of_strictInc _ h.1)
  rw [List.map_map]
  exact List.pairwise_map.mpr
    (h1.of_map nameKey (fun a b hab e => hab (by rw [nameKey_eq, nameKey_eq]; exact congrArg packName e)))

/-! ### `NamedMask` and `fits` -/

/-- computable form of `NamedMask` along a slot list -/
def fits : List (Option Bytes) → Nat → Bool
  | [], k => k == 0
  | s :: ss, k => (k % 2 == 0 || s.isSome) && fits ss (k / 2)

theorem fits_of_named (sl : List (Option Bytes)) (k : Nat)
    (h : ∀ i, k.testBit i = true → ∃ n, sl[i]? = some (some n)) : fits sl k = true := by
  induction sl generalizing k with
  | nil =>
    refine beq_iff_eq.mpr (Nat.eq_of_testBit_eq fun i => ?_)
    cases hb : k.testBit i with
    | false => exact (Nat.zero_testBit i).symm
    | true =>
      obtain ⟨n, hn⟩ := h i hb
      cases hn
  | cons s ss ih =>
    refine Bool.and_eq_true_iff.mpr ⟨?_, ih _ fun i hi => h (i + 1) ((Nat.testBit_add_one k i).trans hi)⟩
    by_cases hk : k % 2 = 0
    · rw [hk]
      rfl
    · obtain ⟨n, hn⟩ := h 0 (by
        rw [Nat.testBit_zero]
        exact decide_eq_true ((Nat.mod_two_eq_zero_or_one k).resolve_left hk))
      obtain rfl : s = some n := Option.some.inj hn
      exact Bool.or_true _

theorem named_of_fits (sl : List (Option Bytes)) (k : Nat) (h : fits sl k = true) (i : Nat)
    (hi : k.testBit i = true) : ∃ n, sl[i]? = some (some n) := by
  induction sl generalizing k i with
  | nil =>
    rw [beq_iff_eq.mp h, Nat.zero_testBit] at hi
    cases hi
  | cons s ss ih =>
    obtain ⟨hs, hfs⟩ := Bool.and_eq_true_iff.mp h
    cases i with
    | zero =>
      rw [Nat.testBit_zero, decide_eq_true_eq] at hi
      rw [hi] at hs
      exact (Option.isSome_iff_exists.mp hs).imp fun n hn => congrArg some hn
    | succ i => exact ih _ hfs i ((Nat.testBit_add_one k i).symm.trans hi)

theorem namedMask_iff_fits (m : Nat) : NamedMask m ↔ fits modifierNames m = true :=
  ⟨fits_of_named modifierNames m, named_of_fits modifierNames m⟩

instance (m : Nat) : Decidable (NamedMask m) := decidable_of_iff _ (namedMask_iff_fits m).symm

instance (e : KeyEvent) : Decidable (InDomain e) := by unfold InDomain; infer_instance

end RimeModel.C19
