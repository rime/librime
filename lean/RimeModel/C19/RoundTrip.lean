import RimeModel.C19.Lemmas
/-!
C19 — the round-trip statements, proved for any tables that satisfy `TableFacts`, and the rejection
statement, which needs no fact about the tables.  `RimeModel/Props/C19.lean` discharges `TableFacts`
for the tables generated from the working tree.
-/
namespace RimeModel.C19

/-! ### vocabulary of the rejection theorem -/

/-- the bytes after the last '+' of `text` (what `Parse` looks up as the key name) -/
def lastToken (text : Bytes) : Bytes := (splitOn 43 text).getLast?.getD []

/-- the '+'-terminated pieces of `text` (what `Parse` looks up as modifier names) -/
def modifierTokens (text : Bytes) : List Bytes := (splitOn 43 text).dropLast

/-- `n` is the name of some key other than the terminator -/
def IsKeyName (n : Bytes) : Prop := ∃ r ∈ byVal, r.keyval ≠ voidSymbol ∧ r.name = n

/-- `n` is the name in some slot of `modifier_name[]` -/
def IsModifierName (n : Bytes) : Prop := some n ∈ modifierNames

instance (n : Bytes) : Decidable (IsKeyName n) := by unfold IsKeyName; infer_instance
instance (n : Bytes) : Decidable (IsModifierName n) := by unfold IsModifierName; infer_instance

/-! ### shape of `repr` on the domain -/

theorem repr_eq (F : TableFacts) (k m : Nat) (hk : Named k) (hm : NamedMask m) :
    ∃ r, r ∈ byVal ∧ r.keyval = k ∧
      repr ⟨k, m⟩ = joinSep 43 (modTokens modifierNames m) ++ r.name := by
  obtain ⟨r, hr, hrk, hname⟩ := nameByKeycode_of_named F k hk
  refine ⟨r, hr, hrk, ?_⟩
  have hand : m &&& kModifierMask = m := by
    apply Nat.eq_of_testBit_eq
    intro i
    rw [Nat.testBit_and]
    cases hb : m.testBit i with
    | false => simp
    | true =>
      obtain ⟨n, hn⟩ := hm i hb
      simp [(F.mods i n hn).2.2]
  have hlt : m < 2 ^ 32 := by
    have h1 : m &&& kModifierMask ≤ kModifierMask := Nat.and_le_right
    rw [hand] at h1
    exact Nat.lt_of_le_of_lt h1 F.mask_lt
  simp only [repr, hname]
  by_cases h0 : m = 0
  · subst h0
    simp [modTokens_zero, joinSep_nil]
  · simp [h0, hand, reprMods_eq 32 0 m hlt]

theorem modTokens_wf (F : TableFacts) (m : Nat) : ∀ t ∈ modTokens modifierNames m, WfName t := by
  intro t ht
  obtain ⟨j, hj⟩ := mem_modTokens _ _ _ ht
  exact (F.mods j t hj).2.1

theorem repr_no_brace (F : TableFacts) (k m : Nat) (hk : Named k) (hm : NamedMask m) :
    ∀ b ∈ repr ⟨k, m⟩, b ≠ 123 ∧ b ≠ 125 := by
  obtain ⟨r, hr, _, hrepr⟩ := repr_eq F k m hk hm
  intro b hb
  rw [hrepr, List.mem_append] at hb
  rcases hb with hb | hb
  · rcases mem_joinSep hb with hb | ⟨t, ht, hbt⟩
    · subst hb; exact ⟨by decide, by decide⟩
    · have := (modTokens_wf F m t ht).2 b hbt
      exact ⟨this.2.2.1, this.2.2.2⟩
  · have := (F.names_wf r hr).2 b hb
    exact ⟨this.2.2.1, this.2.2.2⟩

/-! ### KeyEvent round trip -/

theorem parse_long (text : Bytes) (h : 2 ≤ text.length) :
    parse text = parseTokens 0 (splitOn 43 text) := by
  match text, h with
  | a :: b :: t, _ => rfl

theorem parse_repr_event_of (F : TableFacts) (k m : Nat)
    (hk : Named k) (hv : k ≠ voidSymbol) (hm : NamedMask m) :
    parse (repr ⟨k, m⟩) = some ⟨k, m⟩ := by
  obtain ⟨r, hr, hrk, hrepr⟩ := repr_eq F k m hk hm
  have hfit := fits_of_named modifierNames m hm
  have hwf := F.names_wf r hr
  have htoks := modTokens_wf F m
  have hcs : cstr r.name = r.name := cstr_of_no_nul r.name (fun b hb => (hwf.2 b hb).1)
  have hkey : keycodeByName r.name = k := (keycodeByName_of_row F r hr).trans hrk
  have hgen : parseTokens 0 (splitOn 43 (repr ⟨k, m⟩)) = some ⟨k, m⟩ := by
    rw [hrepr, splitOn_join 43 _ _ (fun t ht hmem => ((htoks t ht).2 43 hmem).2.1 rfl)
      (fun hmem => ((hwf.2 43 hmem).2.1 rfl))]
    rw [parseTokens_mods modifierNames 0 0 m r.name
      (fun j n hj => by have := F.mods j n hj; simpa using ⟨this.1, this.2.1⟩) hfit (by simp)]
    simp [parseTokens, hcs, hkey, hv]
  by_cases hlen : 2 ≤ (repr ⟨k, m⟩).length
  · rw [parse_long _ hlen]; exact hgen
  · -- a text of one byte: no modifier token, a one-byte key name
    rw [hrepr] at hlen ⊢
    match hn : r.name, htk : modTokens modifierNames m with
    | [], _ => exact absurd hn hwf.1
    | _ :: _ :: _, _ =>
      simp only [hn, List.length_append, List.length_cons] at hlen
      omega
    | [c], _ :: _ =>
      simp only [hn, htk, joinSep_cons, List.length_append, List.length_cons] at hlen
      omega
    | [c], [] =>
      obtain ⟨h1, h2⟩ := F.one_byte r hr c hn
      simp [parse, signExtend, ← hrk, h1, h2, modTokens_eq_nil _ _ hfit htk, joinSep_nil]

/-- `XK_VoidSymbol` has a name, and `Parse` rejects that name: the scan of `RimeGetKeycodeByName` returns the
terminator's key code for it, which is also its "not found" result. -/
theorem parse_repr_void_of (F : TableFacts) (hv : 128 ≤ voidSymbol) : parse (repr ⟨voidSymbol, 0⟩) = none := by
  obtain ⟨pre, t, he, ht, -⟩ := F.terminated
  obtain ⟨r, hr, hrk, hrepr⟩ :=
    repr_eq F voidSymbol 0 ⟨t, he ▸ List.mem_append_right _ (List.mem_singleton_self t), ht⟩ (fun i hi => by simp at hi)
  rw [hrepr, modTokens_zero, joinSep_nil, List.nil_append]
  have hwf := F.names_wf r hr
  have hscan : keycodeByName r.name = voidSymbol := (keycodeByName_of_row F r hr).trans hrk
  match hname : r.name with
  | [] => exact absurd hname hwf.1
  | [c] => have := F.one_byte r hr c hname; omega
  | a :: b :: tl =>
    rw [parse_long _ (by simp), ← hname, splitOn_of_not_mem 43 _ (fun h => (hwf.2 43 h).2.1 rfl)]
    simp [parseTokens, cstr_of_no_nul r.name (fun b hb => (hwf.2 b hb).1), hscan]

/-! ### KeySequence round trip -/

theorem seqChunk_length_pos (e : KeyEvent) : 1 ≤ (seqChunk e).length := by
  unfold seqChunk
  simp only
  split
  · omega
  · split <;> simp

theorem seqParseAux_chunk (F : TableFacts) (e : KeyEvent) (he : InDomain e) (f : Nat) (rest : Bytes) :
    seqParseAux (f + 1) (seqChunk e ++ rest) = (seqParseAux f rest).map (e :: ·) := by
  obtain ⟨k, m⟩ := e
  obtain ⟨hk, hv, hm⟩ := he
  simp only at hk hv hm
  have hrt := parse_repr_event_of F k m hk hv hm
  have hnb := repr_no_brace F k m hk hm
  unfold seqChunk
  simp only
  by_cases h1 : (repr ⟨k, m⟩).length = 1
  · -- a one-byte text is written bare and read back by the one-character path of `Parse`
    simp only [h1, if_true]
    obtain ⟨c, hc⟩ := List.length_eq_one_iff.mp h1
    rw [hc] at hrt hnb ⊢
    have hcb : ¬ c = 123 := (hnb c (by simp)).1
    simp [seqParseAux, hcb, hrt]
  · simp only [h1, if_false]
    by_cases hu : isUnescaped ⟨k, m⟩ = true
    · -- a printable character without modifiers is written as itself, whatever its name
      simp only [hu, if_true]
      simp only [isUnescaped, Bool.and_eq_true, decide_eq_true_eq] at hu
      obtain ⟨⟨⟨⟨hm0, hlo⟩, hhi⟩, hb1⟩, hb2⟩ := hu
      have h128 : k < 128 := Nat.lt_of_le_of_lt hhi (by decide)
      have hkn : (UInt8.ofNat k).toNat = k :=
        UInt8.toNat_ofNat'.trans (Nat.mod_eq_of_lt (Nat.lt_trans h128 (by decide)))
      have hcb : ¬ (UInt8.ofNat k = 123) := fun h => hb1 (hkn.symm.trans (congrArg UInt8.toNat h))
      have hse : signExtend (UInt8.ofNat k) = k := by
        rw [signExtend, hkn, if_pos h128]
      simp [seqParseAux, hcb, parse, hse, hm0]
    · -- `{…}`: the text holds no '}', so the first '}' found is the closing one
      simp only [hu]
      have hsf := splitFirst_append 125 (repr ⟨k, m⟩) rest (fun hmem => (hnb 125 hmem).2 rfl)
      simp [seqParseAux, hsf, hrt]

theorem seqRepr_cons (e : KeyEvent) (es : List KeyEvent) : seqRepr (e :: es) = seqChunk e ++ seqRepr es :=
  List.flatMap_cons

theorem seqParseAux_repr (F : TableFacts) (es : List KeyEvent) (h : ∀ e ∈ es, InDomain e) (f : Nat)
    (hf : es.length ≤ f) : seqParseAux f (seqRepr es) = some es := by
  induction es generalizing f with
  | nil => cases f <;> rfl
  | cons e es ih =>
    cases f with
    | zero => cases hf
    | succ f =>
      rw [seqRepr_cons, seqParseAux_chunk F e (h e List.mem_cons_self) f,
        ih (fun x hx => h x (List.mem_cons_of_mem _ hx)) f (Nat.le_of_succ_le_succ hf)]
      rfl

theorem length_le_seqRepr (es : List KeyEvent) : es.length ≤ (seqRepr es).length := by
  induction es with
  | nil => exact Nat.le_refl 0
  | cons e es ih =>
    rw [seqRepr_cons, List.length_append, List.length_cons, Nat.add_comm]
    exact Nat.add_le_add (seqChunk_length_pos e) ih

theorem parse_repr_seq_of (F : TableFacts) (es : List KeyEvent) (h : ∀ e ∈ es, InDomain e) :
    seqParse (seqRepr es) = some es :=
  seqParseAux_repr F es h _ (length_le_seqRepr es)

/-! ### rejection -/

theorem parseTokens_none (toks : List Bytes) (acc : Nat)
    (h : ¬ IsKeyName (cstr (toks.getLast?.getD [])) ∨ ∃ t ∈ toks.dropLast, ¬ IsModifierName (cstr t)) :
    parseTokens acc toks = none := by
  induction toks generalizing acc with
  | nil => rfl
  | cons t ts ih =>
    cases ts with
    | nil =>
      rcases h with h | ⟨x, hx, _⟩
      · exact if_pos (scan_not_found _ _ _ fun r hr hv hn => h ⟨r, hr, hv, hn⟩)
      · cases hx
    | cons t2 ts =>
      rw [parseTokens_cons acc t (t2 :: ts) (List.cons_ne_nil _ _)]
      by_cases hz : modifierByName (cstr t) = 0
      · exact if_pos hz
      · rw [if_neg hz]
        refine ih _ (h.imp id fun ⟨x, hx, hxm⟩ => ?_)
        rcases List.mem_cons.mp hx with rfl | hx
        · exact absurd (modScan_not_found _ _ _ fun s hs he => hxm (show some (cstr x) ∈ modifierNames from he ▸ hs)) hz
        · exact ⟨x, hx, hxm⟩

theorem parse_unknown_fails_of (text : Bytes) (h2 : 2 ≤ text.length)
    (h : ¬ IsKeyName (cstr (lastToken text)) ∨ ∃ t ∈ modifierTokens text, ¬ IsModifierName (cstr t)) :
    parse text = none := by
  rw [parse_long text h2]
  exact parseTokens_none _ 0 h

end RimeModel.C19
