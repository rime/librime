import RimeModel.C19.Facts
/-!
C19 — helper lemmas: splitting on a separator, the table scans, and the modifier loop of `repr`
against the token loop of `Parse`.
-/
namespace RimeModel.C19

/-! ### splitting -/

theorem splitOn_ne_nil (sep : UInt8) : ∀ t : Bytes, splitOn sep t ≠ [] := by
  intro t
  induction t with
  | nil => simp [splitOn]
  | cons c cs ih =>
    simp only [splitOn]
    split
    · simp
    · split <;> simp

theorem splitOn_of_not_mem (sep : UInt8) (t : Bytes) (h : sep ∉ t) : splitOn sep t = [t] := by
  induction t with
  | nil => rfl
  | cons c cs ih =>
    rw [splitOn, if_neg (List.ne_of_not_mem_cons h).symm, ih (List.not_mem_of_not_mem_cons h)]

theorem splitOn_append (sep : UInt8) (t rest : Bytes) (h : sep ∉ t) :
    splitOn sep (t ++ sep :: rest) = t :: splitOn sep rest := by
  induction t with
  | nil => exact if_pos rfl
  | cons c cs ih =>
    rw [List.cons_append, splitOn, if_neg (List.ne_of_not_mem_cons h).symm, ih (List.not_mem_of_not_mem_cons h)]

/-- every token followed by the separator -/
def joinSep (sep : UInt8) (toks : List Bytes) : Bytes := toks.flatMap (· ++ [sep])

theorem joinSep_nil (sep : UInt8) : joinSep sep [] = [] := rfl

theorem joinSep_cons (sep : UInt8) (t : Bytes) (ts : List Bytes) :
    joinSep sep (t :: ts) = t ++ sep :: joinSep sep ts := by
  simp [joinSep]

theorem joinSep_append (sep : UInt8) (a b : List Bytes) :
    joinSep sep (a ++ b) = joinSep sep a ++ joinSep sep b := by
  simp [joinSep]

theorem mem_joinSep {sep : UInt8} {toks : List Bytes} {b : UInt8} (h : b ∈ joinSep sep toks) :
    b = sep ∨ ∃ t ∈ toks, b ∈ t := by
  simp only [joinSep, List.mem_flatMap, List.mem_append, List.mem_singleton] at h
  obtain ⟨t, ht, hb⟩ := h
  rcases hb with hb | hb
  · exact Or.inr ⟨t, ht, hb⟩
  · exact Or.inl hb

theorem splitOn_join (sep : UInt8) (toks : List Bytes) (last : Bytes) (h : ∀ t ∈ toks, sep ∉ t) (hl : sep ∉ last) :
    splitOn sep (joinSep sep toks ++ last) = toks ++ [last] := by
  induction toks with
  | nil => exact splitOn_of_not_mem sep last hl
  | cons t ts ih =>
    rw [joinSep_cons, List.append_assoc, List.cons_append, splitOn_append sep t _ (h t List.mem_cons_self),
      ih fun x hx => h x (List.mem_cons_of_mem _ hx)]
    rfl

theorem splitFirst_append (sep : UInt8) (t rest : Bytes) (h : sep ∉ t) :
    splitFirst sep (t ++ sep :: rest) = some (t, rest) := by
  induction t with
  | nil => exact if_pos rfl
  | cons c cs ih =>
    rw [List.cons_append, splitFirst, if_neg (List.ne_of_not_mem_cons h).symm, ih (List.not_mem_of_not_mem_cons h)]

theorem cstr_of_no_nul (t : Bytes) (h : ∀ b ∈ t, b ≠ 0) : cstr t = t := by
  induction t with
  | nil => rfl
  | cons c cs ih =>
    rw [cstr, List.takeWhile_cons, if_pos (bne_iff_ne.mpr (h c List.mem_cons_self))]
    exact congrArg (c :: ·) (ih fun b hb => h b (List.mem_cons_of_mem _ hb))

/-! ### table scans -/

theorem scan_found (void : Nat) (r : Row) (pre tail : List Row) (hv : ∀ x ∈ pre, x.keyval ≠ void) (hr : r ∈ pre)
    (hn : (pre.map (·.name)).Nodup) : scanByName void r.name (pre ++ tail) = r.keyval := by
  induction pre with
  | nil => cases hr
  | cons x pre ih =>
    obtain ⟨hnx, hn⟩ := List.nodup_cons.mp hn
    rw [List.cons_append, scanByName, if_neg (hv x List.mem_cons_self)]
    rcases List.mem_cons.mp hr with rfl | hr
    · exact if_pos rfl
    · rw [if_neg fun e => hnx (List.mem_map.mpr ⟨r, hr, e.symm⟩)]
      exact ih (fun y hy => hv y (List.mem_cons_of_mem _ hy)) hr hn

theorem scan_not_found (void : Nat) (name : Bytes) (rows : List Row)
    (h : ∀ r ∈ rows, r.keyval ≠ void → r.name ≠ name) : scanByName void name rows = void := by
  induction rows with
  | nil => rfl
  | cons x rows ih =>
    rw [scanByName]
    by_cases hx : x.keyval = void
    · exact if_pos hx
    · rw [if_neg hx, if_neg (h x List.mem_cons_self hx)]
      exact ih fun r hr => h r (List.mem_cons_of_mem _ hr)

theorem modScan_not_found (name : Bytes) (sl : List (Option Bytes)) (i : Nat) (h : ∀ s ∈ sl, s ≠ some name) :
    modScan name i sl = 0 := by
  induction sl generalizing i with
  | nil => rfl
  | cons s ss ih =>
    rw [modScan, if_neg (h s List.mem_cons_self)]
    exact ih (i + 1) fun x hx => h x (List.mem_cons_of_mem _ hx)

/-- the scan finds every row by its name; for the terminator row it runs to the end and returns the terminator's
key code as "not found" -/
theorem keycodeByName_of_row (F : TableFacts) (r : Row) (hr : r ∈ byVal) : keycodeByName r.name = r.keyval := by
  obtain ⟨pre, t, he, ht, hp⟩ := F.terminated
  have hn := F.names_nodup
  unfold keycodeByName
  rw [he] at hr hn ⊢
  rw [List.map_append, List.nodup_append] at hn
  rcases List.mem_append.mp hr with h | h
  · exact scan_found voidSymbol r pre [t] hp h hn.1
  · cases List.eq_of_mem_singleton h
    rw [ht]
    refine scan_not_found voidSymbol r.name _ fun x hx hxv => ?_
    rcases List.mem_append.mp hx with h | h
    · exact hn.2.2 x.name (List.mem_map_of_mem h) r.name (List.mem_singleton_self _)
    · exact absurd (List.eq_of_mem_singleton h ▸ ht) hxv

/-- the name `repr` prints for a named key code, and the row it comes from -/
theorem nameByKeycode_of_named (F : TableFacts) (k : Nat) (hk : Named k) :
    ∃ r, r ∈ byVal ∧ r.keyval = k ∧ nameByKeycode k = some r.name := by
  obtain ⟨r0, hr0, hk0⟩ := hk
  have hr0' : r0 ∈ byName := F.perm.mem_iff.mpr hr0
  cases hf : byName.find? (fun r => decide (r.keyval = k)) with
  | none =>
    have := List.find?_eq_none.mp hf r0 hr0'
    simp [hk0] at this
  | some r =>
    have h1 := List.find?_some hf
    have h2 := List.mem_of_find?_eq_some hf
    simp only [decide_eq_true_eq] at h1
    exact ⟨r, F.perm.mem_iff.mp h2, h1, by simp [nameByKeycode, hf]⟩

/-! ### the modifier loop of `repr` -/

/-- names of the set bits of `k` along a slot list, ascending -/
def modTokens : List (Option Bytes) → Nat → List Bytes
  | [], _ => []
  | s :: ss, k =>
    (if k % 2 = 1 then s.toList else []) ++ modTokens ss (k / 2)

theorem modTokens_cons (s : Option Bytes) (ss : List (Option Bytes)) (k : Nat) :
    modTokens (s :: ss) k = (if k % 2 = 1 then s.toList else []) ++ modTokens ss (k / 2) := rfl

theorem modTokens_zero (sl : List (Option Bytes)) : modTokens sl 0 = [] := by
  induction sl with
  | nil => rfl
  | cons s ss ih => exact ih

theorem mem_modTokens (sl : List (Option Bytes)) (k : Nat) (t : Bytes) (h : t ∈ modTokens sl k) :
    ∃ j : Nat, sl[j]? = some (some t) := by
  induction sl generalizing k with
  | nil => cases h
  | cons s ss ih =>
    rcases List.mem_append.mp h with h | h
    · by_cases hb : k % 2 = 1
      · rw [if_pos hb] at h
        exact ⟨0, congrArg some (Option.mem_toList.mp h)⟩
      · rw [if_neg hb] at h
        cases h
    · obtain ⟨j, hj⟩ := ih (k / 2) h
      exact ⟨j + 1, hj⟩

theorem modTokens_eq_nil (sl : List (Option Bytes)) (k : Nat) (hf : fits sl k = true) (h : modTokens sl k = []) :
    k = 0 := by
  induction sl generalizing k with
  | nil => exact beq_iff_eq.mp hf
  | cons s ss ih =>
    obtain ⟨hs, hfs⟩ := Bool.and_eq_true_iff.mp hf
    obtain ⟨h1, h2⟩ := List.append_eq_nil_iff.mp h
    have hk := Nat.div_add_mod k 2
    rw [ih (k / 2) hfs h2] at hk
    by_cases hb : k % 2 = 1
    · -- a set lowest bit has a named slot, whose name would be a token
      rw [hb] at hs
      rw [if_pos hb] at h1
      obtain ⟨n, rfl⟩ := Option.isSome_iff_exists.mp hs
      cases h1
    · rw [(Nat.mod_two_eq_zero_or_one k).resolve_right hb] at hk
      exact hk.symm

theorem lowestBitSlot_two_mul (m : Nat) (s : Option Bytes) (ss : List (Option Bytes)) :
    lowestBitSlot (2 * m) (s :: ss) = lowestBitSlot m ss := by
  rw [lowestBitSlot, Nat.mul_mod_right, if_neg Nat.zero_ne_one, Nat.mul_div_cancel_left m Nat.two_pos]
  by_cases h : m = 0
  · rw [h]
    cases ss <;> rfl
  · exact if_neg (Nat.mul_ne_zero (by decide) h)

theorem lowestBitSlot_shift (sl : List (Option Bytes)) (i k : Nat) (hk : k % 2 = 1) :
    lowestBitSlot (k <<< i) sl = (sl[i]?).join := by
  induction i generalizing sl with
  | zero =>
    cases sl with
    | nil => rfl
    | cons s ss =>
      have hk0 : k ≠ 0 := by
        rintro rfl
        cases hk
      rw [Nat.shiftLeft_zero, lowestBitSlot, if_neg hk0, if_pos hk]
      rfl
  | succ i ih =>
    cases sl with
    | nil => rfl
    | cons s ss =>
      rw [Nat.shiftLeft_succ, lowestBitSlot_two_mul]
      exact ih ss

theorem reprMods_eq (fuel i k : Nat) (hk : k < 2 ^ fuel) :
    reprMods fuel i k = joinSep 43 (modTokens (modifierNames.drop i) k) := by
  induction fuel generalizing i k with
  | zero =>
    cases Nat.lt_one_iff.mp hk
    rw [modTokens_zero]
    rfl
  | succ fuel ih =>
    rw [reprMods, ih (i + 1) (k / 2) (Nat.div_lt_of_lt_mul (Nat.pow_succ' ▸ hk)), ← List.tail_drop]
    by_cases hk0 : k = 0
    · rw [if_pos hk0, hk0, modTokens_zero]
      rfl
    · rw [if_neg hk0]
      by_cases hb : k % 2 = 1
      · -- the name looked up for bit `i` is the head of the slots from `i` on
        rw [if_pos hb, modifierName, lowestBitSlot_shift _ i k hb, ← List.head?_drop]
        generalize modifierNames.drop i = sl
        cases sl with
        | nil => rfl
        | cons s ss =>
          rw [modTokens_cons, if_pos hb]
          cases s with
          | none => rfl
          | some n => exact (List.append_assoc ..).trans (joinSep_cons 43 n _).symm
      · rw [if_neg hb]
        generalize modifierNames.drop i = sl
        cases sl with
        | nil => rfl
        | cons s ss =>
          rw [modTokens_cons, if_neg hb]
          rfl

/-! ### the token loop of `Parse` against the modifier loop of `repr` -/

theorem parseTokens_cons (acc : Nat) (t : Bytes) (ts : List Bytes) (h : ts ≠ []) :
    parseTokens acc (t :: ts) =
      if modifierByName (cstr t) = 0 then none else parseTokens (acc ||| modifierByName (cstr t)) ts := by
  cases ts with
  | nil => exact absurd rfl h
  | cons a b => simp [parseTokens]

theorem parseTokens_mods (sl : List (Option Bytes)) (i acc k : Nat) (last : Bytes)
    (hsl : ∀ j n, sl[j]? = some (some n) → modifierByName n = 1 <<< (i + j) ∧ WfName n)
    (hf : fits sl k = true) (hacc : acc < 2 ^ i) :
    parseTokens acc (modTokens sl k ++ [last]) = parseTokens (acc + 2 ^ i * k) [last] := by
  induction sl generalizing i acc k with
  | nil =>
    cases (beq_iff_eq.mp hf : k = 0)
    rfl
  | cons s ss ih =>
    obtain ⟨hs, hfs⟩ := Bool.and_eq_true_iff.mp hf
    have hss : ∀ j n, ss[j]? = some (some n) → modifierByName n = 1 <<< (i + 1 + j) ∧ WfName n :=
      fun j n hj => Nat.add_right_comm i j 1 ▸ hsl (j + 1) n hj
    have hk : 2 * (k / 2) + k % 2 = k := Nat.div_add_mod k 2
    rw [modTokens_cons]
    by_cases hb : k % 2 = 1
    · -- bit set: the slot is named, one token is consumed
      rw [hb] at hk hs
      obtain ⟨n, rfl⟩ := Option.isSome_iff_exists.mp hs
      obtain ⟨hmod, hwf⟩ := hsl 0 n rfl
      have hor : acc ||| 2 ^ i = 2 ^ i + acc := by
        rw [Nat.or_comm, ← Nat.mul_one (2 ^ i), ← Nat.two_pow_add_eq_or_of_lt hacc 1]
      have hlt : 2 ^ i + acc < 2 ^ (i + 1) := by
        rw [Nat.pow_succ, Nat.mul_two]
        exact Nat.add_lt_add_left hacc _
      rw [if_pos hb]
      show parseTokens acc (n :: (modTokens ss (k / 2) ++ [last])) = _
      rw [parseTokens_cons _ _ _ (List.append_ne_nil_of_right_ne_nil _ (List.cons_ne_nil _ _)),
        cstr_of_no_nul n fun b hb => (hwf.2 b hb).1, hmod, Nat.add_zero, Nat.one_shiftLeft,
        if_neg (Nat.pos_iff_ne_zero.mp (Nat.two_pow_pos i)), hor, ih (i + 1) (2 ^ i + acc) (k / 2) hss hfs hlt]
      refine congrArg (parseTokens · [last]) ?_
      conv =>
        rhs
        rw [← hk]
      rw [Nat.pow_succ, Nat.mul_add, Nat.mul_one, Nat.mul_assoc, Nat.add_comm (2 ^ i) acc, Nat.add_right_comm,
        Nat.add_assoc]
    · rw [(Nat.mod_two_eq_zero_or_one k).resolve_right hb, Nat.add_zero] at hk
      rw [if_neg hb, List.nil_append, ih (i + 1) acc (k / 2) hss hfs
        (Nat.lt_trans hacc (Nat.pow_lt_pow_right (by decide) (Nat.lt_succ_self i)))]
      refine congrArg (parseTokens · [last]) ?_
      conv =>
        rhs
        rw [← hk]
      rw [Nat.pow_succ, Nat.mul_assoc]

end RimeModel.C19
