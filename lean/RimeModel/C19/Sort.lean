/-!
C19 — a merge sort on `List Nat` written by structural recursion on a fuel argument, so that it
reduces inside the kernel (`decide +kernel`); core's `List.mergeSort` is compiled by well-founded
recursion and does not.  Used only to check table facts in n·log n:

* a strictly increasing list has no duplicates (`nodup_of_strictInc`), so neither has what was sorted into it;
* two lists that sort to the same list are permutations of each other.

Neither needs the result to be sorted — only that `msort` permutes its input (`msort_perm`),
which holds for every fuel.
-/
namespace RimeModel.C19

def merge : Nat → List Nat → List Nat → List Nat
  | 0, l, r => l ++ r
  | _ + 1, [], r => r
  | _ + 1, l, [] => l
  | f + 1, a :: l, b :: r => if a ≤ b then a :: merge f l (b :: r) else b :: merge f (a :: l) r

def halve : List Nat → List Nat × List Nat
  | [] => ([], [])
  | [a] => ([a], [])
  | a :: b :: t => let p := halve t; (a :: p.1, b :: p.2)

def msort : Nat → List Nat → List Nat
  | 0, l => l
  | _ + 1, [] => []
  | _ + 1, [a] => [a]
  | f + 1, l => let p := halve l; merge l.length (msort f p.1) (msort f p.2)

/-- adjacent elements strictly increase -/
def strictInc : List Nat → Bool
  | a :: b :: t => a < b && strictInc (b :: t)
  | _ => true

theorem merge_perm (f : Nat) (l r : List Nat) : (merge f l r).Perm (l ++ r) := by
  induction f generalizing l r with
  | zero => exact .refl _
  | succ f ih =>
    cases l with
    | nil => exact .refl _
    | cons a l =>
      cases r with
      | nil =>
        rw [List.append_nil]
        exact .refl _
      | cons b r =>
        rw [merge]
        by_cases h : a ≤ b
        · rw [if_pos h]
          exact (ih l (b :: r)).cons a
        · rw [if_neg h]
          exact ((ih (a :: l) r).cons b).trans List.perm_middle.symm

theorem halve_perm (l : List Nat) : ((halve l).1 ++ (halve l).2).Perm l := by
  fun_induction halve l with
  | case1 => exact .nil
  | case2 a => exact .refl _
  | case3 a b t p ih => exact (List.perm_middle.trans (ih.cons b)).cons a

theorem msort_perm : ∀ (f : Nat) (l : List Nat), (msort f l).Perm l := by
  intro f
  induction f with
  | zero => exact fun l => .refl l
  | succ f ih =>
    intro l
    match l with
    | [] => exact .nil
    | [a] => exact .refl _
    | a :: b :: t => exact (merge_perm _ _ _).trans (((ih _).append (ih _)).trans (halve_perm _))

theorem strictInc_pairwise (l : List Nat) (h : strictInc l = true) : l.Pairwise (· < ·) := by
  induction l with
  | nil => exact .nil
  | cons a t ih =>
    cases t with
    | nil => exact List.pairwise_singleton _ _
    | cons b t =>
      obtain ⟨hab, ht⟩ := Bool.and_eq_true_iff.mp h
      have pt := ih ht
      exact List.pairwise_cons.mpr ⟨List.forall_mem_cons.mpr ⟨of_decide_eq_true hab,
        fun x hx => Nat.lt_trans (of_decide_eq_true hab) (List.rel_of_pairwise_cons pt hx)⟩, pt⟩

theorem nodup_of_strictInc (l : List Nat) (h : strictInc l = true) : l.Nodup :=
  (strictInc_pairwise l h).imp (fun h => Nat.ne_of_lt h)

end RimeModel.C19
