import RimeModel.C16.Model
/-! C16 — the state of one session id as a fold (`track`) over the events addressed to it; `step_lookup` ties one
step of the service to one step of that fold. -/
namespace RimeModel.C16
variable {σ ι ο : Type}

/-- the state of session `id` as a function of the events addressed to `id` alone -/
def track1 (fresh : σ) (step : σ → ι → σ × ο) (id : Nat) (acc : Option σ) : Event ι → Option σ
  | .create i => if i = id then (match acc with | none => some fresh | some a => some a) else acc
  | .destroy i => if i = id then none else acc
  | .call i op => if i = id then acc.map (fun st => (step st op).1) else acc

def track (fresh : σ) (step : σ → ι → σ × ο) (id : Nat) (acc : Option σ) (es : List (Event ι)) : Option σ :=
  es.foldl (track1 fresh step id) acc

theorem lookup_find (l : List (Nat × σ)) (id : Nat) :
    (Svc.mk l).lookup id = (l.find? (·.1 == id)).map (·.2) := by
  unfold Svc.lookup
  cases l.find? (·.1 == id) <;> rfl

theorem lookup_cons (p : Nat × σ) (l : List (Nat × σ)) (b : Nat) :
    (Svc.mk (p :: l)).lookup b = if p.1 = b then some p.2 else (Svc.mk l).lookup b := by
  unfold Svc.lookup
  rw [List.find?_cons]
  by_cases h : p.1 = b
  · rw [if_pos h, beq_iff_eq.mpr h]
  · rw [if_neg h, beq_eq_false_iff_ne.mpr h]

theorem live_contains (s : Svc σ) (id : Nat) : s.live.contains id = (s.lookup id).isSome := by
  obtain ⟨l⟩ := s
  rw [Svc.live, List.contains_map, lookup_find, Option.isSome_map, List.isSome_find?]
  exact congrArg l.any (funext fun _ => BEq.comm)

theorem lookup_append (l l' : List (Nat × σ)) (b : Nat) :
    (Svc.mk (l ++ l')).lookup b = ((Svc.mk l).lookup b).or ((Svc.mk l').lookup b) := by
  rw [lookup_find, lookup_find, lookup_find, List.find?_append, Option.map_or]

theorem lookup_filter (l : List (Nat × σ)) (id b : Nat) :
    (Svc.mk (l.filter (·.1 != id))).lookup b = if id = b then none else (Svc.mk l).lookup b := by
  induction l with
  | nil => exact (ite_self _).symm
  | cons p ps ih =>
    rw [List.filter_cons]
    by_cases hp : p.1 = id
    · rw [if_neg fun h => bne_iff_ne.mp h hp, ih, lookup_cons]
      by_cases hb : id = b
      · rw [if_pos hb, if_pos hb]
      · rw [if_neg hb, if_neg hb, if_neg (hp ▸ hb)]
    · rw [if_pos (bne_iff_ne.mpr hp), lookup_cons, lookup_cons, ih]
      by_cases hb : id = b
      · rw [if_pos hb, if_pos hb, if_neg (hb ▸ hp)]
      · rw [if_neg hb, if_neg hb]

theorem setAt_eq_map (l : List (Nat × σ)) (id : Nat) (v : σ) :
    setAt l id v = l.map fun p => (p.1, if id = p.1 then v else p.2) :=
  List.map_congr_left fun p _ => by
    by_cases h : p.1 = id
    · rw [if_pos h.symm, if_pos (beq_iff_eq.mpr h)]
    · rw [if_neg (Ne.symm h), if_neg (mt beq_iff_eq.mp h)]

theorem live_setAt (l : List (Nat × σ)) (id : Nat) (v : σ) : (Svc.mk (setAt l id v)).live = (Svc.mk l).live := by
  rw [setAt_eq_map]
  exact List.map_map

theorem lookup_setAt (l : List (Nat × σ)) (id b : Nat) (v : σ) :
    (Svc.mk (setAt l id v)).lookup b = ((Svc.mk l).lookup b).map fun x => if id = b then v else x := by
  rw [setAt_eq_map]
  induction l with
  | nil => rfl
  | cons p ps ih =>
    rw [List.map_cons, lookup_cons, lookup_cons, ih]
    by_cases h : p.1 = b
    · rw [if_pos h, if_pos h, h]
      rfl
    · rw [if_neg h, if_neg h]

variable {fresh : σ} {step : σ → ι → σ × ο}

/-- **frame + own-step**: after one event, the state of every session id is what `track1` says: unchanged
unless the event is addressed to it -/
theorem step_lookup (s : Svc σ) (e : Event ι) (b : Nat) :
    (Svc.step fresh step s e).1.lookup b = track1 fresh step b (s.lookup b) e := by
  cases e with
  | create id =>
    simp only [Svc.step, track1, live_contains]
    cases hl : s.lookup id with
    | none =>
      show (Svc.mk (s.sessions ++ [(id, fresh)])).lookup b = _
      rw [lookup_append, lookup_cons]
      split
      · next hb => rw [← hb, hl]; rfl
      · exact Option.or_none
    | some a =>
      show s.lookup b = _
      split
      · next hb => rw [← hb, hl]
      · rfl
  | destroy id =>
    rw [Svc.step, track1, live_contains]
    cases hl : s.lookup id with
    | none =>
      show s.lookup b = _
      split
      · next hb => rw [← hb, hl]
      · rfl
    | some a => exact lookup_filter _ _ _
  | call id op =>
    rw [Svc.step, track1]
    cases hl : s.lookup id with
    | none =>
      show s.lookup b = _
      split
      · next hb => rw [← hb, hl]; rfl
      · rfl
    | some st =>
      show (Svc.mk (setAt s.sessions id (step st op).1)).lookup b = _
      rw [lookup_setAt]
      split
      · next hb => rw [← hb, hl]; rfl
      · exact Option.map_id'

/-- one event keeps the live ids pairwise distinct: `create` refuses an id that is live -/
theorem step_live_nodup (s : Svc σ) (e : Event ι) (h : s.live.Nodup) : (Svc.step fresh step s e).1.live.Nodup := by
  cases e with
  | create id =>
    rw [Svc.step]
    split
    · exact h
    · next hc =>
      show ((s.sessions ++ [(id, fresh)]).map (·.1)).Nodup
      rw [List.map_append]
      exact List.perm_append_comm.nodup (List.nodup_cons.mpr ⟨mt List.contains_iff_mem.mpr hc, h⟩)
  | destroy id =>
    rw [Svc.step]
    split
    · exact (List.filter_sublist.map _).nodup h
    · exact h
  | call id op =>
    rw [Svc.step]
    cases s.lookup id with
    | none => exact h
    | some st => exact (live_setAt s.sessions id _).symm ▸ h

theorem track_append (id : Nat) (acc : Option σ) (t u : List (Event ι)) :
    track fresh step id acc (t ++ u) = track fresh step id (track fresh step id acc t) u :=
  List.foldl_append

theorem track_none (id : Nat) (t : List (Event ι)) (h : ∀ e ∈ t, e ≠ .create id) :
    track fresh step id none t = none := by
  induction t with
  | nil => rfl
  | cons e es ih =>
    have ⟨he, hes⟩ := List.forall_mem_cons.mp h
    have h1 : track1 fresh step id none e = none := by
      cases e with
      | create i => exact if_neg fun hi => he (congrArg Event.create hi)
      | destroy i => exact ite_self _
      | call i op => exact ite_self _
    exact (congrArg (track fresh step id · es) h1).trans (ih hes)

theorem track_calls (id : Nat) (ops : List ι) (st : σ) :
    track fresh step id (some st) (ops.map (.call id)) = some (ops.foldl (fun st op => (step st op).1) st) := by
  rw [track, List.foldl_map]
  exact List.foldl_hom some fun _ _ => if_pos rfl

end RimeModel.C16

namespace C16
open RimeModel.C16
variable {σ ι ο : Type}

def addressedTo (id : Nat) : Event ι → Bool
  | .create i => i == id
  | .destroy i => i == id
  | .call i _ => i == id

theorem track1_of_not_addressed (fresh : σ) (step : σ → ι → σ × ο) (id : Nat) (acc : Option σ) {e : Event ι}
    (h : addressedTo id e = false) : track1 fresh step id acc e = acc := by
  cases e <;> exact if_neg (ne_of_beq_false h)

theorem track_filter (fresh : σ) (step : σ → ι → σ × ο) (id : Nat) (t : List (Event ι)) (acc : Option σ) :
    track fresh step id acc t = track fresh step id acc (t.filter (addressedTo id)) := by
  rw [track, track, List.foldl_filter]
  congr
  funext x e
  split
  · rfl
  · next h => exact track1_of_not_addressed fresh step id x (Bool.not_eq_true _ ▸ h)

end C16
