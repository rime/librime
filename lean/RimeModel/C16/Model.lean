/-!
C16 — the service as a map from session ids to independent session cores (service.cc:85-147,
rime_api_impl.h: every entry point looks the session up first).  Generic in the session state `σ`,
its operations `ι`, observations `ο` and step function; instantiated with the M-session model by the
driver (`σ := Ctx`, `step := apiStep env`).
-/
namespace RimeModel.C16

/-- what the client does: create a session (the allocator hands out `id`), destroy one, call one -/
inductive Event (ι : Type) where
  | create (id : Nat)
  | destroy (id : Nat)
  | call (id : Nat) (op : ι)
  deriving Repr

/-- what the client sees: `refused` = the call was rejected because the id is not live -/
inductive Out (ο : Type) where
  | created (ok : Bool)
  | destroyed (ok : Bool)
  | obs (o : ο)
  | refused
  deriving Repr, DecidableEq

structure Svc (σ : Type) where
  sessions : List (Nat × σ) := []      -- Service::sessions_, keyed by id

variable {σ ι ο : Type}

def Svc.lookup (s : Svc σ) (id : Nat) : Option σ :=
  match s.sessions.find? (·.1 == id) with
  | some p => some p.2
  | none => none

def Svc.live (s : Svc σ) : List Nat := s.sessions.map (·.1)

def setAt (l : List (Nat × σ)) (id : Nat) (v : σ) : List (Nat × σ) :=
  l.map (fun p => if p.1 == id then (p.1, v) else p)

/-- one client event.  `fresh` is the state of a new session; `step` the session's own transition.
`create id` models `CreateSession` returning the address `id`: the allocator never returns an address
that is still in use, which is a well-formedness condition on traces — the model refuses
(returns `created false`) otherwise, so the theorems need no side condition on traces. -/
def Svc.step (fresh : σ) (step : σ → ι → σ × ο) (s : Svc σ) : Event ι → Svc σ × Out ο
  | .create id =>
    if s.live.contains id then (s, .created false)
    else ({ sessions := s.sessions ++ [(id, fresh)] }, .created true)
  | .destroy id =>
    if s.live.contains id then ({ sessions := s.sessions.filter (·.1 != id) }, .destroyed true)
    else (s, .destroyed false)
  | .call id op =>
    match s.lookup id with
    | none => (s, .refused)
    | some st => let r := step st op; ({ sessions := setAt s.sessions id r.1 }, .obs r.2)

/-- run a trace, collecting outputs -/
def Svc.run (fresh : σ) (step : σ → ι → σ × ο) : Svc σ → List (Event ι) → Svc σ × List (Out ο)
  | s, [] => (s, [])
  | s, e :: es =>
    let r := Svc.step fresh step s e
    let rest := Svc.run fresh step r.1 es
    (rest.1, r.2 :: rest.2)

/-- a session run alone: its state after its own ops -/
def solo (fresh : σ) (step : σ → ι → σ × ο) (ops : List ι) : σ := ops.foldl (fun st op => (step st op).1) fresh

/-- the ops addressed to the *current incarnation* of `id` in a trace: everything since its last
successful creation (and `none` if it is not live at the end) -/
def project (id : Nat) : List (Event ι) → Option (List ι) → Option (List ι)
  | [], acc => acc
  | .create i :: es, acc => if i = id then (match acc with | none => project id es (some []) | some a => project id es (some a)) else project id es acc
  | .destroy i :: es, acc => if i = id then project id es none else project id es acc
  | .call i op :: es, acc => if i = id then project id es (acc.map (· ++ [op])) else project id es acc

end RimeModel.C16
