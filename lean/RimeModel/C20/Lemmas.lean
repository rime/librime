import RimeModel.C20.Model
/-! C20 — the image `cStrncpy` leaves (length, untouched tail, copied prefix, padding) and `cstr` of a buffer that
holds a NUL-free prefix followed by NUL -/
namespace RimeModel.C20

theorem written_length (src : Bytes) (n : Nat) :
    (src.take n ++ List.replicate (n - src.length) 0).length = n := by
  rw [List.length_append, List.length_take, List.length_replicate]
  rcases Nat.le_total n src.length with h | h
  · rw [Nat.min_eq_left h, Nat.sub_eq_zero_of_le h, Nat.add_zero]
  · rw [Nat.min_eq_right h, Nat.add_sub_cancel' h]

theorem write_front_length {w buf : Bytes} {m : Nat} (hw : w.length = m) (h : m ≤ buf.length) :
    (w ++ buf.drop m).length = buf.length := by
  rw [List.length_append, hw, List.length_drop, Nat.add_sub_cancel' h]

theorem write_front_drop {w : Bytes} (buf : Bytes) {m n : Nat} (hw : w.length = m) (h : m ≤ n) :
    (w ++ buf.drop m).drop n = buf.drop n := by
  rw [← Nat.add_sub_cancel' h, ← List.drop_drop, List.drop_left' hw, List.drop_drop]

theorem cStrncpy_length (dst src : Bytes) (n : Nat) (h : n ≤ dst.length) :
    (cStrncpy dst src n).length = dst.length :=
  write_front_length (written_length src n) h

theorem cStrncpy_drop (dst src : Bytes) {n m : Nat} (h : n ≤ m) :
    (cStrncpy dst src n).drop m = dst.drop m :=
  write_front_drop dst (written_length src n) h

theorem cStrncpy_take (dst src : Bytes) {n k : Nat} (hk : k ≤ src.length) (hn : k ≤ n) :
    (cStrncpy dst src n).take k = src.take k := by
  rw [cStrncpy, List.append_assoc, List.take_append_of_le_length (by rw [List.length_take]; omega),
    List.take_take, Nat.min_eq_left hn]

theorem cStrncpy_get_pad (dst src : Bytes) (n i : Nat) (hi : i < n) (his : src.length ≤ i) :
    (cStrncpy dst src n)[i]? = some 0 := by
  rw [cStrncpy, List.getElem?_append_left (by rw [written_length]; exact hi),
    List.take_of_length_le (by omega), List.getElem?_append_right his, List.getElem?_replicate,
    if_pos (by omega)]

theorem cstr_append_nul (p t : Bytes) (hp : ∀ x ∈ p, x ≠ 0) : cstr (p ++ 0 :: t) = p := by
  rw [cstr, List.takeWhile_append_of_pos fun x hx => bne_iff_ne.2 (hp x hx),
    List.takeWhile_cons_of_neg (by decide), List.append_nil]

theorem cstr_of_take {b src : Bytes} {k : Nat} (hsrc : ∀ x ∈ src, x ≠ 0)
    (hpre : b.take k = src.take k) (hnul : b[k]? = some 0) : cstr b = src.take k := by
  obtain ⟨hk, h0⟩ := List.getElem?_eq_some_iff.1 hnul
  rw [← List.take_append_drop k b, hpre, List.drop_eq_getElem_cons hk, h0]
  exact cstr_append_nul _ _ fun x hx => hsrc x (List.mem_of_mem_take hx)

end RimeModel.C20
