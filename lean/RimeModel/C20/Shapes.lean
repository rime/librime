import RimeModel.C20.Model
import RimeModel.C20.Lemmas
/-! helper lemmas: each safe statement shape meets the buffer contract `Ok` -/
namespace RimeModel.C20

/-- what the property demands of the buffer image `b` left by a copy of `src` with size `n`
into the image `buf`: a NUL within the first n bytes; nothing written beyond n; the C string held is a
(possibly truncated) prefix of the source, and the whole source when it fits -/
def Ok (src buf : Bytes) (n : Nat) (b : Bytes) : Prop :=
  (∃ i, i < n ∧ b[i]? = some 0) ∧
  b.drop n = buf.drop n ∧ b.length = buf.length ∧
  (cstr b) <+: src ∧
  (src.length < n → cstr b = src)

theorem ok_of_take {src buf b : Bytes} {n k : Nat} (hsrc : ∀ x ∈ src, x ≠ 0)
    (hkn : k < n) (hfit : src.length < n → src.length ≤ k)
    (hpre : b.take k = src.take k) (hnul : b[k]? = some 0)
    (hdrop : b.drop n = buf.drop n) (hlen : b.length = buf.length) : Ok src buf n b := by
  have hc : cstr b = src.take k := cstr_of_take hsrc hpre hnul
  refine ⟨⟨k, hkn, hnul⟩, hdrop, hlen, hc ▸ List.take_prefix _ _, fun hlt => ?_⟩
  rw [hc, List.take_of_length_le (hfit hlt)]

theorem strncpy_set_ok {src : Bytes} (hsrc : ∀ x ∈ src, x ≠ 0) {buf : Bytes} {m c : Nat}
    (hn : m + 1 ≤ buf.length) (hc1 : m ≤ c) (hc2 : c ≤ m + 1) :
    Ok src buf (m + 1) ((cStrncpy buf src c).set m 0) := by
  have hlen : (cStrncpy buf src c).length = buf.length := cStrncpy_length _ _ _ (Nat.le_trans hc2 hn)
  have hd : ((cStrncpy buf src c).set m 0).drop (m + 1) = buf.drop (m + 1) := by
    rw [List.drop_set_of_lt (Nat.lt_succ_self m)]
    exact cStrncpy_drop _ _ hc2
  have hl : ((cStrncpy buf src c).set m 0).length = buf.length := by
    rw [List.length_set]
    exact hlen
  rcases Nat.lt_or_ge src.length m with h | h
  · have hm := Nat.le_of_lt h
    refine ok_of_take hsrc (Nat.lt_succ_of_lt h) (fun _ => Nat.le_refl _) ?_ ?_ hd hl
    · rw [List.take_set_of_le hm]
      exact cStrncpy_take _ _ (Nat.le_refl _) (Nat.le_trans hm hc1)
    · rw [List.getElem?_set_ne (Nat.ne_of_gt h)]
      exact cStrncpy_get_pad _ _ _ _ (Nat.lt_of_lt_of_le h hc1) (Nat.le_refl _)
  · refine ok_of_take hsrc (Nat.lt_succ_self m) Nat.le_of_lt_succ ?_ ?_ hd hl
    · rw [List.take_set_of_le (Nat.le_refl _)]
      exact cStrncpy_take _ _ h hc1
    · rw [List.getElem?_set_self (hlen ▸ hn)]

theorem snprintf_image_ok {src : Bytes} (hsrc : ∀ x ∈ src, x ≠ 0) {buf : Bytes} {m : Nat}
    (hn : m + 1 ≤ buf.length) :
    Ok src buf (m + 1) ((src.take m ++ [0]) ++ buf.drop (min src.length m + 1)) := by
  have hl : (src.take m).length = min src.length m := by rw [List.length_take, Nat.min_comm]
  have hw : (src.take m ++ [0]).length = min src.length m + 1 := by rw [List.length_append, hl]; rfl
  have hm : min src.length m + 1 ≤ m + 1 := Nat.succ_le_succ (Nat.min_le_right _ _)
  refine ok_of_take (k := min src.length m) hsrc hm
    (fun h => Nat.le_of_eq (Nat.min_eq_left (Nat.le_of_lt_succ h)).symm) ?_ ?_
    (write_front_drop buf hw hm) (write_front_length hw (Nat.le_trans hm hn))
  · rw [← hl, List.append_assoc, List.take_left, List.length_take, ← List.take_eq_take_min]
  · rw [← hl, List.append_assoc, List.getElem?_append_right (Nat.le_refl _), Nat.sub_self]
    rfl

end RimeModel.C20
