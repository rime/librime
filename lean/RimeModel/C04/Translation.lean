import RimeModel.C04.Menu
/-!
C04 — the translations that feed a menu (src/rime/translation.cc, candidate.cc, gear/uniquifier.cc,
gear/single_char_filter.cc), ported line by line.

* `Gen α` (Menu.lean) is any leaf translation: `exhausted ⇔ = []`, `Peek = head`, `Next = tail`.
* `Merged`      — `MergedTranslation` with the exact `Elect` scheme.
* `CacheTr`     — `CacheTranslation`.
* `Distinct`    — `DistinctTranslation`.
* `Uniq`        — `UniquifiedTranslation`; it shares `candidates_` with the menu, so `create`/`next`
                  take the *currently visible* menu cache as an argument and hand back the mutated one.
                  `fixed = true` is the code as it is now (remembers the texts it handed out in `emitted_`);
                  `fixed = false` is the code before commit 59481ca (`old…` in Props).
* `rearrange`   — `SingleCharFirstTranslation::Rearrange` (the prefetching consumer of the finding).
* `FMenu`       — `Menu::Prepare` over `result_ = [Prefetch ∘] Uniquified`, the stateful pair.
-/
namespace RimeModel.C04

variable {α τ : Type}

/-! ## Candidate::compare -/

/-- what `Candidate::compare` reads.  `quality` is an abstract rank (the C++ value is a double that is
only ever compared) -/
structure Key where
  start : Nat
  stop : Nat
  quality : Int
  deriving Repr, DecidableEq

/-- `Candidate::compare`: start ascending, end descending, quality descending, else draw -/
def Key.compare (a b : Key) : Int :=
  let k : Int := (a.start : Int) - (b.start : Int)
  if k ≠ 0 then k
  else
    let k : Int := (a.stop : Int) - (b.stop : Int)
    if k ≠ 0 then -k
    else if a.quality ≠ b.quality then (if a.quality > b.quality then -1 else 1)
    else 0

/-! ## leaf translations -/

/-- `Peek()` -/
def Gen.peek : Gen α → Option α
  | [] => none
  | x :: _ => x

/-- `UnionTranslation` over leaf translations: `operator+=` keeps the non-exhausted ones, `Peek` / `Next` work on the front
one and drop it when it is exhausted — the pieces one after the other -/
def unionGen (ts : List (Gen α)) : Gen α := (ts.filter (fun t => !t.isEmpty)).flatten

/-- `Peek` / `Next` / `exhausted` called `n` times on a leaf translation, past its exhaustion: `Peek` is null and `Next`
false once it is exhausted (`UniqueTranslation`, `FifoTranslation`, `UnionTranslation`, `CacheTranslation`,
`DistinctTranslation`, `PrefetchTranslation` all start with `if (exhausted()) return …`) -/
def Gen.probe : Nat → Gen α → List (Option α × Bool × Bool)
  | 0, _ => []
  | n + 1, [] => (none, false, true) :: Gen.probe n []
  | n + 1, x :: xs => (x, true, xs.isEmpty) :: Gen.probe n xs

/-! ## MergedTranslation -/

structure Merged (α : Type) where
  /-- `translations_` -/
  trs : List (Gen α) := []
  /-- `elected_` -/
  elected : Nat := 0
  exhausted : Bool := true
  deriving Repr, DecidableEq

/-- `current->Compare(next, previous_candidates_)` (`Translation::Compare`; the candidate list argument
is unused by the base class) -/
def trCompare (cmp : α → α → Int) (cur : Gen α) (other : Option (Gen α)) : Int :=
  match other with
  | none => -1                                  -- !other
  | some o =>
    if o.isEmpty then -1                        -- other->exhausted()
    else if cur.isEmpty then 1                  -- exhausted()
    else match cur.peek, o.peek with
      | some a, some b => cmp a b
      | _, _ => 1                               -- !ours || !theirs

/-- the `for` loop of `MergedTranslation::Elect`.  Note the C++ `k = 0; continue;` after an erase
re-enters the loop through `++k`, i.e. at `k = 1` — ported as is.  (`fuel` bounds the iterations; the
erase branch is dead under `AllLive`, see `electLoop_live` in MergedLemmas.lean.) -/
def electLoop (cmp : α → α → Int) : Nat → List (Gen α) → Nat → List (Gen α) × Nat
  | 0, trs, k => (trs, k)
  | fuel + 1, trs, k =>
    match trs[k]? with
    | none => (trs, k)                          -- k >= size: loop ends
    | some cur =>
      if trCompare cmp cur trs[k + 1]? ≤ 0 then
        if cur.isEmpty then electLoop cmp fuel (trs.eraseIdx k) 1
        else (trs, k)                           -- break
      else electLoop cmp fuel trs (k + 1)

/-- `MergedTranslation::Elect` -/
def Merged.elect (cmp : α → α → Int) (m : Merged α) : Merged α :=
  if m.trs.isEmpty then { m with exhausted := true }
  else
    let r := electLoop cmp ((m.trs.length + 1) * (m.trs.length + 1)) m.trs 0
    { trs := r.1, elected := r.2, exhausted := decide (r.2 ≥ r.1.length) }

/-- `operator+=` -/
def Merged.add (cmp : α → α → Int) (m : Merged α) (t : Gen α) : Merged α :=
  if t.isEmpty then m else Merged.elect cmp { m with trs := m.trs ++ [t] }

/-- `MergedTranslation::Peek` -/
def Merged.peek (m : Merged α) : Option α :=
  if m.exhausted then none else (m.trs[m.elected]?.getD []).peek

/-- `MergedTranslation::Next` -/
def Merged.next (cmp : α → α → Int) (m : Merged α) : Merged α :=
  if m.exhausted then m
  else
    let cur := m.trs[m.elected]?.getD []
    let trs1 := m.trs.set m.elected cur.tail                        -- translations_[elected_]->Next()
    let trs2 := if cur.tail.isEmpty then trs1.eraseIdx m.elected else trs1   -- erase if now exhausted
    Merged.elect cmp { m with trs := trs2 }

/-- `Peek`, then `Next` (its value: `!exhausted()`), then `exhausted()`, `n` times, past the exhaustion -/
def Merged.probe (cmp : α → α → Int) : Nat → Merged α → List (Option α × Bool × Bool)
  | 0, _ => []
  | n + 1, m =>
    let m' := m.next cmp
    (m.peek, !m'.exhausted, m'.exhausted) :: Merged.probe cmp n m'

/-- `Menu::Menu` + `AddTranslation` for each translation in turn -/
def Merged.ofList (cmp : α → α → Int) (ts : List (Gen α)) : Merged α :=
  ts.foldl (Merged.add cmp) {}

/-- what the merged translation yields when driven to exhaustion by Peek/Next (fuel = steps) -/
def Merged.drain (cmp : α → α → Int) : Nat → Merged α → Gen α
  | 0, _ => []
  | fuel + 1, m => if m.exhausted then [] else m.peek :: Merged.drain cmp fuel (m.next cmp)

def Merged.size (m : Merged α) : Nat := (m.trs.map List.length).sum

/-- the merged translation as a generator -/
def Merged.output (cmp : α → α → Int) (m : Merged α) : Gen α := Merged.drain cmp m.size m

/-! ## CacheTranslation -/

structure CacheTr (α : Type) where
  /-- `translation_` -/
  inner : Gen α
  /-- `cache_` -/
  cache : Option α := none
  exhausted : Bool
  deriving Repr, DecidableEq

def CacheTr.create (inner : Gen α) : CacheTr α := { inner := inner, cache := none, exhausted := inner.isEmpty }

def CacheTr.next (t : CacheTr α) : CacheTr α × Bool :=
  if t.exhausted then (t, false)
  else
    let inner := t.inner.tail
    ({ inner := inner, cache := none, exhausted := inner.isEmpty }, true)

def CacheTr.peek (t : CacheTr α) : Option α × CacheTr α :=
  if t.exhausted then (none, t)
  else match t.cache with
    | some c => (some c, t)
    | none => (t.inner.peek, { t with cache := t.inner.peek })

/-! ## DistinctTranslation (a `CacheTranslation` over a null-free source: `Peek()->text()` is
dereferenced unconditionally; `src.head` is `CacheTranslation::Peek()`, `src.tail` its `Next()`) -/

structure Distinct (α τ : Type) where
  src : List α
  /-- `candidate_set_` -/
  seen : List τ := []
  deriving Repr, DecidableEq

/-- `while (!exhausted() && AlreadyHas(Peek()->text())) CacheTranslation::Next();` -/
def skipSeen [DecidableEq τ] (text : α → τ) (seen : List τ) : List α → List α
  | [] => []
  | y :: ys => if text y ∈ seen then skipSeen text seen ys else y :: ys

/-- `DistinctTranslation::Next` -/
def Distinct.next [DecidableEq τ] (text : α → τ) (d : Distinct α τ) : Distinct α τ :=
  match d.src with
  | [] => d
  | x :: xs =>
    let seen := text x :: d.seen
    { src := skipSeen text seen xs, seen := seen }

def Distinct.drain [DecidableEq τ] (text : α → τ) : Nat → Distinct α τ → List α
  | 0, _ => []
  | fuel + 1, d =>
    match d.src with
    | [] => []
    | x :: _ => x :: Distinct.drain text fuel (d.next text)

def Distinct.output [DecidableEq τ] (text : α → τ) (src : List α) : List α :=
  Distinct.drain text src.length { src := src }

/-- keep the first occurrence of every text not in `seen` -/
def dedupBy [DecidableEq τ] (text : α → τ) : List α → List τ → List α
  | [], _ => []
  | x :: xs, seen => if text x ∈ seen then dedupBy text xs seen else x :: dedupBy text xs (text x :: seen)

/-! ## UniquifiedTranslation -/

/-- a menu cache entry as the uniquifier sees it: the genuine first item and the items appended to
its `UniquifiedCandidate` (text, comment and preedit shown are those of `first`) -/
structure Group (α : Type) where
  first : α
  more : List α := []
  deriving Repr, DecidableEq

def Group.append (g : Group α) (x : α) : Group α := { g with more := g.more ++ [x] }

structure Uniq (α τ : Type) where
  /-- the `CacheTranslation` part over the wrapped translation: head = `Peek()` -/
  src : List α
  /-- `emitted_` -/
  emitted : List τ := []
  deriving Repr, DecidableEq

/-- `UniquifiedTranslation::Uniquify()` on (source, emitted_, *candidates_) -/
def uniquify [DecidableEq τ] (text : α → τ) (fixed : Bool) : List α → List τ → List (Group α) → Uniq α τ × List (Group α)
  | [], em, vis => ({ src := [], emitted := em }, vis)              -- exhausted: return false
  | x :: xs, em, vis =>
    match vis.findIdx? (fun g => text g.first == text x) with      -- find_text_match
    | some j => uniquify text fixed xs em (vis.modify j (·.append x))   -- Append(next); CacheTranslation::Next()
    | none =>
      if fixed then
        if text x ∈ em then uniquify text fixed xs em vis           -- !emitted_.insert(..).second: drop
        else ({ src := x :: xs, emitted := text x :: em }, vis)     -- a unique candidate
      else ({ src := x :: xs, emitted := em }, vis)

/-- constructor: `CacheTranslation(translation)`, then `Uniquify()` -/
def Uniq.create [DecidableEq τ] (text : α → τ) (fixed : Bool) (src : List α) (vis : List (Group α)) : Uniq α τ × List (Group α) :=
  uniquify text fixed src [] vis

def Uniq.exhausted (u : Uniq α τ) : Bool := u.src.isEmpty

def Uniq.peek (u : Uniq α τ) : Option α := u.src.head?

/-- `Next()`: `CacheTranslation::Next() && Uniquify()` -/
def Uniq.next [DecidableEq τ] (text : α → τ) (fixed : Bool) (u : Uniq α τ) (vis : List (Group α)) : Uniq α τ × List (Group α) :=
  match u.src with
  | [] => (u, vis)
  | _ :: xs => uniquify text fixed xs u.emitted vis

/-- what a consumer pulls (Peek, then Next) when it shows the uniquifier the caches `vs` in turn;
the pulls stop when the translation is exhausted or the consumer stops asking -/
def Uniq.pulls [DecidableEq τ] (text : α → τ) (fixed : Bool) : List (List (Group α)) → Uniq α τ → List α
  | [], _ => []
  | v :: vs, u =>
    match u.src with
    | [] => []
    | x :: _ => x :: Uniq.pulls text fixed vs (u.next text fixed v).1

/-! ## SingleCharFirstTranslation (a `PrefetchTranslation`) -/

/-- the `while` loop of `Rearrange` over a uniquified translation, with the menu cache `vis` as it is
while the filter chain is being built: returns (top, bottom, remaining translation, cache) -/
def rearrangeLoop [DecidableEq τ] (text : α → τ) (fixed : Bool) (isTable : α → Bool) (single : α → Bool) :
    Nat → Uniq α τ → List (Group α) → List α → List α → List α × List α × Uniq α τ × List (Group α)
  | 0, u, vis, top, bottom => (top, bottom, u, vis)
  | fuel + 1, u, vis, top, bottom =>
    match u.src with
    | [] => (top, bottom, u, vis)
    | x :: _ =>
      if !isTable x then (top, bottom, u, vis)                   -- break
      else
        let r := u.next text fixed vis
        if single x then rearrangeLoop text fixed isTable single fuel r.1 r.2 (top ++ [x]) bottom
        else rearrangeLoop text fixed isTable single fuel r.1 r.2 top (bottom ++ [x])

/-- `Rearrange` over a plain generator (the filter placed before the uniquifier or without it):
the rearranged output as a list -/
def rearrangeList (isTable : α → Bool) (single : α → Bool) (src : List α) : List α :=
  let pre := src.takeWhile isTable
  pre.filter single ++ pre.filter (fun x => !single x) ++ src.dropWhile isTable

/-! ## Menu over `result_ = [SingleCharFirst ∘] Uniquified` -/

/-- the stateful pair: menu cache + uniquified translation, with the prefetch queue of a
`PrefetchTranslation` applied after the uniquifier in between (`queue = []` when there is none) -/
structure FMenu (α τ : Type) where
  cache : List (Group α) := []
  queue : List α := []
  u : Uniq α τ
  deriving Repr, DecidableEq

def FMenu.exhausted (m : FMenu α τ) : Bool := m.queue.isEmpty && m.u.exhausted

/-- `Menu::Prepare` over this `result_` (fuel = iterations; each consumes a queue or source element) -/
def FMenu.prepareLoop [DecidableEq τ] (text : α → τ) (fixed : Bool) (requested : Nat) : Nat → FMenu α τ → FMenu α τ
  | 0, m => m
  | fuel + 1, m =>
    if m.cache.length < requested then
      match m.queue with
      | q :: qs =>                                                -- PrefetchTranslation: cache_ non-empty
        FMenu.prepareLoop text fixed requested fuel { m with cache := m.cache ++ [{ first := q }], queue := qs }
      | [] =>
        match m.u.src with
        | [] => m                                                 -- exhausted
        | x :: _ =>
          let cache1 := m.cache ++ [{ first := x }]               -- candidates_.push_back(Peek())
          let r := m.u.next text fixed cache1                     -- Next() → Uniquify() sees the new cache
          FMenu.prepareLoop text fixed requested fuel { cache := r.2, queue := [], u := r.1 }
    else m

def FMenu.prepare [DecidableEq τ] (text : α → τ) (fixed : Bool) (m : FMenu α τ) (requested : Nat) : FMenu α τ × Nat :=
  let m' := FMenu.prepareLoop text fixed requested (m.queue.length + m.u.src.length) m
  (m', m'.cache.length)

/-- engine.cc builds the menu: translations merged, then `uniquifier` applied to an empty cache -/
def FMenu.ofUniq [DecidableEq τ] (text : α → τ) (fixed : Bool) (src : List α) : FMenu α τ :=
  let r := Uniq.create text fixed src []
  { cache := r.2, queue := [], u := r.1 }

/-- … then `single_char_filter` applied after it (cangjie5's order) -/
def FMenu.ofUniqThenSingleChar [DecidableEq τ] (text : α → τ) (fixed : Bool) (isTable single : α → Bool) (src : List α) : FMenu α τ :=
  let r := Uniq.create text fixed src []
  let t := rearrangeLoop text fixed isTable single (src.length + 1) r.1 r.2 [] []
  { cache := t.2.2.2, queue := t.1 ++ t.2.1, u := t.2.2.1 }

/-! the remaining `Menu` members over this `result_` — the same code as `Menu.createPage` /
`getCandidateAt` / `empty` (Menu.lean), calling this `Prepare` -/

def FMenu.mkPage (m : FMenu α τ) (pageSize pageNo startPos endPos : Nat) : Page (Group α) :=
  { pageSize := pageSize, pageNo := pageNo,
    isLast := m.exhausted && endPos == m.cache.length,
    cands := (m.cache.drop startPos).take (endPos - startPos) }

def FMenu.createPage [DecidableEq τ] (text : α → τ) (fixed : Bool) (m : FMenu α τ) (pageSize pageNo : Nat) :
    Option (Page (Group α)) × FMenu α τ :=
  let startPos := pageSize * pageNo
  let endPos := startPos + pageSize
  if endPos > m.cache.length then
    let r : FMenu α τ × Nat := if m.exhausted then (m, m.cache.length) else m.prepare text fixed endPos
    if startPos ≥ r.2 then (none, r.1)
    else (some (r.1.mkPage pageSize pageNo startPos (min (startPos + pageSize) r.2)), r.1)
  else (some (m.mkPage pageSize pageNo startPos endPos), m)

def FMenu.getCandidateAt [DecidableEq τ] (text : α → τ) (fixed : Bool) (m : FMenu α τ) (index : Nat) :
    Option (Group α) × FMenu α τ :=
  if index ≥ m.cache.length then
    let r := m.prepare text fixed (index + 1)
    if index ≥ r.2 then (none, r.1) else (r.1.cache[index]?, r.1)
  else (m.cache[index]?, m)

def FMenu.empty (m : FMenu α τ) : Bool := m.cache.isEmpty && m.exhausted

end RimeModel.C04
