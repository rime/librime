import RimeModel.C04.Menu
/-! `Gen.outputs`, and what `Menu::Prepare` moves from the translation to the cache and how much -/
namespace RimeModel.C04

variable {α : Type}

theorem outputs_nil : Gen.outputs ([] : Gen α) = [] := rfl

theorem outputs_cons (x : Option α) (g : Gen α) : Gen.outputs (x :: g) = x.toList ++ Gen.outputs g := by
  cases x <;> rfl

theorem outputs_append (a b : Gen α) : Gen.outputs (a ++ b) = Gen.outputs a ++ Gen.outputs b :=
  List.filterMap_append

theorem outputs_map_some (l : List α) : Gen.outputs (l.map some) = l := by
  rw [Gen.outputs, List.filterMap_map]
  exact List.filterMap_some

theorem Gen.NoNull.tail {x : Option α} {g : Gen α} (h : Gen.NoNull (x :: g)) : Gen.NoNull g :=
  fun y hy => h y (List.mem_cons_of_mem _ hy)

theorem Gen.NoNull.outputs_length {g : Gen α} (h : Gen.NoNull g) : (Gen.outputs g).length = g.length := by
  induction g with
  | nil => rfl
  | cons x xs ih =>
    cases x with
    | none => exact absurd rfl (h none (List.mem_cons_self))
    | some a => exact congrArg (· + 1) (ih (Gen.NoNull.tail h))

theorem prepareLoop_of_le {n : Nat} {c : List α} (h : n ≤ c.length) (r : Gen α) :
    prepareLoop n c r = { cache := c, rest := r } := by
  cases r with
  | nil => rfl
  | cons x xs => unfold prepareLoop; rw [if_neg (Nat.not_lt.mpr h)]

theorem prepareLoop_cons {n : Nat} {c : List α} (h : c.length < n) (x : Option α) (r : Gen α) :
    prepareLoop n c (x :: r) = prepareLoop n (c ++ x.toList) r := by
  cases x with
  | none => rw [prepareLoop.eq_3, if_pos h, Option.toList_none, List.append_nil]
  | some a => rw [prepareLoop.eq_2, if_pos h, Option.toList_some]

theorem prepareLoop_moves (n : Nat) (r : Gen α) (c : List α) :
    ∃ pre, r = pre ++ (prepareLoop n c r).rest ∧ (prepareLoop n c r).cache = c ++ Gen.outputs pre := by
  induction r generalizing c with
  | nil => exact ⟨[], rfl, (List.append_nil c).symm⟩
  | cons x xs ih =>
    by_cases h : c.length < n
    · rw [prepareLoop_cons h]
      obtain ⟨pre, h1, h2⟩ := ih (c ++ x.toList)
      exact ⟨x :: pre, congrArg (x :: ·) h1, by rw [h2, outputs_cons, List.append_assoc]⟩
    · rw [prepareLoop_of_le (Nat.le_of_not_lt h)]
      exact ⟨[], rfl, (List.append_nil c).symm⟩

theorem prepareLoop_length {n : Nat} (r : Gen α) {c : List α} (h : c.length ≤ n) :
    (prepareLoop n c r).cache.length = min n (c.length + (Gen.outputs r).length) := by
  induction r generalizing c with
  | nil => exact (Nat.min_eq_right h).symm
  | cons x xs ih =>
    by_cases hlt : c.length < n
    · have hx : (c ++ x.toList).length ≤ n := by
        rw [List.length_append]
        exact Nat.le_trans (Nat.add_le_add_left Option.length_toList_le _) hlt
      rw [prepareLoop_cons hlt, ih hx, outputs_cons, List.length_append, List.length_append, Nat.add_assoc]
    · rw [prepareLoop_of_le (Nat.le_of_not_lt hlt)]
      exact (Nat.le_antisymm h (Nat.le_of_not_lt hlt)).trans
        (Nat.min_eq_left (Nat.le_trans (Nat.le_of_not_lt hlt) (Nat.le_add_right _ _))).symm

theorem Menu.Repr.length_eq {m : Menu α} {full : List α} (h : m.Repr full) :
    m.cache.length + (Gen.outputs m.rest).length = full.length := by
  rw [← h, Menu.full, List.length_append]

theorem Menu.Repr.length_le {m : Menu α} {full : List α} (h : m.Repr full) : m.cache.length ≤ full.length := by
  rw [← Menu.Repr.length_eq h]; exact Nat.le_add_right _ _

theorem Menu.Repr.getElem? {m : Menu α} {full : List α} (h : m.Repr full) {i : Nat} (hi : i < m.cache.length) :
    m.cache[i]? = full[i]? := by
  rw [← h, Menu.full, List.getElem?_append_left hi]

theorem prepare_snd (m : Menu α) (n : Nat) : (m.prepare n).2 = (m.prepare n).1.cache.length := rfl

theorem prepare_of_le {m : Menu α} {n : Nat} (h : n ≤ m.cache.length) : m.prepare n = (m, m.cache.length) := by
  rw [Menu.prepare, prepareLoop_of_le h]

theorem prepare_of_exhausted {m : Menu α} (h : m.rest = []) (n : Nat) : m.prepare n = (m, m.cache.length) := by
  rw [Menu.prepare, h]
  exact congrArg (fun r : Gen α => ((⟨m.cache, r⟩ : Menu α), m.cache.length)) h.symm

theorem prepare_repr {m : Menu α} {full : List α} (h : m.Repr full) (n : Nat) : (m.prepare n).1.Repr full := by
  obtain ⟨pre, h1, h2⟩ := prepareLoop_moves n m.rest m.cache
  show (prepareLoop n m.cache m.rest).cache ++ Gen.outputs (prepareLoop n m.cache m.rest).rest = full
  rw [h2, List.append_assoc, ← outputs_append, ← h1]
  exact h

theorem prepare_count_eq {m : Menu α} {full : List α} (h : m.Repr full) (n : Nat) :
    (m.prepare n).2 = max m.cache.length (min n full.length) := by
  rcases Nat.le_total n m.cache.length with hn | hn
  · rw [prepare_of_le hn]
    exact (Nat.max_eq_left (Nat.le_trans (Nat.min_le_left _ _) hn)).symm
  · rw [Nat.max_eq_right (Nat.le_min.mpr ⟨hn, Menu.Repr.length_le h⟩), ← Menu.Repr.length_eq h]
    exact prepareLoop_length m.rest hn

theorem prepare_noNull {m : Menu α} (h : Gen.NoNull m.rest) (n : Nat) : Gen.NoNull (m.prepare n).1.rest := by
  obtain ⟨pre, h1, _⟩ := prepareLoop_moves n m.rest m.cache
  rw [h1] at h
  exact fun y hy => h y (List.mem_append_right pre hy)

theorem prepare_cache_prefix (m : Menu α) (n : Nat) : ∃ moved, (m.prepare n).1.cache = m.cache ++ moved :=
  have ⟨pre, _, h2⟩ := prepareLoop_moves n m.rest m.cache
  ⟨Gen.outputs pre, h2⟩

end RimeModel.C04
