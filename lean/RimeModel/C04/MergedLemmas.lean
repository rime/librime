import RimeModel.C04.Translation
/-! `MergedTranslation`: well-formedness invariant, `Elect` under it, the output is a merge -/
namespace RimeModel.C04

variable {α β : Type}

/-- `out` is an interleaving of the lists `ls`: built by repeatedly taking the head of one of them
(an empty list may be dropped from the collection at any time) -/
inductive IsMerge : List (List β) → List β → Prop
  | done {ls : List (List β)} : (∀ l ∈ ls, l = []) → IsMerge ls []
  | take {ls : List (List β)} {out : List β} (k : Nat) (x : β) (t : List β) :
      ls[k]? = some (x :: t) → IsMerge (ls.set k t) out → IsMerge ls (x :: out)
  | drop {ls : List (List β)} {out : List β} (k : Nat) :
      ls[k]? = some [] → IsMerge (ls.eraseIdx k) out → IsMerge ls out

theorem flatten_set_perm (ls : List (List β)) (k : Nat) (x : β) (t : List β) (h : ls[k]? = some (x :: t)) :
    ls.flatten.Perm (x :: (ls.set k t).flatten) := by
  induction ls generalizing k with
  | nil => cases h
  | cons l ls ih =>
    cases k with
    | zero => cases h; exact .refl _
    | succ k => exact (List.Perm.append_left l (ih k h)).trans List.perm_middle

theorem flatten_eraseIdx_nil (ls : List (List β)) (k : Nat) (h : ls[k]? = some []) :
    (ls.eraseIdx k).flatten = ls.flatten := by
  induction ls generalizing k with
  | nil => cases h
  | cons l ls ih =>
    cases k with
    | zero => cases h; rfl
    | succ k => exact congrArg (l ++ ·) (ih k h)

theorem IsMerge.perm {ls : List (List β)} {out : List β} (h : IsMerge ls out) : out.Perm ls.flatten := by
  induction h with
  | done hall => rw [List.flatten_eq_nil_iff.mpr hall]
  | take k x t hk _ ih =>
    exact ((List.Perm.cons x ih)).trans (flatten_set_perm _ k x t hk).symm
  | drop k hk _ ih => rw [← flatten_eraseIdx_nil _ k hk]; exact ih

theorem IsMerge.sublist {ls : List (List β)} {out : List β} (h : IsMerge ls out) : ∀ l ∈ ls, l.Sublist out := by
  induction h with
  | done hall => intro l hl; rw [hall l hl]; exact List.nil_sublist _
  | @take ls out k x t hk _ ih =>
    intro l hl
    obtain ⟨j, hj⟩ := List.mem_iff_getElem?.mp hl
    by_cases hjk : k = j
    · rw [← hjk, hk] at hj
      cases hj
      exact (ih t (List.mem_set (List.getElem?_eq_some_iff.mp hk).1 t)).cons_cons x
    · exact (ih l (List.mem_iff_getElem?.mpr ⟨j, by rw [List.getElem?_set_ne hjk]; exact hj⟩)).cons x
  | @drop ls out k hk _ ih =>
    intro l hl
    obtain ⟨j, hj⟩ := List.mem_iff_getElem?.mp hl
    by_cases hjk : j = k
    · rw [hjk, hk] at hj; cases hj; exact List.nil_sublist _
    · exact ih l (List.mem_eraseIdx_iff_getElem?.mpr ⟨j, hjk, hj⟩)

/-- no exhausted translation is kept in `translations_` -/
def AllLive (trs : List (Gen α)) : Prop := ∀ t ∈ trs, t ≠ []

structure Merged.WF (m : Merged α) : Prop where
  live : AllLive m.trs
  exh : m.exhausted = true ↔ m.trs = []
  elected : m.exhausted = false → m.elected < m.trs.length

theorem trCompare_last (cmp : α → α → Int) (cur : Gen α) : trCompare cmp cur none = -1 := rfl

theorem electLoop_live (cmp : α → α → Int) {trs : List (Gen α)} (hl : AllLive trs) (fuel k : Nat)
    (hk : k < trs.length) (hf : trs.length - k ≤ fuel) :
    (electLoop cmp fuel trs k).1 = trs ∧ (electLoop cmp fuel trs k).2 < trs.length := by
  induction fuel generalizing k with
  | zero => exact absurd (Nat.sub_pos_of_lt hk) (Nat.not_lt.mpr hf)
  | succ fuel ih =>
    unfold electLoop
    rw [List.getElem?_eq_getElem hk]
    dsimp only
    by_cases hc : trCompare cmp trs[k] trs[k + 1]? ≤ 0
    · rw [if_pos hc, List.isEmpty_eq_false_iff.mpr (hl _ (List.getElem_mem hk))]
      exact ⟨rfl, hk⟩
    · rw [if_neg hc]
      -- the last translation compares `-1` with nothing: the scan stops there at the latest
      have hk1 : k + 1 < trs.length :=
        Nat.lt_of_not_le fun h => hc (by rw [List.getElem?_eq_none_iff.mpr h, trCompare_last]; decide)
      exact ih (k + 1) hk1 (by rw [Nat.sub_add_eq]; exact Nat.sub_le_of_le_add hf)

theorem elect_wf (cmp : α → α → Int) (m : Merged α) (hl : AllLive m.trs) :
    (m.elect cmp).WF ∧ (m.elect cmp).trs = m.trs := by
  unfold Merged.elect
  by_cases hem : m.trs.isEmpty = true
  · rw [if_pos hem]
    exact ⟨⟨hl, ⟨fun _ => List.isEmpty_iff.mp hem, fun _ => rfl⟩, nofun⟩, rfl⟩
  · rw [if_neg hem]
    have hne : m.trs ≠ [] := fun h => hem (List.isEmpty_iff.mpr h)
    obtain ⟨e1, e2⟩ := electLoop_live cmp hl ((m.trs.length + 1) * (m.trs.length + 1)) 0
      (List.length_pos_iff.mpr hne) (Nat.le_trans (Nat.sub_le _ _) (Nat.le_trans (Nat.le_succ _) (Nat.le_mul_self _)))
    generalize electLoop cmp ((m.trs.length + 1) * (m.trs.length + 1)) m.trs 0 = r at e1 e2 ⊢
    obtain ⟨t, k⟩ := r
    subst e1
    exact ⟨⟨hl, ⟨fun h => absurd (of_decide_eq_true h) (Nat.not_le.mpr e2), fun h => absurd h hne⟩, fun _ => e2⟩, rfl⟩

theorem Merged.WF.empty : (({} : Merged α)).WF :=
  ⟨(by intro t h; cases h), (by simp), (by intro h; cases h)⟩

/-- `n` × `Next()` -/
def iterNext (cmp : α → α → Int) : Nat → Merged α → Merged α
  | 0, m => m
  | n + 1, m => iterNext cmp n (m.next cmp)

theorem add_spec (cmp : α → α → Int) {m : Merged α} (h : m.WF) (t : Gen α) :
    (m.add cmp t).WF ∧ (m.add cmp t).trs = m.trs ++ [t].filter (fun t => !t.isEmpty) := by
  unfold Merged.add
  cases t with
  | nil => exact ⟨h, (List.append_nil _).symm⟩
  | cons x xs =>
    exact elect_wf cmp _ fun s hs => (List.mem_append.mp hs).elim (h.live s)
      (fun h1 => by rw [List.mem_singleton.mp h1]; exact List.cons_ne_nil x xs)

theorem ofList_spec (cmp : α → α → Int) (ts : List (Gen α)) :
    (Merged.ofList cmp ts).WF ∧ (Merged.ofList cmp ts).trs = ts.filter (fun t => !t.isEmpty) := by
  have : ∀ (ts : List (Gen α)) (m : Merged α), m.WF →
      (ts.foldl (Merged.add cmp) m).WF ∧ (ts.foldl (Merged.add cmp) m).trs = m.trs ++ ts.filter (fun t => !t.isEmpty) := by
    intro ts
    induction ts with
    | nil => intro m h; exact ⟨h, (List.append_nil _).symm⟩
    | cons t ts ih =>
      intro m h
      obtain ⟨a, b⟩ := add_spec cmp h t
      obtain ⟨c, d⟩ := ih _ a
      exact ⟨c, by rw [List.foldl_cons, d, b, List.append_assoc, ← List.filter_append]; rfl⟩
  exact this ts {} Merged.WF.empty

theorem flatten_filter_nonempty (ts : List (List β)) : (ts.filter (fun t => !t.isEmpty)).flatten = ts.flatten := by
  induction ts with
  | nil => rfl
  | cons t ts ih =>
    cases t with
    | nil => exact ih
    | cons x xs => exact congrArg ((x :: xs) ++ ·) ih

/-- the list of translations after `Next()`, before the new election -/
def nextTrs (m : Merged α) : List (Gen α) :=
  let cur := m.trs[m.elected]?.getD []
  let trs1 := m.trs.set m.elected cur.tail
  if cur.tail.isEmpty then trs1.eraseIdx m.elected else trs1

theorem next_eq (cmp : α → α → Int) (m : Merged α) (h : m.exhausted = false) :
    m.next cmp = Merged.elect cmp { m with trs := nextTrs m } := by
  unfold Merged.next nextTrs
  rw [h]; rfl

theorem next_of_exhausted (cmp : α → α → Int) {m : Merged α} (h : m.exhausted = true) : m.next cmp = m := by
  unfold Merged.next; rw [if_pos h]

theorem elected_cons {m : Merged α} (h : m.WF) (he : m.exhausted = false) :
    ∃ x t, m.trs[m.elected]? = some (x :: t) := by
  have hlt := h.elected he
  have hne := h.live _ (List.getElem_mem hlt)
  rw [List.getElem?_eq_getElem hlt]
  cases hc : m.trs[m.elected] with
  | nil => exact absurd hc hne
  | cons x t => exact ⟨x, t, rfl⟩

/-- the elected translation has advanced past `x` and has gone if that exhausted it -/
theorem nextTrs_spec {m : Merged α} (h : m.WF) {x : Option α} {t : Gen α} (hxt : m.trs[m.elected]? = some (x :: t)) :
    AllLive (nextTrs m) ∧ (nextTrs m).flatten.length + 1 = m.trs.flatten.length ∧
    ∀ out, IsMerge (nextTrs m) out → IsMerge m.trs (x :: out) := by
  have hself : (m.trs.set m.elected t)[m.elected]? = some t :=
    List.getElem?_set_self (List.getElem?_eq_some_iff.mp hxt).1
  have hset := (flatten_set_perm m.trs m.elected x t hxt).length_eq
  unfold nextTrs
  rw [hxt]
  dsimp only [Option.getD_some, List.tail_cons]
  cases t with
  | nil =>
    exact ⟨fun s hs => h.live s (List.mem_of_mem_eraseIdx (List.eraseIdx_set_eq ▸ hs)),
      (congrArg (·.length + 1) (flatten_eraseIdx_nil _ _ hself)).trans hset.symm,
      fun out ho => .take m.elected x [] hxt (.drop m.elected hself ho)⟩
  | cons y t' =>
    exact ⟨fun s hs => (List.mem_or_eq_of_mem_set hs).elim (h.live s) (· ▸ List.cons_ne_nil y t'), hset.symm,
      fun out ho => .take m.elected x _ hxt ho⟩

theorem next_spec (cmp : α → α → Int) {m : Merged α} (h : m.WF) (he : m.exhausted = false) :
    (m.next cmp).WF ∧ (m.next cmp).size + 1 = m.size ∧
    ∀ out, IsMerge (m.next cmp).trs out → IsMerge m.trs (m.peek :: out) := by
  obtain ⟨x, t, hxt⟩ := elected_cons h he
  obtain ⟨hl, hlen, hm⟩ := nextTrs_spec h hxt
  obtain ⟨hwf, htrs⟩ := elect_wf cmp { m with trs := nextTrs m } hl
  rw [← next_eq cmp m he] at hwf htrs
  have htrs : (m.next cmp).trs = nextTrs m := htrs
  have hpeek : m.peek = x := by unfold Merged.peek; rw [he, hxt]; rfl
  rw [Merged.size, Merged.size, ← List.length_flatten, ← List.length_flatten, htrs]
  exact ⟨hwf, hlen, hpeek ▸ hm⟩

theorem isMerge_of_exhausted {m : Merged α} (h : m.WF) (he : m.exhausted = true) : IsMerge m.trs [] := by
  rw [h.exh.mp he]; exact IsMerge.done nofun

/-- driven by Peek/Next, the merged translation yields a merge of what it holds and is exhausted after as many steps
as it holds elements -/
theorem drain_spec (cmp : α → α → Int) (fuel : Nat) (m : Merged α) (h : m.WF) (hs : m.size ≤ fuel) :
    IsMerge m.trs (Merged.drain cmp fuel m) ∧ (iterNext cmp fuel m).exhausted = true := by
  induction fuel generalizing m with
  | zero =>
    cases he : m.exhausted with
    | true => exact ⟨isMerge_of_exhausted h he, he⟩
    | false => exact absurd ((next_spec cmp h he).2.1 ▸ hs : (m.next cmp).size + 1 ≤ 0) (Nat.not_succ_le_zero _)
  | succ fuel ih =>
    rw [Merged.drain, iterNext]
    cases he : m.exhausted with
    | true =>
      rw [next_of_exhausted cmp he]
      exact ⟨isMerge_of_exhausted h he, (ih m h (by rw [Merged.size, h.exh.mp he]; exact Nat.zero_le _)).2⟩
    | false =>
      obtain ⟨hwf, hsize, hm⟩ := next_spec cmp h he
      obtain ⟨i1, i2⟩ := ih _ hwf (Nat.le_of_succ_le_succ (Nat.le_trans (Nat.le_of_eq hsize) hs))
      rw [if_neg Bool.false_ne_true]
      exact ⟨hm _ i1, i2⟩

end RimeModel.C04
