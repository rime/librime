import RimeModel.C04.Seg
import RimeModel.C04.MenuSpec
/-! the lazy segment (code) refines the full-list segment (session model) -/
namespace RimeModel.C04

variable {α : Type}

/-! `Prepare(n)` returns `min n |full|`, or more than that when more had been cached — and then at least `n`.  Every
caller only compares the count with numbers below `n`, so it computes the same from either. -/

theorem prepare_count_use {β : Type} (f : Nat → β) {n : Nat} {v : β} (hv : ∀ k, n ≤ k → f k = v)
    {m : Menu α} {full : List α} (h : m.Repr full) : f (m.prepare n).2 = f (min n full.length) := by
  rw [prepare_count_eq h]
  rcases Nat.le_total n full.length with hn | hn
  · rw [Nat.min_eq_left hn, hv _ (Nat.le_max_right _ _), hv _ (Nat.le_refl _)]
  · rw [Nat.min_eq_right hn, Nat.max_eq_right (Menu.Repr.length_le h)]

theorem highlightIndex_of_lt {count index : Nat} (h : index < count) : highlightIndex count index = index := by
  unfold highlightIndex
  rw [if_pos (Nat.zero_lt_of_lt h)]
  exact Nat.min_eq_right (Nat.le_sub_one_of_lt h)

theorem nextCandidateIndex_of_lt {count sel : Nat} (h : sel + 1 < count) :
    nextCandidateIndex count sel = some (sel + 1) := by
  unfold nextCandidateIndex
  exact if_neg (Nat.not_le.mpr h)

theorem nextPageIndex_of_lt {count sel ps : Nat} (h : sel + ps < count) (cycle : Bool) :
    nextPageIndex count sel ps cycle = some (sel + ps) := by
  unfold nextPageIndex
  simp only
  rw [if_neg (Nat.not_le.mpr (Nat.lt_of_le_of_lt (Nat.div_mul_le_self _ _) h)), if_neg (Nat.not_le.mpr h)]

theorem uniqueCandidate_of_le {count : Nat} (h : 2 ≤ count) : uniqueCandidate count = false := by
  unfold uniqueCandidate
  exact beq_false_of_ne (Nat.ne_of_gt h)

theorem lacksPair_of_le {count : Nat} (h : 2 ≤ count) : lacksPair count = false := by
  unfold lacksPair
  exact decide_eq_false (Nat.not_lt.mpr h)

theorem alternateIndex_of_lt {count sel : Nat} (h : sel + 1 < count) : alternateIndex count sel = some (sel + 1) := by
  unfold alternateIndex
  rw [if_neg (by rw [beq_iff_eq]; exact Nat.ne_of_gt (Nat.zero_lt_of_lt h)), Nat.mod_eq_of_lt h]

/-- the lazy segment `g` is a view of the abstract one `a` -/
structure Refines (g : LSeg α) (a : ASeg α) : Prop where
  repr : g.menu.Repr a.full
  noNull : Gen.NoNull g.menu.rest
  sel : g.sel = a.sel

theorem Refines.hasMenu {g : LSeg α} {a : ASeg α} (r : Refines g a) : g.hasMenu = a.hasMenu := by
  unfold LSeg.hasMenu ASeg.hasMenu
  have hs := empty_spec r.repr
  rw [Bool.eq_iff_iff, Bool.not_eq_true', Bool.not_eq_true', ← Bool.not_eq_true, ← Bool.not_eq_true, List.isEmpty_iff]
  exact not_congr ⟨hs.1, hs.2 r.noNull⟩

theorem Refines.prepare {g : LSeg α} {a : ASeg α} (r : Refines g a) (n : Nat) :
    Refines { g with menu := (g.menu.prepare n).1 } a :=
  ⟨prepare_repr r.repr n, prepare_noNull r.noNull n, r.sel⟩

theorem Refines.prepare_sel {g : LSeg α} {a : ASeg α} (r : Refines g a) (n i : Nat) :
    Refines { menu := (g.menu.prepare n).1, sel := i } { a with sel := i } :=
  ⟨prepare_repr r.repr n, prepare_noNull r.noNull n, rfl⟩

theorem Refines.apply {g : LSeg α} {a : ASeg α} (r : Refines g a) (op : MenuOp) :
    Refines { g with menu := g.menu.apply op } a := by
  obtain ⟨n, e⟩ := apply_eq_prepare g.menu op
  rw [e]
  exact r.prepare n

/-- the two results of a call agree: same observation, the lazy state still a view of the abstract one, which has
kept its list -/
def Sim {β : Type} (full : List α) (x : LSeg α × β) (y : ASeg α × β) : Prop :=
  x.2 = y.2 ∧ Refines x.1 y.1 ∧ y.1.full = full

theorem Sim.ite {β : Type} {full : List α} {c c' : Prop} [Decidable c] [Decidable c'] {x x' : LSeg α × β}
    {y y' : ASeg α × β} (hc : c ↔ c') (h1 : c → Sim full x y) (h2 : ¬ c → Sim full x' y') :
    Sim full (if c then x else x') (if c' then y else y') := by
  by_cases h : c
  · rw [if_pos h, if_pos (hc.mp h)]; exact h1 h
  · rw [if_neg h, if_neg (mt hc.mpr h)]; exact h2 h

theorem Sim.map {β γ : Type} {full : List α} {x : LSeg α × β} {y : ASeg α × β} (h : Sim full x y) (f : β → γ) :
    Sim full (x.1, f x.2) (y.1, f y.2) :=
  ⟨congrArg f h.1, h.2⟩

theorem highlight_refines {g : LSeg α} {a : ASeg α} (r : Refines g a) (index : Nat) :
    Sim a.full (g.highlight index) (a.highlight index) := by
  unfold LSeg.highlight ASeg.highlight ASeg.prepare
  dsimp only
  rw [prepare_count_use (highlightIndex · index) (fun _ hk => highlightIndex_of_lt hk) r.repr]
  exact Sim.ite (by rw [r.sel]) (fun _ => ⟨rfl, r.prepare _, rfl⟩)
    (fun _ => ⟨rfl, r.prepare_sel _ _, rfl⟩)

theorem listLoop_spec (n : Nat) {m : Menu α} {full : List α} (idx : Nat) (h : m.Repr full) (hn : Gen.NoNull m.rest) :
    (listLoop n m idx).1 = (full.drop idx).take n ∧
    (listLoop n m idx).2.1 = decide (((full.drop idx).take n).length < n) ∧
    (listLoop n m idx).2.2.Repr full ∧ Gen.NoNull (listLoop n m idx).2.2.rest := by
  induction n generalizing m idx with
  | zero => exact ⟨rfl, rfl, h, hn⟩
  | succ n ih =>
    have r : Refines ⟨m, 0⟩ ⟨full, 0⟩ := ⟨h, hn, rfl⟩
    have r' := r.apply (.getCandidateAt idx)
    have hget := getCandidateAt_fst h idx
    unfold listLoop
    simp only
    rw [List.drop_eq_getElem?_toList_append, ← hget]
    cases hc : (m.getCandidateAt idx).1 with
    | none =>
      rw [hc] at hget
      have hd : full.drop (idx + 1) = [] :=
        List.drop_eq_nil_of_le (Nat.le_succ_of_le (List.getElem?_eq_none_iff.mp hget.symm))
      rw [hd]
      exact ⟨rfl, rfl, r'.repr, r'.noNull⟩
    | some c =>
      obtain ⟨i1, i2, i3, i4⟩ := ih (idx + 1) r'.repr r'.noNull
      refine ⟨congrArg (c :: ·) i1, i2.trans ?_, i3, i4⟩
      exact decide_eq_decide.mpr Nat.succ_lt_succ_iff.symm

theorem createPage_page {g : LSeg α} {a : ASeg α} (r : Refines g a) {ps : Nat} (hps : 0 < ps) :
    (g.menu.createPage ps (g.sel / ps)).1 = a.page ps := by
  rw [createPage_fst r.repr _ hps, ASeg.page, r.sel]
  by_cases hF : a.full.length ≤ ps * (a.sel / ps)
  · rw [if_pos hF, if_pos hF]
  · rw [if_neg hF, if_neg hF]
    refine congrArg some (congrArg (Page.mk ps (a.sel / ps) · _) ?_)
    by_cases hl : a.full.length ≤ ps * (a.sel / ps) + ps
    · rw [← r.sel, createPage_exhausted r.repr r.noNull _ hps (by rw [r.sel]; exact hl), Bool.true_and]
    · rw [decide_eq_false hl, Bool.and_false]

theorem step_refines (cfg : Cfg) (hps : 0 < cfg.pageSize) {g : LSeg α} {a : ASeg α} (r : Refines g a) (op : SegOp) :
    Sim a.full (g.step cfg op) (a.step cfg op) := by
  have same : ∀ o : Obs α, Sim a.full (g, o) (a, o) := fun _ => ⟨rfl, r, rfl⟩
  have noMenu : (!g.hasMenu) = true ↔ (!a.hasMenu) = true := by rw [r.hasMenu]
  cases op with
  | getContext =>
    refine Sim.ite (by rw [r.hasMenu]) (fun _ => ⟨?_, r.apply (.createPage _ _), rfl⟩) (fun _ => same _)
    dsimp only
    rw [createPage_page r hps, r.sel]
  | highlight i => exact (highlight_refines r i).map Obs.ret
  | highlightOnPage i =>
    refine Sim.ite noMenu (fun _ => same _) fun _ => Sim.ite Iff.rfl (fun _ => same _) fun _ => ?_
    rw [r.sel]
    exact (highlight_refines r _).map Obs.ret
  | changePage backward =>
    refine Sim.ite noMenu (fun _ => same _) fun _ => ?_
    rw [r.sel]
    exact (highlight_refines r _).map Obs.ret
  | nextPage =>
    unfold Sim
    dsimp only [LSeg.step, ASeg.step, ASeg.prepare]
    rw [prepare_count_use (nextPageIndex · g.sel cfg.pageSize cfg.pageDownCycle)
      (fun _ hk => nextPageIndex_of_lt (Nat.lt_of_lt_of_le (Nat.lt_div_mul_add hps) hk) _) r.repr, r.sel]
    cases nextPageIndex (min ((a.sel + cfg.pageSize) / cfg.pageSize * cfg.pageSize + cfg.pageSize) a.full.length)
        a.sel cfg.pageSize cfg.pageDownCycle with
    | none => exact ⟨rfl, r.prepare_sel _ _, rfl⟩
    | some i => exact ⟨rfl, r.prepare_sel _ i, rfl⟩
  | prevPage =>
    exact ⟨rfl, ⟨r.repr, r.noNull, congrArg (fun s => if s < cfg.pageSize then 0 else s - cfg.pageSize) r.sel⟩, rfl⟩
  | nextCand =>
    unfold Sim
    dsimp only [LSeg.step, ASeg.step, ASeg.prepare]
    rw [prepare_count_use (nextCandidateIndex · g.sel) (fun _ hk => nextCandidateIndex_of_lt hk) r.repr, r.sel]
    cases nextCandidateIndex (min (a.sel + 1 + 1) a.full.length) a.sel with
    | none => exact ⟨rfl, r.prepare_sel _ _, rfl⟩
    | some i => exact ⟨rfl, r.prepare_sel _ i, rfl⟩
  | prevCand =>
    exact Sim.ite (by rw [r.sel]) (fun _ => same _) fun _ => ⟨rfl, ⟨r.repr, r.noNull, congrArg (· - 1) r.sel⟩, rfl⟩
  | home => exact Sim.ite (by rw [r.sel]) (fun _ => same _) fun _ => ⟨rfl, ⟨r.repr, r.noNull, rfl⟩, rfl⟩
  | list from_ n =>
    obtain ⟨l1, l2, l3, l4⟩ := listLoop_spec n from_ r.repr r.noNull
    refine Sim.ite noMenu (fun _ => same _) fun _ => ⟨?_, ⟨l3, l4, r.sel⟩, rfl⟩
    dsimp only
    rw [l1, l2]

theorem run_refines (cfg : Cfg) (hps : 0 < cfg.pageSize) (ops : List SegOp) {g : LSeg α} {a : ASeg α}
    (r : Refines g a) :
    (LSeg.run cfg g ops).2 = (ASeg.run cfg a ops).2 ∧ Refines (LSeg.run cfg g ops).1 (ASeg.run cfg a ops).1 ∧
    (ASeg.run cfg a ops).1.full = a.full := by
  induction ops generalizing g a with
  | nil => exact ⟨rfl, r, rfl⟩
  | cons op ops ih =>
    obtain ⟨s1, s2, s3⟩ := step_refines cfg hps r op
    obtain ⟨t1, t2, t3⟩ := ih s2
    exact ⟨congr (congrArg List.cons s1) t1, t2, t3.trans s3⟩

end RimeModel.C04
