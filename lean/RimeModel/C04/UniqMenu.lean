import RimeModel.C04.UniqLemmas
import RimeModel.C04.MenuLemmas
/-!
The menu over a uniquified translation, with or without the prefetch queue of a `single_char_filter` after it.
The menu is a consumer of the uniquifier like any other (`Uniq.Tracks` against the texts in the cache and the queue,
`FMenu.Tracks`): every iteration of `Prepare` keeps that, and both ways engine.cc builds such a menu establish it.
Its projection to a plain `Menu` of the genuine first items over one fixed list commutes with `Prepare`; hence every
`Menu` law (`cache_prefix`, `prepare_count`, `page_window`, …) holds for uniquified menus at the level of what the
client sees (text, comment, preedit of the first item).
-/
namespace RimeModel.C04

variable {α τ : Type}

section
variable (text : α → τ)

/-- the fixed uniquifier has recorded the text of its current candidate -/
def Uniq.HeadIn (u : Uniq α τ) : Prop := ∀ x xs, u.src = x :: xs → text x ∈ u.emitted

/-- invariant of the stateful pair (menu cache, prefetch queue, uniquified translation).
`S` = texts in the cache followed by texts in the queue -/
structure FMenu.Inv (fixed : Bool) (m : FMenu α τ) : Prop where
  nodup : (gtexts text m.cache ++ m.queue.map text).Nodup
  /-- the current candidate of the uniquifier is new -/
  head : ∀ x xs, m.u.src = x :: xs → text x ∉ gtexts text m.cache ++ m.queue.map text
  /-- a prefetch queue is only sound over the fixed uniquifier, which has recorded everything it handed out -/
  queue : m.queue ≠ [] → fixed = true
  emitted : fixed = true → (∀ t ∈ gtexts text m.cache ++ m.queue.map text, t ∈ m.u.emitted) ∧ m.u.HeadIn text

/-- the fixed uniquifier has emitted nothing but what is cached, queued or current -/
def FMenu.EmittedSub (fixed : Bool) (m : FMenu α τ) : Prop :=
  fixed = true → ∀ t ∈ m.u.emitted, t ∈ gtexts text m.cache ++ m.queue.map text ∨ ∃ x xs, m.u.src = x :: xs ∧ t = text x

variable {fixed : Bool} {m m' : FMenu α τ}

/-- `FMenu.Inv` and `FMenu.EmittedSub` together: the menu has taken the texts in its cache and its queue from the uniquifier -/
def FMenu.Tracks (fixed : Bool) (m : FMenu α τ) : Prop :=
  m.u.Tracks text fixed (gtexts text m.cache ++ m.queue.map text) ∧ (m.queue ≠ [] → fixed = true)

theorem FMenu.tracks_iff :
    FMenu.Tracks text fixed m ↔ FMenu.Inv text fixed m ∧ FMenu.EmittedSub text fixed m :=
  ⟨fun ⟨h, hq⟩ => ⟨⟨h.nodup, h.head, hq, fun hf => ⟨fun t ht => (h.emitted hf t).mpr (Or.inl ht),
      fun x xs hx => (h.emitted hf _).mpr (Or.inr ⟨x, xs, hx, rfl⟩)⟩⟩, fun hf t => (h.emitted hf t).mp⟩,
   fun ⟨h, hsub⟩ => ⟨⟨h.nodup, h.head, fun hf t => ⟨hsub hf t, fun ht => ht.elim ((h.emitted hf).1 t)
      (fun ⟨x, xs, hx, e⟩ => e ▸ (h.emitted hf).2 x xs hx)⟩⟩, h.queue⟩⟩

theorem FMenu.Tracks.cache_nodup (h : FMenu.Tracks text fixed m) :
    (m.cache.map (fun g => text g.first)).Nodup :=
  (List.nodup_append.mp h.1.nodup).1

/-- state of `Rearrange` while it drains the fixed uniquifier against the (still empty) menu cache -/
structure RearrInv (u : Uniq α τ) (vis : List (Group α)) (top bottom : List α) : Prop where
  vis : gtexts text vis = []
  nodup : ((top ++ bottom).map text).Nodup
  emitted : ∀ t ∈ (top ++ bottom).map text, t ∈ u.emitted
  headIn : u.HeadIn text
  head : ∀ x xs, u.src = x :: xs → text x ∉ (top ++ bottom).map text

theorem RearrInv.of_tracks {u : Uniq α τ} {vis : List (Group α)} {top bottom : List α} (hv : gtexts text vis = [])
    (h : u.Tracks text true ((top ++ bottom).map text)) : RearrInv text u vis top bottom :=
  ⟨hv, h.nodup, fun t ht => (h.emitted rfl t).mpr (Or.inl ht),
    fun x xs hx => (h.emitted rfl _).mpr (Or.inr ⟨x, xs, hx, rfl⟩), h.head⟩

/-- an iteration of the loop of `FMenu.prepareLoop` that moves something: the head of the prefetch queue, else
the current candidate of the uniquifier (whose `Next()` then sees it in the cache), goes to the end of the cache -/
inductive FMenu.Step (fixed : Bool) : FMenu α τ → FMenu α τ → Prop
  | queue {m : FMenu α τ} {q : α} {qs : List α} (hq : m.queue = q :: qs) :
      Step fixed m { m with cache := m.cache ++ [{ first := q }], queue := qs }
  | source {m : FMenu α τ} {x : α} {xs : List α} {r : Uniq α τ × List (Group α)} (hq : m.queue = [])
      (hs : m.u.src = x :: xs) (hr : Uniquified text fixed xs m.u.emitted (m.cache ++ [{ first := x }]) r) :
      Step fixed m { cache := r.2, queue := [], u := r.1 }

theorem FMenu.Step.measure (h : FMenu.Step text fixed m m') :
    m'.queue.length + m'.u.src.length < m.queue.length + m.u.src.length := by
  cases h with
  | queue hq => rw [hq]; exact Nat.add_lt_add_right (Nat.lt_succ_self _) _
  | @source x xs r hq hs hr =>
    obtain ⟨pre, hpre, _⟩ := hr.skipped
    rw [hq, hs]
    exact Nat.add_lt_add_left (Nat.lt_succ_of_le (List.IsSuffix.length_le ⟨pre, hpre.symm⟩)) _

theorem FMenu.texts_of_queue_nil (hq : m.queue = []) :
    gtexts text m.cache ++ m.queue.map text = gtexts text m.cache := by
  rw [hq]; exact List.append_nil _

theorem texts_queue_step {q : α} {qs : List α} (hq : m.queue = q :: qs) :
    gtexts text (m.cache ++ [{ first := q }]) ++ qs.map text = gtexts text m.cache ++ m.queue.map text := by
  rw [gtexts_append_one, hq, List.append_assoc]; rfl

theorem FMenu.Step.tracks (st : FMenu.Step text fixed m m')
    (h : FMenu.Tracks text fixed m) : FMenu.Tracks text fixed m' := by
  cases st with
  | @queue q qs hq => exact ⟨texts_queue_step text hq ▸ h.1, fun _ => h.2 (hq ▸ List.cons_ne_nil q qs)⟩
  | @source x xs r hq hs hr =>
    have h1 := h.1
    rw [FMenu.texts_of_queue_nil text hq] at h1
    refine ⟨?_, fun hne => absurd rfl hne⟩
    show r.1.Tracks text fixed (gtexts text r.2 ++ [])
    rw [List.append_nil, hr.gtexts text, gtexts_append_one]
    exact h1.next text hs hr (List.perm_append_singleton _ _) (Or.inr fun t ht => gtexts_append_one text _ _ ▸ ht)

end

section
variable [DecidableEq τ] (text : α → τ) {fixed : Bool} {m m' : FMenu α τ}

/-- what the menu will still receive: the prefetch queue, then the first occurrences of new texts -/
def FMenu.pending (m : FMenu α τ) : List α :=
  m.queue ++ dedupBy text m.u.src (gtexts text m.cache ++ m.queue.map text)

/-- the uniquified menu seen as a plain `Menu` of first items -/
def FMenu.proj (m : FMenu α τ) : Menu α :=
  { cache := firsts m.cache, rest := (FMenu.pending text m).map some }

theorem FMenu.pending_of_queue_nil (hq : m.queue = []) :
    FMenu.pending text m = dedupBy text m.u.src (gtexts text m.cache) := by
  rw [FMenu.pending, FMenu.texts_of_queue_nil text hq, hq]; rfl

theorem FMenu.Step.pending (st : FMenu.Step text fixed m m')
    (h : FMenu.Tracks text fixed m) :
    ∃ a, FMenu.pending text m = a :: FMenu.pending text m' ∧ firsts m'.cache = firsts m.cache ++ [a] := by
  cases st with
  | @queue q qs hq =>
    refine ⟨q, ?_, firsts_append_one _ _⟩
    rw [FMenu.pending, FMenu.pending, texts_queue_step text hq, hq]; rfl
  | @source x xs r hq hs hr =>
    obtain ⟨pre, hpre, hall⟩ := hr.skipped
    refine ⟨x, ?_, hr.firsts.trans (firsts_append_one _ _)⟩
    have hS := FMenu.texts_of_queue_nil text hq
    have hxn := h.1.head x xs hs
    rw [hS] at hxn
    -- everything `Next()` skipped is in the cache, is `x` again, or (new code) was handed out before
    have hseen : ∀ p ∈ pre, text p ∈ gtexts text m.cache ++ [text x] := by
      intro p hp
      rcases hall p hp with h1 | ⟨hfx, h1⟩
      · exact gtexts_append_one text _ _ ▸ h1
      · rcases (h.1.emitted hfx _).mp h1 with h2 | ⟨y, ys, hy, e⟩
        · rw [hS] at h2; exact List.mem_append_left _ h2
        · rw [hs] at hy; cases hy
          exact List.mem_append_right _ (List.mem_singleton.mpr e)
    rw [FMenu.pending_of_queue_nil text hq, FMenu.pending_of_queue_nil text (m := ⟨r.2, [], r.1⟩) rfl, hs,
      hr.gtexts text, gtexts_append_one, dedupBy, if_neg hxn, ← dedupBy_drop_prefix text pre _ _ hseen, ← hpre]
    exact congrArg (x :: ·) (dedupBy_congr text xs _ _ fun t => by
      rw [List.mem_cons, List.mem_append, List.mem_singleton]; exact Or.comm)

/-- with fuel for every queued and every source element, `Prepare` makes moving iterations while the cache is short of
`n` and stops when it no longer is or nothing is left -/
theorem FMenu.prepareLoop_induct (fixed : Bool) (n : Nat) {P : FMenu α τ → FMenu α τ → Prop}
    (stop : ∀ m, n ≤ m.cache.length ∨ (m.queue = [] ∧ m.u.src = []) → P m m)
    (step : ∀ m m' m'', m.cache.length < n → FMenu.Step text fixed m m' → P m' m'' → P m m'') :
    ∀ (fuel : Nat) (m : FMenu α τ), m.queue.length + m.u.src.length ≤ fuel →
      P m (FMenu.prepareLoop text fixed n fuel m) := by
  intro fuel
  induction fuel with
  | zero =>
    intro m hf
    obtain ⟨h1, h2⟩ := Nat.add_eq_zero_iff.mp (Nat.le_zero.mp hf)
    exact stop m (Or.inr ⟨List.length_eq_zero_iff.mp h1, List.length_eq_zero_iff.mp h2⟩)
  | succ fuel ih =>
    intro m hf
    rw [FMenu.prepareLoop]
    by_cases hc : m.cache.length < n
    · have go : ∀ {m'}, FMenu.Step text fixed m m' → P m (FMenu.prepareLoop text fixed n fuel m') :=
        fun st => step m _ _ hc st (ih _ (Nat.le_of_lt_succ (Nat.lt_of_lt_of_le st.measure hf)))
      rw [if_pos hc]
      cases hq : m.queue with
      | cons q qs => exact go (.queue hq)
      | nil =>
        cases hs : m.u.src with
        | nil => exact stop m (Or.inr ⟨hq, hs⟩)
        | cons x xs =>
          dsimp only
          rw [Uniq.next_cons text fixed hs]
          exact go (.source hq hs (uniquify_spec text fixed _ xs _))
    · rw [if_neg hc]
      exact stop m (Or.inl (Nat.le_of_not_lt hc))

theorem FMenu.prepareLoop_done (fixed : Bool) (n : Nat) : ∀ (fuel : Nat) (m : FMenu α τ),
    m.queue.length + m.u.src.length ≤ fuel →
    let m' := FMenu.prepareLoop text fixed n fuel m
    n ≤ m'.cache.length ∨ (m'.queue = [] ∧ m'.u.src = []) :=
  FMenu.prepareLoop_induct text fixed n (P := fun _ m' => n ≤ m'.cache.length ∨ (m'.queue = [] ∧ m'.u.src = []))
    (fun _ h => h) (fun _ _ _ _ _ h => h)

theorem fmenu_prepareLoop_proj (fixed : Bool) (n : Nat) : ∀ (fuel : Nat) (m : FMenu α τ),
    m.queue.length + m.u.src.length ≤ fuel → FMenu.Tracks text fixed m →
    FMenu.proj text (FMenu.prepareLoop text fixed n fuel m) = RimeModel.C04.prepareLoop n (FMenu.proj text m).cache (FMenu.proj text m).rest ∧
    FMenu.Tracks text fixed (FMenu.prepareLoop text fixed n fuel m) := by
  refine FMenu.prepareLoop_induct text fixed n (P := fun m m' => FMenu.Tracks text fixed m →
    FMenu.proj text m' = RimeModel.C04.prepareLoop n (FMenu.proj text m).cache (FMenu.proj text m).rest ∧
    FMenu.Tracks text fixed m') ?_ ?_
  · intro m hstop h
    refine ⟨?_, h⟩
    rcases hstop with hle | ⟨hq, hs⟩
    · exact (prepareLoop_of_le (by rw [firsts_length]; exact hle) _).symm
    · unfold FMenu.proj FMenu.pending; rw [hq, hs]; rfl
  · intro m m' m'' hc st ih h
    obtain ⟨a, hp, hfs⟩ := st.pending text h
    obtain ⟨i1, i2⟩ := ih (st.tracks text h)
    refine ⟨i1.trans ?_, i2⟩
    show RimeModel.C04.prepareLoop n (firsts m'.cache) ((FMenu.pending text m').map some) =
      RimeModel.C04.prepareLoop n (firsts m.cache) ((FMenu.pending text m).map some)
    rw [hp, hfs, List.map_cons, prepareLoop_cons (by rw [firsts_length]; exact hc)]
    rfl

theorem FMenu.prepare_foldl_tracks (fixed : Bool) (ns : List Nat) (m : FMenu α τ) (h : FMenu.Tracks text fixed m) :
    FMenu.Tracks text fixed (ns.foldl (fun m n => (FMenu.prepare text fixed m n).1) m) := by
  induction ns generalizing m with
  | nil => exact h
  | cons n ns ih => exact ih _ (fmenu_prepareLoop_proj text fixed n _ m (Nat.le_refl _) h).2

theorem FMenu.ofUniq_gtexts (fixed : Bool) (src : List α) : gtexts text (FMenu.ofUniq text fixed src).cache = [] :=
  (uniquify_spec text fixed [] src []).gtexts text

theorem FMenu.ofUniq_tracks (fixed : Bool) (src : List α) : FMenu.Tracks text fixed (FMenu.ofUniq text fixed src) := by
  refine ⟨?_, fun hne => absurd rfl hne⟩
  rw [FMenu.texts_of_queue_nil text rfl, FMenu.ofUniq_gtexts]
  exact (uniquify_spec text fixed [] src []).tracks text

/-- the uniquifier as last filter over an empty cache: the menu's list is the first occurrences of the
source — the `dedupByText` of the session driver -/
theorem fmenu_ofUniq_full (fixed : Bool) (src : List α) :
    (FMenu.proj text (FMenu.ofUniq text fixed src)).full = dedupBy text src [] := by
  have sp := uniquify_spec text fixed [] src []
  obtain ⟨pre, hpre, hall⟩ := sp.skipped
  rw [Menu.full]
  dsimp only [FMenu.proj]
  rw [outputs_map_some, FMenu.pending_of_queue_nil text rfl, FMenu.ofUniq_gtexts]
  -- an empty cache and an empty `emitted_`: the constructor's `Uniquify()` skips nothing
  exact (congrArg (· ++ _) sp.firsts).trans
    ((dedupBy_drop_prefix text pre _ [] fun p hp => (hall p hp).elim id And.right).symm.trans
      (congrArg (dedupBy text · []) hpre.symm))

/-- `Rearrange` takes the current candidate into `top` or `bottom` and calls `Next()` with the empty cache: a
consumer that shows the uniquifier nothing of what it has taken -/
theorem rearrangeLoop_tracks (isTable single : α → Bool) (fuel : Nat) (u : Uniq α τ) (vis : List (Group α))
    (top bottom : List α) (hv : gtexts text vis = []) (h : u.Tracks text true ((top ++ bottom).map text)) :
    let r := rearrangeLoop text true isTable single fuel u vis top bottom
    gtexts text r.2.2.2 = [] ∧ r.2.2.1.Tracks text true ((r.1 ++ r.2.1).map text) := by
  induction fuel generalizing u vis top bottom with
  | zero => exact ⟨hv, h⟩
  | succ fuel ih =>
    cases hs : u.src with
    | nil => rw [rearrangeLoop, hs]; exact ⟨hv, h⟩
    | cons x xs =>
      rw [rearrangeLoop, hs]
      dsimp only
      rw [Uniq.next_cons text true hs]
      have hr := uniquify_spec text true u.emitted xs vis
      generalize uniquify text true xs u.emitted vis = r at hr ⊢
      have hv' : gtexts text r.2 = [] := (hr.gtexts text).trans hv
      have p1 : (top ++ [x] ++ bottom).Perm (x :: (top ++ bottom)) := by
        rw [List.append_assoc]; exact List.perm_middle
      have p2 : (top ++ (bottom ++ [x])).Perm (x :: (top ++ bottom)) := by
        rw [← List.append_assoc]; exact List.perm_append_singleton x _
      by_cases ht : (!isTable x) = true
      · rw [if_pos ht]; exact ⟨hv, h⟩
      · rw [if_neg ht]
        by_cases hsg : single x = true
        · rw [if_pos hsg]; exact ih _ _ _ _ hv' (h.next text hs hr (p1.map text) (Or.inl rfl))
        · rw [if_neg hsg]; exact ih _ _ _ _ hv' (h.next text hs hr (p2.map text) (Or.inl rfl))

theorem ofUniqThenSingleChar_tracks (isTable single : α → Bool) (src : List α) :
    FMenu.Tracks text true (FMenu.ofUniqThenSingleChar text true isTable single src) := by
  have sp := uniquify_spec text true [] src []
  obtain ⟨hv, h⟩ := rearrangeLoop_tracks text isTable single (src.length + 1) _ _ [] []
    (sp.gtexts text) (sp.tracks text)
  refine ⟨?_, fun _ => rfl⟩
  dsimp only [FMenu.ofUniqThenSingleChar, Uniq.create]
  rw [hv]
  exact h

end

end RimeModel.C04
