import RimeModel.C04.MenuLemmas
/-! `CreatePage` and `GetCandidateAt` are a `Prepare` followed by a read of the cache; what the reads and
`empty` return against the full list -/
namespace RimeModel.C04

variable {α : Type}

theorem exhausted_iff (m : Menu α) : m.exhausted = true ↔ m.rest = [] := List.isEmpty_iff

theorem Menu.Repr.full_of_exhausted {m : Menu α} {full : List α} (h : m.Repr full) (he : m.rest = []) :
    m.cache.length = full.length := by
  rw [← Menu.Repr.length_eq h, he]; rfl

theorem Menu.Repr.exhausted_of_noNull {m : Menu α} {full : List α} (h : m.Repr full) (hn : Gen.NoNull m.rest)
    (hl : full.length ≤ m.cache.length) : m.rest = [] := by
  have := Menu.Repr.length_eq h
  rw [Gen.NoNull.outputs_length hn] at this
  exact List.length_eq_zero_iff.mp (by omega)

theorem prepare_enough {m : Menu α} {full : List α} (h : m.Repr full) (n : Nat) :
    n ≤ (m.prepare n).2 ∨ full.length ≤ (m.prepare n).2 := by
  rw [prepare_count_eq h]
  rcases Nat.le_total n full.length with hn | hn
  · rw [Nat.min_eq_left hn]; exact Or.inl (Nat.le_max_right _ _)
  · rw [Nat.min_eq_right hn]; exact Or.inr (Nat.le_max_right _ _)

theorem createPage_eq (m : Menu α) {ps : Nat} (p : Nat) (hps : 0 < ps) :
    m.createPage ps p =
      (if ps * p ≥ (m.prepare (ps * p + ps)).2 then none
       else some ((m.prepare (ps * p + ps)).1.mkPage ps p (ps * p) (min (ps * p + ps) (m.prepare (ps * p + ps)).2)),
       (m.prepare (ps * p + ps)).1) := by
  unfold Menu.createPage
  by_cases hA : ps * p + ps > m.cache.length
  · simp only [if_pos hA]
    by_cases hB : m.exhausted = true
    · rw [if_pos hB, prepare_of_exhausted ((exhausted_iff m).mp hB)]
      exact (apply_ite (fun o => (o, _)) _ _ _).symm
    · rw [if_neg hB]
      exact (apply_ite (fun o => (o, _)) _ _ _).symm
  · have hle : ps * p + ps ≤ m.cache.length := Nat.le_of_not_lt hA
    simp only [if_neg hA]
    rw [prepare_of_le hle, if_neg (Nat.not_le.mpr (Nat.lt_of_lt_of_le (Nat.lt_add_of_pos_right hps) hle)),
      Nat.min_eq_left hle]

theorem getCandidateAt_eq (m : Menu α) (i : Nat) :
    m.getCandidateAt i = ((m.prepare (i + 1)).1.cache[i]?, (m.prepare (i + 1)).1) := by
  unfold Menu.getCandidateAt
  by_cases hA : i ≥ m.cache.length
  · simp only [if_pos hA]
    by_cases hB : i ≥ (m.prepare (i + 1)).2
    · rw [if_pos hB]
      exact congrArg (fun o => (o, (m.prepare (i + 1)).1)) (List.getElem?_eq_none hB).symm
    · rw [if_neg hB]
  · rw [if_neg hA, prepare_of_le (Nat.lt_of_not_le hA)]

theorem apply_eq_prepare (m : Menu α) (op : MenuOp) : ∃ n, m.apply op = (m.prepare n).1 := by
  cases op with
  | prepare n => exact ⟨n, rfl⟩
  | createPage ps p =>
    rcases Nat.eq_zero_or_pos ps with h0 | hps
    · -- `CreatePage` with page size 0 has `end_pos = 0 ≤ candidates_.size()` and fetches nothing
      refine ⟨0, ?_⟩
      rw [prepare_of_le (Nat.zero_le _), h0]
      show (m.createPage 0 p).2 = m
      unfold Menu.createPage
      simp only [Nat.zero_mul, Nat.add_zero, gt_iff_lt, Nat.not_lt_zero, if_false]
    · exact ⟨_, congrArg Prod.snd (createPage_eq m p hps)⟩
  | getCandidateAt i => exact ⟨_, congrArg Prod.snd (getCandidateAt_eq m i)⟩

theorem window_eq {c l : List α} {s ps : Nat} (hc : c <+: l) (hk : s + ps ≤ c.length ∨ l.length ≤ c.length) :
    (c.drop s).take (min (s + ps) c.length - s) = (l.drop s).take ps := by
  have e := List.prefix_iff_eq_take.mp hc
  generalize c.length = k at e hk ⊢
  subst e
  rcases Nat.lt_or_ge k (s + ps) with h | h
  · have hl : l.length ≤ k := hk.resolve_left (Nat.not_le.mpr h)
    have hd : (l.drop s).length ≤ k - s := by rw [List.length_drop]; exact Nat.sub_le_sub_right hl s
    rw [Nat.min_eq_right (Nat.le_of_lt h), List.take_of_length_le hl, List.take_of_length_le hd,
      List.take_of_length_le (Nat.le_trans hd (Nat.sub_le_of_le_add (Nat.add_comm s ps ▸ Nat.le_of_lt h)))]
  · rw [Nat.min_eq_left h, Nat.add_sub_cancel_left, List.drop_take, List.take_take,
      Nat.min_eq_left (Nat.le_sub_of_add_le' h)]

/-- the flag is `exhausted() && end_pos == candidates_.size()` -/
theorem createPage_fst {m : Menu α} {full : List α} (h : m.Repr full) {ps : Nat} (p : Nat) (hps : 0 < ps) :
    (m.createPage ps p).1 =
      if full.length ≤ ps * p then none
      else some { pageSize := ps, pageNo := p,
                  isLast := (m.createPage ps p).2.exhausted && decide (full.length ≤ ps * p + ps),
                  cands := (full.drop (ps * p)).take ps } := by
  rw [createPage_eq m p hps]
  have hr := prepare_repr h (ps * p + ps)
  have hen := prepare_enough h (ps * p + ps)
  have hle := Menu.Repr.length_le hr
  rw [prepare_snd] at hen ⊢
  generalize (m.prepare (ps * p + ps)).1 = m' at hr hen hle ⊢
  by_cases hF : full.length ≤ ps * p
  · rw [if_pos hF, if_pos (Nat.le_trans hle hF)]
  · have hlt : ¬ ps * p ≥ m'.cache.length := fun hge => hen.elim
      (fun h1 => absurd (Nat.le_trans h1 hge) (Nat.not_le.mpr (Nat.lt_add_of_pos_right hps)))
      (fun h2 => hF (Nat.le_trans h2 hge))
    rw [if_neg hF, if_neg hlt]
    refine congrArg some (congr (congrArg (Page.mk ps p) ?_) ?_)
    · show (m'.exhausted && _) = _
      cases hx : m'.exhausted with
      | false => rfl
      | true =>
        rw [Menu.Repr.full_of_exhausted hr ((exhausted_iff _).mp hx), Bool.true_and, Bool.true_and, Bool.eq_iff_iff,
          beq_iff_eq, decide_eq_true_eq]
        exact ⟨fun e => Nat.le_trans (Nat.le_of_eq e.symm) (Nat.min_le_left _ _), Nat.min_eq_right⟩
    · exact window_eq ⟨_, hr⟩ hen

theorem createPage_some {m : Menu α} {full : List α} (h : m.Repr full) {ps p : Nat} (hps : 0 < ps) {pg : Page α}
    (hpg : (m.createPage ps p).1 = some pg) :
    pg = { pageSize := ps, pageNo := p,
           isLast := (m.createPage ps p).2.exhausted && decide (full.length ≤ ps * p + ps),
           cands := (full.drop (ps * p)).take ps } := by
  rw [createPage_fst h p hps] at hpg
  split at hpg
  · cases hpg
  · exact (Option.some.inj hpg).symm

theorem createPage_exhausted {m : Menu α} {full : List α} (h : m.Repr full) (hn : Gen.NoNull m.rest)
    {ps : Nat} (p : Nat) (hps : 0 < ps) (hF : full.length ≤ ps * p + ps) :
    (m.createPage ps p).2.exhausted = true := by
  rw [createPage_eq m p hps]
  refine (exhausted_iff _).mpr (Menu.Repr.exhausted_of_noNull (prepare_repr h _) (prepare_noNull hn _) ?_)
  rcases prepare_enough h (ps * p + ps) with he | he
  · exact Nat.le_trans hF he
  · exact he

theorem getCandidateAt_fst {m : Menu α} {full : List α} (h : m.Repr full) (i : Nat) :
    (m.getCandidateAt i).1 = full[i]? := by
  rw [getCandidateAt_eq]
  have hr := prepare_repr h (i + 1)
  by_cases hi : i < (m.prepare (i + 1)).1.cache.length
  · exact Menu.Repr.getElem? hr hi
  · have hen := prepare_enough h (i + 1)
    rw [prepare_snd] at hen
    show (m.prepare (i + 1)).1.cache[i]? = full[i]?
    rw [List.getElem?_eq_none (Nat.le_of_not_lt hi), List.getElem?_eq_none (by omega)]

theorem empty_spec {m : Menu α} {full : List α} (h : m.Repr full) :
    (m.empty = true → full = []) ∧ (Gen.NoNull m.rest → full = [] → m.empty = true) := by
  simp only [Menu.empty, Bool.and_eq_true, List.isEmpty_iff, exhausted_iff]
  constructor
  · intro he
    have := Menu.Repr.full_of_exhausted h he.2
    rw [he.1] at this
    exact List.length_eq_zero_iff.mp this.symm
  · intro hn hf
    have hl := Menu.Repr.length_le h
    rw [hf] at hl
    exact ⟨List.length_eq_zero_iff.mp (Nat.le_zero.mp hl), Menu.Repr.exhausted_of_noNull h hn (by rw [hf]; exact Nat.zero_le _)⟩

end RimeModel.C04
