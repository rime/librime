import RimeModel.C04.Translation
/-! `CacheTranslation`, `DistinctTranslation`, `UniquifiedTranslation`: what each yields, whoever consumes it -/
namespace RimeModel.C04

variable {α τ : Type}

structure CacheTr.Inv (t : CacheTr α) : Prop where
  exh : t.exhausted = t.inner.isEmpty
  cache : ∀ c, t.cache = some c → t.inner.peek = some c

theorem CacheTr.create_inv (g : Gen α) : (CacheTr.create g).Inv :=
  ⟨rfl, by intro c h; cases h⟩

theorem CacheTr.peek_spec {t : CacheTr α} (h : t.Inv) :
    (t.peek).1 = t.inner.peek ∧ (t.peek).2.inner = t.inner ∧ (t.peek).2.Inv := by
  unfold CacheTr.peek
  by_cases he : t.exhausted = true
  · rw [if_pos he]
    have hi : t.inner = [] := List.isEmpty_iff.mp (h.exh ▸ he)
    exact ⟨by rw [hi]; rfl, rfl, h⟩
  · rw [if_neg he]
    cases hc : t.cache with
    | some c => exact ⟨(h.cache c hc).symm, rfl, h⟩
    | none => exact ⟨rfl, rfl, h.exh, fun _ hcc => hcc⟩

theorem CacheTr.next_spec {t : CacheTr α} (h : t.Inv) :
    (t.next).1.inner = t.inner.tail ∧ (t.next).1.Inv ∧ ((t.next).2 = !t.inner.isEmpty) := by
  unfold CacheTr.next
  by_cases he : t.exhausted = true
  · rw [if_pos he]
    have hi : t.inner = [] := List.isEmpty_iff.mp (h.exh ▸ he)
    exact ⟨by rw [hi]; rfl, h, by rw [hi]; rfl⟩
  · rw [if_neg he]
    exact ⟨rfl, ⟨rfl, nofun⟩, by rw [← h.exh, (Bool.not_eq_true _).mp he]; rfl⟩

section
variable [DecidableEq τ] (text : α → τ)

theorem dedupBy_drop_prefix (pre xs : List α) (seen : List τ) (h : ∀ p ∈ pre, text p ∈ seen) :
    dedupBy text (pre ++ xs) seen = dedupBy text xs seen := by
  induction pre with
  | nil => rfl
  | cons p ps ih =>
    rw [List.cons_append, dedupBy, if_pos (h p List.mem_cons_self)]
    exact ih (fun q hq => h q (List.mem_cons_of_mem _ hq))

/-- the skipped prefix has been seen; what the loop stops at has not -/
theorem skipSeen_spec (seen : List τ) (xs : List α) :
    ∃ pre, xs = pre ++ skipSeen text seen xs ∧ (∀ p ∈ pre, text p ∈ seen) ∧
      ∀ y ys, skipSeen text seen xs = y :: ys → text y ∉ seen := by
  induction xs with
  | nil => exact ⟨[], rfl, nofun, nofun⟩
  | cons x xs ih =>
    unfold skipSeen
    by_cases h : text x ∈ seen
    · rw [if_pos h]
      obtain ⟨pre, h1, h2, h3⟩ := ih
      exact ⟨x :: pre, congrArg (x :: ·) h1, fun p hp => (List.mem_cons.mp hp).elim (· ▸ h) (h2 p), h3⟩
    · rw [if_neg h]
      exact ⟨[], rfl, nofun, fun y ys e => by cases e; exact h⟩

theorem dedupBy_congr (xs : List α) (s1 s2 : List τ) (h : ∀ t, t ∈ s1 ↔ t ∈ s2) :
    dedupBy text xs s1 = dedupBy text xs s2 := by
  induction xs generalizing s1 s2 with
  | nil => rfl
  | cons x xs ih =>
    unfold dedupBy
    by_cases h1 : text x ∈ s1
    · rw [if_pos h1, if_pos ((h _).mp h1)]; exact ih s1 s2 h
    · rw [if_neg h1, if_neg (fun hh => h1 ((h _).mpr hh))]
      exact congrArg (x :: ·) (ih _ _ fun t => by rw [List.mem_cons, List.mem_cons, h t])

theorem Distinct.drain_eq (fuel : Nat) (d : Distinct α τ) (hl : d.src.length ≤ fuel)
    (hh : ∀ x xs, d.src = x :: xs → text x ∉ d.seen) : Distinct.drain text fuel d = dedupBy text d.src d.seen := by
  induction fuel generalizing d with
  | zero => rw [List.length_eq_zero_iff.mp (Nat.le_zero.mp hl)]; rfl
  | succ fuel ih =>
    unfold Distinct.drain
    cases hs : d.src with
    | nil => rfl
    | cons x xs =>
      obtain ⟨pre, h1, h2, h3⟩ := skipSeen_spec text (text x :: d.seen) xs
      have hn : d.next text = { src := skipSeen text (text x :: d.seen) xs, seen := text x :: d.seen } := by
        unfold Distinct.next; rw [hs]
      rw [hs, List.length_cons] at hl
      dsimp only
      rw [hn, ih _ (Nat.le_trans (List.IsSuffix.length_le ⟨pre, h1.symm⟩) (Nat.le_of_succ_le_succ hl)) h3]
      conv => rhs; rw [dedupBy, if_neg (hh x xs hs), h1, dedupBy_drop_prefix text pre _ _ h2]

theorem dedupBy_spec (xs : List α) (seen : List τ) :
    ((dedupBy text xs seen).map text).Nodup ∧ (∀ t ∈ (dedupBy text xs seen).map text, t ∉ seen) ∧
    (dedupBy text xs seen).Sublist xs := by
  induction xs generalizing seen with
  | nil => exact ⟨List.nodup_nil, nofun, List.Sublist.slnil⟩
  | cons x xs ih =>
    unfold dedupBy
    by_cases h : text x ∈ seen
    · rw [if_pos h]
      obtain ⟨a, b, c⟩ := ih seen
      exact ⟨a, b, c.cons x⟩
    · rw [if_neg h]
      obtain ⟨a, b, c⟩ := ih (text x :: seen)
      exact ⟨List.nodup_cons.mpr ⟨fun hm => b _ hm List.mem_cons_self, a⟩,
        fun t ht => (List.mem_cons.mp ht).elim (· ▸ h) (fun h1 hs => b t h1 (List.mem_cons_of_mem _ hs)),
        c.cons_cons x⟩

theorem dedupBy_complete : ∀ (xs : List α) (seen : List τ) (x : α), x ∈ xs → text x ∉ seen →
    text x ∈ (dedupBy text xs seen).map text := by
  intro xs
  induction xs with
  | nil => intro seen x h; cases h
  | cons y ys ih =>
    intro seen x hx hns
    unfold dedupBy
    by_cases h : text y ∈ seen
    · rw [if_pos h]
      exact ih seen x ((List.mem_cons.mp hx).resolve_left fun e => hns (e ▸ h)) hns
    · rw [if_neg h]
      by_cases hxy : text x = text y
      · exact List.mem_cons.mpr (Or.inl hxy)
      · exact List.mem_cons_of_mem _ (ih (text y :: seen) x
          ((List.mem_cons.mp hx).resolve_left fun e => hxy (e ▸ rfl)) fun hm => (List.mem_cons.mp hm).elim hxy hns)

end

section
variable (text : α → τ)

/-- the texts the uniquifier can see in the menu cache -/
def gtexts (vis : List (Group α)) : List τ := vis.map (fun g => text g.first)

/-- the genuine first items of the cache entries -/
def firsts (vis : List (Group α)) : List α := vis.map (·.first)

theorem gtexts_eq (vis : List (Group α)) : gtexts text vis = (firsts vis).map text :=
  (List.map_map ..).symm

theorem firsts_modify_append (x : α) (vis : List (Group α)) (j : Nat) :
    firsts (vis.modify j (·.append x)) = firsts vis := by
  induction vis generalizing j with
  | nil => rw [List.modify_nil]
  | cons g gs ih =>
    cases j with
    | zero => rw [List.modify_zero_cons]; rfl
    | succ j => rw [List.modify_succ_cons]; exact congrArg (g.first :: ·) (ih j)

theorem firsts_append_one (vis : List (Group α)) (x : α) : firsts (vis ++ [{ first := x }]) = firsts vis ++ [x] :=
  List.map_append

theorem firsts_length (vis : List (Group α)) : (firsts vis).length = vis.length := List.length_map _

theorem gtexts_append_one (vis : List (Group α)) (x : α) :
    gtexts text (vis ++ [{ first := x }]) = gtexts text vis ++ [text x] :=
  List.map_append

/-- `r` is what one run of `Uniquify()` on the source `xs`, `emitted_ = em` and the visible cache `vis` leaves:
the first items in the cache stay; it has skipped candidates whose text is visible in the cache or (new code)
has been handed out, and stopped at a candidate that is neither; the new code has recorded the text of that one -/
structure Uniquified (fixed : Bool) (xs : List α) (em : List τ) (vis : List (Group α))
    (r : Uniq α τ × List (Group α)) : Prop where
  firsts : firsts r.2 = firsts vis
  skipped : ∃ pre, xs = pre ++ r.1.src ∧ ∀ p ∈ pre, text p ∈ gtexts text vis ∨ (fixed = true ∧ text p ∈ em)
  fresh : ∀ y ys, r.1.src = y :: ys → text y ∉ gtexts text vis ∧ (fixed = true → text y ∉ em)
  emitted : fixed = true → ∀ t, t ∈ r.1.emitted ↔ t ∈ em ∨ ∃ y ys, r.1.src = y :: ys ∧ t = text y

/-- the uniquifier `u` against the texts `S` its consumer has taken from it so far: they are pairwise different, the
current candidate is new to them, and the new code's `emitted_` holds exactly `S` and the text of the current one -/
structure Uniq.Tracks (fixed : Bool) (u : Uniq α τ) (S : List τ) : Prop where
  nodup : S.Nodup
  head : ∀ x xs, u.src = x :: xs → text x ∉ S
  emitted : fixed = true → ∀ t, t ∈ u.emitted ↔ t ∈ S ∨ ∃ x xs, u.src = x :: xs ∧ t = text x

theorem Uniquified.gtexts {fixed : Bool} {xs : List α} {em : List τ} {vis : List (Group α)}
    {r : Uniq α τ × List (Group α)} (h : Uniquified text fixed xs em vis r) : gtexts text r.2 = gtexts text vis := by
  rw [gtexts_eq, h.firsts, ← gtexts_eq]

theorem Uniquified.tracks {fixed : Bool} {xs : List α} {vis : List (Group α)} {r : Uniq α τ × List (Group α)}
    (h : Uniquified text fixed xs [] vis r) : r.1.Tracks text fixed [] :=
  ⟨List.nodup_nil, fun _ _ _ => List.not_mem_nil, h.emitted⟩

/-- the consumer takes the current candidate `x`, so that it holds `S'` (the texts `S` and that of `x`, in any order),
and calls `Next()` showing the cache `vis`.  What `Next()` stops at is new to `S'`: the new code has all of `S'` in
`emitted_`; the old code only if the consumer shows all of `S'` -/
theorem Uniq.Tracks.next {fixed : Bool} {u : Uniq α τ} {S S' : List τ} {x : α} {xs : List α} {vis : List (Group α)}
    {r : Uniq α τ × List (Group α)} (h : u.Tracks text fixed S) (hs : u.src = x :: xs)
    (hr : Uniquified text fixed xs u.emitted vis r) (hp : S'.Perm (text x :: S))
    (hv : fixed = true ∨ ∀ t ∈ S', t ∈ gtexts text vis) : r.1.Tracks text fixed S' := by
  have hem : fixed = true → ∀ t, t ∈ S' ↔ t ∈ u.emitted := by
    intro hf t
    rw [hp.mem_iff, List.mem_cons, h.emitted hf t, hs, Or.comm]
    exact or_congr_right ⟨fun e => ⟨x, xs, rfl, e⟩, fun ⟨_, _, e, ht⟩ => by cases e; exact ht⟩
  exact ⟨hp.nodup_iff.mpr (List.nodup_cons.mpr ⟨h.head x xs hs, h.nodup⟩),
    fun y ys hy hm => hv.elim (fun hf => (hr.fresh y ys hy).2 hf ((hem hf _).mp hm)) (fun hv => (hr.fresh y ys hy).1 (hv _ hm)),
    fun hf t => by rw [hr.emitted hf t, hem hf t]⟩

end

section
variable [DecidableEq τ] (text : α → τ)

theorem findIdx?_none_iff (vis : List (Group α)) (x : α) :
    vis.findIdx? (fun g => text g.first == text x) = none ↔ text x ∉ gtexts text vis := by
  rw [List.findIdx?_eq_none_iff, gtexts, List.mem_map]
  constructor
  · rintro h ⟨g, hg, hgt⟩
    exact absurd (beq_iff_eq.mpr hgt) (Bool.eq_false_iff.mp (h g hg))
  · intro h g hg
    exact Bool.eq_false_iff.mpr fun hb => h ⟨g, hg, eq_of_beq hb⟩

theorem uniquify_spec (fixed : Bool) (em : List τ) (xs : List α) (vis : List (Group α)) :
    Uniquified text fixed xs em vis (uniquify text fixed xs em vis) := by
  induction xs generalizing vis with
  | nil =>
    exact ⟨rfl, ⟨[], rfl, nofun⟩, nofun, fun _ t => ⟨Or.inl, fun h => h.elim id (fun ⟨_, _, h, _⟩ => nomatch h)⟩⟩
  | cons x xs ih =>
    unfold uniquify
    cases hf : vis.findIdx? (fun g => text g.first == text x) with
    | some j =>
      have hx : text x ∈ gtexts text vis :=
        Classical.not_not.mp fun hn => nomatch hf.symm.trans ((findIdx?_none_iff text vis x).mpr hn)
      obtain ⟨a, ⟨pre, hpre, hall⟩, c, d⟩ := ih (vis.modify j (·.append x))
      rw [gtexts_eq, firsts_modify_append, ← gtexts_eq] at hall c
      exact ⟨a.trans (firsts_modify_append x vis j), ⟨x :: pre, congrArg (x :: ·) hpre,
        fun p hp => (List.mem_cons.mp hp).elim (fun e => Or.inl (e ▸ hx)) (hall p)⟩, c, d⟩
    | none =>
      have hx := (findIdx?_none_iff text vis x).mp hf
      cases fixed with
      | false =>
        exact ⟨rfl, ⟨[], rfl, nofun⟩, fun y ys h => by cases h; exact ⟨hx, nofun⟩, nofun⟩
      | true =>
        by_cases he : text x ∈ em
        · rw [if_pos rfl, if_pos he]
          obtain ⟨a, ⟨pre, hpre, hall⟩, c, d⟩ := ih vis
          exact ⟨a, ⟨x :: pre, congrArg (x :: ·) hpre,
            fun p hp => (List.mem_cons.mp hp).elim (fun e => Or.inr ⟨rfl, e ▸ he⟩) (hall p)⟩, c, d⟩
        · rw [if_pos rfl, if_neg he]
          refine ⟨rfl, ⟨[], rfl, nofun⟩, fun y ys h => by cases h; exact ⟨hx, fun _ => he⟩, fun _ t => ?_⟩
          rw [List.mem_cons]
          exact ⟨fun h => h.elim (fun e => Or.inr ⟨x, xs, rfl, e⟩) Or.inl,
            fun h => h.elim Or.inr (fun ⟨y, ys, h, e⟩ => by cases h; exact Or.inl e)⟩

theorem Uniq.next_cons (fixed : Bool) {u : Uniq α τ} {x : α} {xs : List α} (hs : u.src = x :: xs)
    (vis : List (Group α)) : u.next text fixed vis = uniquify text fixed xs u.emitted vis := by
  unfold Uniq.next; rw [hs]

/-- consumer-independent core: whatever caches the consumer shows, the fixed uniquifier hands out no text it has
handed out before (`S`) and none twice -/
theorem pulls_nodup (vs : List (List (Group α))) {u : Uniq α τ} {S : List τ} (h : u.Tracks text true S) :
    ((Uniq.pulls text true vs u).map text).Nodup ∧ ∀ t ∈ (Uniq.pulls text true vs u).map text, t ∉ S := by
  induction vs generalizing u S with
  | nil => exact ⟨List.nodup_nil, nofun⟩
  | cons v vs ih =>
    unfold Uniq.pulls
    cases hs : u.src with
    | nil => exact ⟨List.nodup_nil, nofun⟩
    | cons x xs =>
      dsimp only
      rw [Uniq.next_cons text true hs]
      obtain ⟨n1, n2⟩ := ih (h.next text hs (uniquify_spec text true u.emitted xs v) (List.Perm.refl _) (Or.inl rfl))
      exact ⟨List.nodup_cons.mpr ⟨fun hm => n2 _ hm List.mem_cons_self, n1⟩,
        fun t ht => (List.mem_cons.mp ht).elim (fun e => e ▸ h.head x xs hs)
          (fun hm hS => n2 t hm (List.mem_cons_of_mem _ hS))⟩

end

end RimeModel.C04
