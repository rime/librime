import RimeModel.C08.PruneFrame
/-! C08 — what the pruning pass leaves of the forward graph -/
namespace RimeModel.C08
open AMap

section
variable (cfg : Cfg) (pr : Prism) (inp : Bytes)

theorem pinv_final : PInv (lastTypeOf (forward cfg pr inp)) (forward cfg pr inp).farthest
    (forward cfg pr inp).vertices (forward cfg pr inp).edges 0 (prune (forward cfg pr inp)) := by
  have inv := forward_inv cfg pr inp
  obtain ⟨t, ht⟩ := fwd_farthest_visited cfg pr inp
  have raw : RawOK (stripE (forward cfg pr inp).edges) := by
    intro s e sm0 h
    obtain ⟨sm', h1, rfl⟩ := evAt_strip_some.mp h
    obtain ⟨a, _, c, _⟩ := fwd_edge_ok cfg pr inp h1
    exact ⟨c, sorted_mapVal a stripP⟩
  have hF : t ≤ lastTypeOf (forward cfg pr inp) := by
    unfold lastTypeOf
    rw [ht]
    exact Nat.le_max_left _ _
  unfold prune
  apply pruneLoop_inv raw _ _ (Nat.le_refl _)
  exact {
    sinv := sinv_init ⟨t, ht, hF⟩
    vlow := fun _ _ => rfl
    vhigh := fun i hi => by
      simp only [List.mem_singleton]
      constructor
      · intro h
        obtain ⟨t', ht'⟩ := Option.isSome_iff_exists.mp h
        exact Nat.le_antisymm (fwd_visited_le cfg pr inp ht') hi
      · rintro rfl
        rw [ht]; rfl
    wf := ⟨inv.ekeys, fun _ _ _ h => (fwd_edge_ok cfg pr inp h).2.2.1, inv.ewf⟩ }

end

/-- `v` is in the set `good` when the pruning pass ends -/
def Good (cfg : Cfg) (pr : Prism) (inp : Bytes) (v : Nat) : Prop := v ∈ (prune (forward cfg pr inp)).good

/-! what the invariant says once the pass has reached position 0 -/
section
variable {L F : Nat} {V : VMap} {E0 : EMap} {st : PState} (inv : PInv L F V E0 0 st)
  {s e u j syl : Nat} {sm : SMap} {p p0 : Props}
include inv

theorem PInv.vertex_iff (v : Nat) : (st.vertices.find? v).isSome = true ↔ v ∈ st.good :=
  inv.vhigh v (Nat.zero_le v)

theorem PInv.good_farthest : F ∈ st.good := inv.sinv.goodF

theorem PInv.good_type {v : Nat} (h : v ∈ st.good) : v ≤ F ∧ ∃ t, V.find? v = some t ∧ t ≤ L :=
  ⟨(inv.sinv.goodGe v h).2, inv.sinv.goodType v h⟩

theorem PInv.good_out {v : Nat} (h : v ∈ st.good) (hne : v ≠ F) : ∃ j ∈ st.good, HasEdge st.edges v j := by
  obtain ⟨j, hj, sm, h1, h2⟩ := inv.sinv.goodOut v h hne
  obtain ⟨sm', h3, rfl⟩ := evAt_strip_some.mp h1
  exact ⟨j, hj, sm', h3, fun hn => h2 (stripSM_eq_nil.mpr hn)⟩

theorem PInv.edge_sound (h : edgeAt st.edges s e syl = some p) :
    ∃ p0, edgeAt E0 s e syl = some p0 ∧ stripP p0 = stripP p := by
  obtain ⟨sm, h2, h3⟩ := strip_edge h
  obtain ⟨sm0, h4, h5⟩ := inv.sinv.sound s e sm h2
  exact unstrip_edge h4 (h5 syl _ h3)

theorem PInv.retain {tu : Nat} (hu : V.find? u = some tu) (htu : tu ≤ L) (huF : u < F) (hj : j ∈ st.good)
    (he : edgeAt E0 u j syl = some p0) (hp : p0.type ≤ L) :
    u ∈ st.good ∧ ∃ p, edgeAt st.edges u j syl = some p ∧ stripP p = stripP p0 := by
  obtain ⟨sm0, h2, h3⟩ := strip_edge he
  obtain ⟨a, sm, b, c⟩ := inv.sinv.retain u (Nat.zero_le _) huF tu hu htu j hj sm0 h2 syl _ h3 hp
  exact ⟨a, unstrip_edge b c⟩

theorem PInv.edge_good (h : evAt st.edges s e = some sm) (hs : s < F) : s ∈ st.good ∧ e ∈ st.good := by
  have h1 := evAt_strip h
  obtain ⟨ev, hq, _⟩ := evAt_some.mp h1
  exact ⟨inv.sinv.procKeys s (Nat.zero_le _) hs (by rw [hq]; rfl), (inv.sinv.procEdges s (Nat.zero_le _) hs e _ h1).1⟩

theorem PInv.untouched (hs : F ≤ s) (e : Nat) :
    (evAt st.edges s e).map stripSM = (evAt E0 s e).map stripSM := by
  rw [← evAt_stripE, ← evAt_stripE]
  exact evAt_congr (inv.sinv.untouched s (Or.inr hs)) e

theorem PInv.ev_ok (hE0 : ∀ s e sm, evAt E0 s e = some sm → sm ≠ []) (h : evAt st.edges s e = some sm) :
    sm ≠ [] ∧ Sorted sm ∧ s < e := by
  refine ⟨fun hn => ?_, ?_, inv.wf.fwdE s e sm h⟩
  · by_cases hs : s < F
    · exact (inv.sinv.procEdges s (Nat.zero_le _) hs e _ (evAt_strip h)).2 (stripSM_eq_nil.mpr hn)
    · have h1 := inv.untouched (Nat.le_of_not_lt hs) e
      rw [h, hn] at h1
      obtain ⟨sm0, h2, h3⟩ := Option.map_eq_some_iff.mp h1.symm
      exact hE0 s e sm0 h2 (stripSM_eq_nil.mp h3)
  · obtain ⟨ev, hq, he⟩ := evAt_some.mp h
    exact (inv.wf.ewf s ev hq).2 e sm he

end
end RimeModel.C08
