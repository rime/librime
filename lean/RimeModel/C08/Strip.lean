import RimeModel.C08.ForwardSpec
/-! C08 — forgetting the ambiguity penalties: `CheckOverlappedSpellings` only changes credibility
(and vertex types), so the shape of the edge map is studied on its stripped image. -/
namespace RimeModel.C08
open AMap

variable {E : EMap} {s e syl : Nat} {sm : SMap} {p : Props}

def stripP (p : Props) : Props := { p with amb := 0 }
def stripSM (sm : SMap) : SMap := sm.map (fun kv => (kv.1, stripP kv.2))
def stripEV (ev : EVMap) : EVMap := ev.map (fun kv => (kv.1, stripSM kv.2))
def stripE (E : EMap) : EMap := E.map (fun kv => (kv.1, stripEV kv.2))

theorem stripP_type (p : Props) : (stripP p).type = p.type := rfl

theorem find?_stripSM (sm : SMap) (k : Nat) : (stripSM sm).find? k = (sm.find? k).map stripP :=
  find?_mapVal sm stripP k
theorem find?_stripEV (ev : EVMap) (k : Nat) : (stripEV ev).find? k = (ev.find? k).map stripSM :=
  find?_mapVal ev stripSM k
theorem find?_stripE (E : EMap) (k : Nat) : (stripE E).find? k = (E.find? k).map stripEV :=
  find?_mapVal E stripEV k

theorem keys_stripSM (sm : SMap) : keys (stripSM sm) = keys sm := keys_mapVal sm stripP

theorem stripSM_eq_nil {sm : SMap} : stripSM sm = [] ↔ sm = [] := by
  unfold stripSM; simp
theorem stripEV_eq_nil {ev : EVMap} : stripEV ev = [] ↔ ev = [] := by
  unfold stripEV; simp

theorem evAt_stripE (E : EMap) (s e : Nat) : evAt (stripE E) s e = (evAt E s e).map stripSM := by
  unfold evAt
  rw [find?_stripE]
  cases E.find? s with
  | none => rfl
  | some ev => simp [find?_stripEV]

theorem evAt_strip_some :
    evAt (stripE E) s e = some sm ↔ ∃ sm', evAt E s e = some sm' ∧ stripSM sm' = sm := by
  rw [evAt_stripE]
  cases evAt E s e <;> simp

theorem evAt_strip (h : evAt E s e = some sm) : evAt (stripE E) s e = some (stripSM sm) :=
  evAt_strip_some.mpr ⟨sm, h, rfl⟩

theorem strip_edge (h : edgeAt E s e syl = some p) :
    ∃ sm, evAt (stripE E) s e = some sm ∧ sm.find? syl = some (stripP p) := by
  obtain ⟨sm, h1, h2⟩ := edgeAt_eq.mp h
  exact ⟨stripSM sm, evAt_strip h1, by rw [find?_stripSM, h2]; rfl⟩

theorem unstrip_edge {q : Props} (h1 : evAt (stripE E) s e = some sm)
    (h2 : sm.find? syl = some q) : ∃ p, edgeAt E s e syl = some p ∧ stripP p = q := by
  obtain ⟨sm', h3, rfl⟩ := evAt_strip_some.mp h1
  rw [find?_stripSM] at h2
  obtain ⟨p, h4, h5⟩ := Option.map_eq_some_iff.mp h2
  exact ⟨p, edgeAt_eq.mpr ⟨sm', h3, h4⟩, h5⟩

theorem stripSM_filterTypes (L : Nat) (sm : SMap) : stripSM (filterTypes L sm) = filterTypes L (stripSM sm) := by
  unfold stripSM filterTypes
  rw [List.filter_map]
  rfl

theorem stripSM_penalize (sm : SMap) : stripSM (sm.map fun kv => (kv.1, penalize kv.2)) = stripSM sm := by
  unfold stripSM
  rw [List.map_map]
  rfl

theorem filterTypes_isEmpty_strip (L : Nat) (sm : SMap) :
    (filterTypes L (stripSM sm)).isEmpty = (filterTypes L sm).isEmpty := by
  rw [← stripSM_filterTypes]
  unfold stripSM
  simp

theorem edgeType_strip (sm : SMap) : edgeType (stripSM sm) = edgeType sm := by
  unfold edgeType stripSM
  rw [List.foldl_map]
  rfl

end RimeModel.C08
