import RimeModel.C08.Final
/-! C08 — `ExpandSearch` is complete over an alphabet that covers the spellings (the stored alphabet of
a loaded prism does), so for a loaded prism "the expand search yields a spelling" is "the remainder
begins a spelling". -/
namespace RimeModel.C08

theorem mem_insertChar {c x : UInt8} {l : Bytes} : x ∈ insertChar c l ↔ x = c ∨ x ∈ l := by
  induction l with
  | nil => exact List.mem_singleton.trans (or_iff_left List.not_mem_nil).symm
  | cons d t ih =>
    unfold insertChar
    by_cases h1 : c = d
    · rw [if_pos h1, h1, List.mem_cons, ← or_assoc, or_self]
    · rw [if_neg h1]
      by_cases h2 : charKey c < charKey d
      · rw [if_pos h2, List.mem_cons]
      · rw [if_neg h2, List.mem_cons, ih, List.mem_cons]
        exact or_left_comm

theorem mem_buildAlphabet {pr : Prism} {x : UInt8} : x ∈ buildAlphabet pr ↔ ∃ row ∈ pr, x ∈ row.1 := by
  unfold buildAlphabet
  rw [mem_foldl_insert (fun _ _ _ => mem_insertChar), List.mem_flatMap]
  exact or_iff_left List.not_mem_nil

theorem isPath_iff {pr : Prism} {s : Bytes} : isPath pr s = true ↔ ∃ row ∈ pr, s <+: row.1 := by
  unfold isPath
  rw [List.any_eq_true]
  exact exists_congr fun row => and_congr_right fun _ => List.isPrefixOf_iff_prefix

theorem foldl_max_ge (pr : Prism) : ∀ (m : Nat), m ≤ pr.foldl (fun m row => max m row.1.length) m := by
  induction pr with
  | nil => intro m; exact Nat.le_refl _
  | cons r t ih => intro m; exact Nat.le_trans (Nat.le_max_left _ _) (ih _)

theorem le_maxKeyLen {pr : Prism} {row : Bytes × List Desc} (h : row ∈ pr) : row.1.length ≤ maxKeyLen pr := by
  unfold maxKeyLen
  suffices ∀ (m : Nat), row.1.length ≤ pr.foldl (fun m row => max m row.1.length) m from this 0
  induction pr with
  | nil => simp at h
  | cons r t ih =>
    intro m
    rcases List.mem_cons.mp h with h1 | h1
    · subst h1
      exact Nat.le_trans (Nat.le_max_right _ _) (foldl_max_ge t _)
    · exact ih h1 _

theorem keyIndex_mem {pr : Prism} {k : Bytes} {i : Nat} (h : keyIndex pr k = some i) :
    ∃ row ∈ pr, row.1 = k ∧ descsOf pr i = row.2 := by
  obtain ⟨row, h1, h2⟩ := keyIndex_some h
  refine ⟨row, List.mem_of_getElem? h1, h2, ?_⟩
  unfold descsOf; rw [h1]

theorem isPath_of_keyIndex {pr : Prism} {s k : Bytes} {i : Nat} (hi : keyIndex pr k = some i) (hs : s <+: k) :
    isPath pr s = true := by
  obtain ⟨row, hrow, hrk, _⟩ := keyIndex_mem hi
  exact isPath_iff.mpr ⟨row, hrow, hrk ▸ hs⟩

theorem length_le_maxKeyLen {pr : Prism} {k : Bytes} {i : Nat} (hi : keyIndex pr k = some i) :
    k.length ≤ maxKeyLen pr := by
  obtain ⟨row, hrow, hrk, _⟩ := keyIndex_mem hi
  exact hrk ▸ le_maxKeyLen hrow

theorem mem_matchesOf {pr : Prism} {nodes : List Bytes} {k : Bytes} {i : Nat}
    (hk : k ∈ nodes) (hi : keyIndex pr k = some i) : (i, k.length) ∈ matchesOf pr nodes := by
  unfold matchesOf
  exact List.mem_filterMap.mpr ⟨k, hk, by rw [hi]⟩

theorem expandLoop_complete {pr : Prism} {al : Bytes} {i : Nat} : ∀ (fuel : Nat) (frontier : List Bytes)
    (node : Bytes) (c : UInt8) (rest : Bytes), node ∈ frontier → rest.length < fuel → (∀ x ∈ c :: rest, x ∈ al) →
    keyIndex pr (node ++ c :: rest) = some i →
    (i, (node ++ c :: rest).length) ∈ expandLoop pr al fuel frontier := by
  intro fuel
  induction fuel with
  | zero => intro _ _ _ _ _ hlen; exact absurd hlen (Nat.not_lt_zero _)
  | succ fuel ih =>
    intro frontier node c rest hn hlen hal hi
    have hchild : node ++ [c] ∈ expandLevel pr al frontier := by
      unfold expandLevel
      refine List.mem_flatMap.mpr ⟨node, hn, List.mem_filterMap.mpr ⟨c, hal c List.mem_cons_self, ?_⟩⟩
      rw [if_pos (isPath_of_keyIndex hi ⟨rest, List.append_assoc node [c] rest⟩)]
    rw [List.append_cons] at hi ⊢
    unfold expandLoop
    cases rest with
    | nil =>
      rw [List.append_nil] at hi ⊢
      exact List.mem_append_left _ (mem_matchesOf hchild hi)
    | cons d rest =>
      exact List.mem_append_right _ (ih _ (node ++ [c]) d rest hchild (Nat.lt_of_succ_lt_succ hlen)
        (fun x hx => hal x (List.mem_cons_of_mem _ hx)) hi)

theorem expandSearch_complete {pr : Prism} {al key k : Bytes} {i : Nat} (hi : keyIndex pr k = some i)
    (hpre : key <+: k) (hal : ∀ c ∈ k.drop key.length, c ∈ al) :
    (i, k.length) ∈ expandSearch pr al key 0 := by
  have hpath : isPath pr key = true := isPath_of_keyIndex hi hpre
  obtain ⟨suffix, rfl⟩ := hpre
  rw [List.drop_left] at hal
  unfold expandSearch
  rw [if_pos hpath, if_pos rfl]
  cases suffix with
  | nil =>
    rw [List.append_nil] at hi ⊢
    exact List.mem_append_left _ (mem_matchesOf (List.mem_singleton.mpr rfl) hi)
  | cons c rest =>
    have := length_le_maxKeyLen hi
    rw [List.length_append, List.length_cons] at this
    exact List.mem_append_right _ (expandLoop_complete _ _ key c rest (List.mem_singleton.mpr rfl)
      (Nat.lt_of_lt_of_le (Nat.lt_add_left _ (Nat.lt_succ_self _)) this) hal hi)

theorem expandSearch_limit_of_le {pr : Prism} {al key : Bytes} {limit : Nat}
    (h : (expandSearch pr al key 0).length ≤ limit) : expandSearch pr al key limit = expandSearch pr al key 0 := by
  unfold expandSearch at h ⊢
  by_cases hp : isPath pr key = true
  · simp only [hp, if_true] at h ⊢
    by_cases hl : limit = 0
    · simp [hl]
    · simp only [hl, if_false]; exact List.take_of_length_le h
  · simp [hp]

theorem searchAlphabet_loaded_covers {pr : Prism} {k : Bytes} {i : Nat} (hi : keyIndex pr k = some i) :
    ∀ c ∈ k, c ∈ searchAlphabet true pr := by
  intro c hc
  obtain ⟨row, hrow, hrk, _⟩ := keyIndex_mem hi
  exact mem_buildAlphabet.mpr ⟨row, hrow, hrk ▸ hc⟩

end RimeModel.C08
