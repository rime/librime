import RimeModel.C08.Expand
/-! C08 — the forward search: the queue loop computes the set of tileable positions with their
best (bottleneck) spelling type, and the raw edge map.  Key fact: pops are lexicographically
non-decreasing because every edge has positive length. -/
namespace RimeModel.C08
open AMap

def qle (x y : Nat × Nat) : Prop := x.1 < y.1 ∨ (x.1 = y.1 ∧ x.2 ≤ y.2)

theorem qle_trans {x y z : Nat × Nat} (h1 : qle x y) (h2 : qle y z) : qle x z := by
  rcases h1 with h1 | ⟨e1, l1⟩
  · exact Or.inl (h2.elim (Nat.lt_trans h1) fun h => h.1 ▸ h1)
  · rcases h2 with h2 | ⟨e2, l2⟩
    · exact Or.inl (e1 ▸ h2)
    · exact Or.inr ⟨e1.trans e2, Nat.le_trans l1 l2⟩

theorem qle_of_not {x y : Nat × Nat} (h : ¬ qle x y) : qle y x := by
  rcases Nat.lt_trichotomy x.1 y.1 with h1 | h1 | h1
  · exact absurd (Or.inl h1) h
  · exact Or.inr ⟨h1.symm, Nat.le_of_not_le fun h2 => h (Or.inr ⟨h1, h2⟩)⟩
  · exact Or.inl h1

theorem qinsert_perm (q : List (Nat × Nat)) (x : Nat × Nat) : (qinsert q x).Perm (x :: q) := by
  induction q with
  | nil => exact .refl _
  | cons a t ih =>
    unfold qinsert
    split
    · exact .refl _
    · exact (ih.cons a).trans (.swap x a t)

theorem qinsert_sorted {q : List (Nat × Nat)} (x : Nat × Nat) (h : q.Pairwise qle) :
    (qinsert q x).Pairwise qle := by
  induction q with
  | nil => exact List.pairwise_singleton _ _
  | cons a t ih =>
    rw [List.pairwise_cons] at h
    unfold qinsert
    split
    · next hx =>
      exact List.pairwise_cons.mpr
        ⟨List.forall_mem_cons.mpr ⟨hx, fun z hz => qle_trans hx (h.1 z hz)⟩, List.pairwise_cons.mpr h⟩
    · next hx =>
      exact List.pairwise_cons.mpr ⟨fun z hz => List.forall_mem_cons.mpr ⟨qle_of_not hx, h.1⟩ z
        ((qinsert_perm t x).mem_iff.mp hz), ih h.2⟩

theorem foldl_qinsert_perm (l q : List (Nat × Nat)) : (l.foldl qinsert q).Perm (q ++ l) := by
  induction l generalizing q with
  | nil => rw [List.append_nil]; exact .refl _
  | cons a t ih => exact (ih _).trans (((qinsert_perm q a).append_right t).trans List.perm_middle.symm)

theorem mem_foldl_qinsert {l q : List (Nat × Nat)} {y : Nat × Nat} :
    y ∈ l.foldl qinsert q ↔ y ∈ q ∨ y ∈ l :=
  (foldl_qinsert_perm l q).mem_iff.trans List.mem_append

theorem foldl_qinsert_sorted {l q : List (Nat × Nat)} (h : q.Pairwise qle) : (l.foldl qinsert q).Pairwise qle := by
  induction l generalizing q with
  | nil => exact h
  | cons a t ih => exact ih (qinsert_sorted a h)

def pushesOf (cfg : Cfg) (pr : Prism) (inp : Bytes) (u : Nat) : List (Nat × Nat) := (expandAt cfg pr inp u []).2
def rawEV (cfg : Cfg) (pr : Prism) (inp : Bytes) (u : Nat) : EVMap := (expandAt cfg pr inp u []).1

/-- what a vertex `u` popped with type `tu` puts into the queue -/
def raised (cfg : Cfg) (pr : Prism) (inp : Bytes) (u tu : Nat) : List (Nat × Nat) :=
  (pushesOf cfg pr inp u).map fun p => (p.1, max p.2 tu)

/-- `x` is pushed at some time: the start pair, or a raised push of a finalised vertex -/
def Src (cfg : Cfg) (pr : Prism) (inp : Bytes) (V : VMap) (x : Nat × Nat) : Prop :=
  x = (0, 0) ∨ ∃ u tu, V.find? u = some tu ∧ x ∈ raised cfg pr inp u tu

/-- `x` is dominated: its position is finalised with a type no larger -/
def Dom (V : VMap) (x : Nat × Nat) : Prop := ∃ t, V.find? x.1 = some t ∧ t ≤ x.2

section
variable {cfg : Cfg} {pr : Prism} {inp : Bytes}

theorem raised_sound {u tu : Nat} {x : Nat × Nat} (h : x ∈ raised cfg pr inp u tu) :
    u < x.1 ∧ x.1 ≤ inp.length ∧ tu ≤ x.2 ∧ ∃ sm, (rawEV cfg pr inp u).find? x.1 = some sm ∧
      (kInvalid ≤ x.2 ∨ ∃ syl p, sm.find? syl = some p ∧ p.type ≤ x.2) := by
  obtain ⟨p, hp, rfl⟩ := List.mem_map.mp h
  obtain ⟨h1, h2, sm, h3, h4⟩ := (rawAt cfg pr inp u).pushSound p.1 p.2 hp
  refine ⟨h1, h2, Nat.le_max_right _ _, sm, h3, ?_⟩
  rcases h4 with h4 | ⟨syl, q, h5, h6⟩
  · exact Or.inl (h4 ▸ Nat.le_max_left _ _)
  · exact Or.inr ⟨syl, q, h5, Nat.le_trans h6 (Nat.le_max_left _ _)⟩

theorem addMatch_pushes_length (cur : Nat) (acc : EVMap × List (Nat × Nat)) (m : Nat × Nat) :
    (addMatch cfg pr inp cur acc m).2.length ≤ acc.2.length + 1 := by
  by_cases hz : m.2 = 0
  · rw [addMatch_zero hz]; exact Nat.le_succ _
  · rw [addMatch_pos hz]
    cases (matchFold cfg pr inp cur acc.1 m).1.isEmpty with
    | true => exact Nat.le_succ _
    | false => exact Nat.le_of_eq List.length_append

theorem raised_length_le (u tu : Nat) : (raised cfg pr inp u tu).length ≤ inp.length := by
  have h1 := foldl_inv (addMatch cfg pr inp u) (fun done acc => acc.2.length ≤ done.length)
    (commonPrefixSearch pr (inp.drop u)) ([], []) (Nat.le_refl 0) fun done acc m _ h => by
      rw [List.length_append]
      exact Nat.le_trans (addMatch_pushes_length u acc m) (Nat.succ_le_succ h)
  have h2 : (commonPrefixSearch pr (inp.drop u)).length ≤ (List.range (inp.drop u).length).length :=
    List.length_filterMap_le _ _
  rw [List.length_range, List.length_drop] at h2
  unfold raised
  rw [List.length_map]
  exact Nat.le_trans h1 (Nat.le_trans h2 (Nat.sub_le _ _))

theorem Src.le {V : VMap} {x : Nat × Nat} (h : Src cfg pr inp V x) : x.1 ≤ inp.length := by
  rcases h with rfl | ⟨u, tu, _, h⟩
  · exact Nat.zero_le _
  · exact (raised_sound h).2.1

theorem Src.mono {V V' : VMap} {x : Nat × Nat} (hsub : ∀ u t, V.find? u = some t → V'.find? u = some t)
    (h : Src cfg pr inp V x) : Src cfg pr inp V' x :=
  h.imp id fun ⟨u, tu, h1, h2⟩ => ⟨u, tu, hsub u tu h1, h2⟩

theorem src_insert {V : VMap} {k t : Nat} {x : Nat × Nat} (h : Src cfg pr inp (V.insert k t) x) :
    Src cfg pr inp V x ∨ x ∈ raised cfg pr inp k t := by
  rcases h with h | ⟨u, tu, h1, h2⟩
  · exact Or.inl (Or.inl h)
  · exact forall_find?_insert (P := fun u tu => x ∈ raised cfg pr inp u tu → _) Or.inr
      (fun u tu h1 h2 => Or.inl (Or.inr ⟨u, tu, h1, h2⟩)) u tu h1 h2

/-- popping `v`, dominated in `V' ⊇ V`, from the queue `v :: q` into `Q' ⊇ q` keeps "queued or dominated" -/
theorem pop_dom {V V' : VMap} {v x : Nat × Nat} {q Q' : List (Nat × Nat)}
    (hsub : ∀ u t, V.find? u = some t → V'.find? u = some t) (hv : Dom V' v) (hq : ∀ y ∈ q, y ∈ Q')
    (h : x ∈ v :: q ∨ Dom V x) : x ∈ Q' ∨ Dom V' x := by
  rcases h with h | ⟨t, h1, h2⟩
  · rcases List.mem_cons.mp h with rfl | h
    · exact Or.inr hv
    · exact Or.inl (hq x h)
  · exact Or.inr ⟨t, hsub _ t h1, h2⟩

theorem fstep_nil {st : FState} (h : st.queue = []) : fstep cfg pr inp st = st := by
  unfold fstep; rw [h]

/-- invariant of the queue loop: the queue is sorted and after every vertex; queue and vertices hold pushed pairs, every
pushed pair is queued or dominated; the rows are those of `rawEV` at the vertices; `farthest` is the largest vertex -/
structure FInv (cfg : Cfg) (pr : Prism) (inp : Bytes) (st : FState) : Prop where
  qsorted : st.queue.Pairwise qle
  qafter : ∀ x ∈ st.queue, ∀ v tv, st.vertices.find? v = some tv → qle (v, tv) x
  qsrc : ∀ x ∈ st.queue, Src cfg pr inp st.vertices x
  vsrc : ∀ u tu, st.vertices.find? u = some tu → Src cfg pr inp st.vertices (u, tu)
  closed : ∀ x, Src cfg pr inp st.vertices x → x ∈ st.queue ∨ Dom st.vertices x
  vedges : ∀ u tu, st.vertices.find? u = some tu → ∀ e, evAt st.edges u e = (rawEV cfg pr inp u).find? e
  ekeys : ∀ u ev, st.edges.find? u = some ev → (st.vertices.find? u).isSome = true
  ewf : ∀ s ev, st.edges.find? s = some ev → Sorted ev ∧ ∀ e sm, ev.find? e = some sm → Sorted sm
  far : ∀ v tv, st.vertices.find? v = some tv → v ≤ st.farthest
  farIn : st.farthest = 0 ∨ (st.vertices.find? st.farthest).isSome = true

theorem finv_init : FInv cfg pr inp fwdInit where
  qsorted := List.pairwise_singleton _ _
  qafter := fun _ _ => nofun
  qsrc := fun _ hx => Or.inl (List.mem_singleton.mp hx)
  vsrc := nofun
  closed := fun x hx => by
    rcases hx with rfl | ⟨u, tu, h, _⟩
    · exact Or.inl (List.mem_singleton.mpr rfl)
    · cases h
  vedges := nofun
  ekeys := nofun
  ewf := nofun
  far := nofun
  farIn := Or.inl rfl

/-- an iteration on a non-empty queue: the head is dominated already and only popped, or it becomes
the farthest vertex, with the out-edges of `rawEV`, and its pushes are queued -/
theorem fstep_cons {st : FState} {v : Nat × Nat} {q : List (Nat × Nat)} (inv : FInv cfg pr inp st)
    (hq : st.queue = v :: q) :
    (Dom st.vertices v ∧ fstep cfg pr inp st = { st with queue := q }) ∨
    (st.vertices.find? v.1 = none ∧ (∀ u tu, st.vertices.find? u = some tu → u < v.1) ∧ ∃ E',
      fstep cfg pr inp st =
        ⟨(raised cfg pr inp v.1 v.2).foldl qinsert q, st.vertices.insert v.1 v.2, E', v.1⟩ ∧
      (∀ u, u ≠ v.1 → E'.find? u = st.edges.find? u) ∧
      (E'.find? v.1).getD [] = rawEV cfg pr inp v.1) := by
  have hv : v ∈ st.queue := hq ▸ List.mem_cons_self
  unfold fstep
  rw [hq]
  cases hf : st.vertices.find? v.1 with
  | some t =>
    refine Or.inl ⟨⟨t, hf, ((inv.qafter v hv v.1 t hf).resolve_left (Nat.lt_irrefl _)).2⟩, ?_⟩
    simp only [hf, Option.isSome_some, if_true]
  | none =>
    have hlt : ∀ u tu, st.vertices.find? u = some tu → u < v.1 := fun u tu h =>
      (inv.qafter v hv u tu h).elim id fun h' => by
        have hu : u = v.1 := h'.1
        rw [hu, hf] at h; cases h
    have hfar : max st.farthest v.1 = v.1 := by
      rcases inv.farIn with h | h
      · rw [h]; exact Nat.max_eq_right (Nat.zero_le _)
      · obtain ⟨t, ht⟩ := Option.isSome_iff_exists.mp h
        exact Nat.max_eq_right (Nat.le_of_lt (hlt _ t ht))
    have hE : st.edges.find? v.1 = none := by
      cases h : st.edges.find? v.1 with
      | none => rfl
      | some ev => have := inv.ekeys v.1 ev h; rw [hf] at this; cases this
    refine Or.inr ⟨rfl, hlt, ?_⟩
    simp only [hf, Option.isSome_none, Bool.false_eq_true, if_false, hE, Option.getD_none, hfar]
    cases hc : (commonPrefixSearch pr (inp.drop v.1)).isEmpty with
    | true =>
      have hnil := expandAt_nil_of_cps_nil (cfg := cfg) (List.isEmpty_iff.mp hc)
      refine ⟨st.edges, ?_, fun _ _ => rfl, ?_⟩
      · unfold raised pushesOf; rw [hnil]; rfl
      · unfold rawEV; rw [hE, hnil]; rfl
    | false =>
      exact ⟨_, rfl, fun u hu => find?_insert_ne _ _ (Ne.symm hu), by rw [find?_insert_self]; rfl⟩

/-- one past the farthest visited position: a new vertex moves it up -/
def frontier (st : FState) : Nat :=
  match st.vertices.find? st.farthest with
  | some _ => st.farthest + 1
  | none => 0

def potential (n : Nat) (st : FState) : Nat := st.queue.length + (n + 1 - frontier st) * (n + 1)

theorem potential_lt {n f p r a : Nat} (hf : f ≤ p) (hp : p ≤ n) (hr : r ≤ n) :
    a + r + (n + 1 - (p + 1)) * (n + 1) < a + 1 + (n + 1 - f) * (n + 1) := by
  have h : n + 1 - (p + 1) + 1 ≤ n + 1 - f := by
    rw [Nat.add_sub_add_right, ← Nat.sub_add_comm hp]
    exact Nat.sub_le_sub_left hf _
  have h := Nat.mul_le_mul_right (n + 1) h
  rw [Nat.succ_mul] at h
  omega

theorem fstep_spec {st : FState} (inv : FInv cfg pr inp st) :
    FInv cfg pr inp (fstep cfg pr inp st) ∧
    (st.queue ≠ [] → potential inp.length (fstep cfg pr inp st) < potential inp.length st) := by
  obtain ⟨Q, V, E, F⟩ := st
  cases Q with
  | nil => exact ⟨inv, fun h => absurd rfl h⟩
  | cons v q =>
    have hqs := List.pairwise_cons.mp inv.qsorted
    have hin : ∀ x ∈ q, x ∈ v :: q := fun x hx => List.mem_cons_of_mem _ hx
    rcases fstep_cons inv rfl with ⟨hdom, hst⟩ | ⟨hnone, hlt, E', hst, hEo, hEv⟩
    · rw [hst]
      refine ⟨{ inv with
        qsorted := hqs.2
        qafter := fun x hx => inv.qafter x (hin x hx)
        qsrc := fun x hx => inv.qsrc x (hin x hx)
        closed := fun x hx => pop_dom (fun _ _ h => h) hdom (fun _ h => h) (inv.closed x hx) }, fun _ => ?_⟩
      exact Nat.add_lt_add_right (Nat.lt_succ_self _) _
    · rw [hst]
      have raw := rawAt cfg pr inp v.1
      have hmem := @mem_foldl_qinsert (raised cfg pr inp v.1 v.2) q
      have hsort := @foldl_qinsert_sorted (raised cfg pr inp v.1 v.2) q hqs.2
      have hlen := (foldl_qinsert_perm (raised cfg pr inp v.1 v.2) q).length_eq
      generalize (raised cfg pr inp v.1 v.2).foldl qinsert q = Q' at hmem hsort hlen ⊢
      have hfv : (V.insert v.1 v.2).find? v.1 = some v.2 := find?_insert_self _ _ _
      have hsub : ∀ u t, V.find? u = some t → (V.insert v.1 v.2).find? u = some t :=
        fun u t => find?_insert_of_none v.2 hnone
      have hvle : ∀ u tu, (V.insert v.1 v.2).find? u = some tu → u ≤ v.1 :=
        forall_find?_insert (Nat.le_refl _) fun u tu h => Nat.le_of_lt (hlt u tu h)
      have hdom : Dom (V.insert v.1 v.2) v := ⟨v.2, hfv, Nat.le_refl _⟩
      refine ⟨{
        qsorted := hsort
        -- the rest of the queue came after `v` and after every old vertex; the pushes of `v` lie beyond `v.1`
        qafter := fun x hx => (hmem.mp hx).elim
          (fun hx => forall_find?_insert (hqs.1 x hx) (inv.qafter x (hin x hx)))
          fun hx u tu h => Or.inl (Nat.lt_of_le_of_lt (hvle u tu h) (raised_sound hx).1)
        qsrc := fun x hx => (hmem.mp hx).elim (fun hx => (inv.qsrc x (hin x hx)).mono hsub)
          fun hx => Or.inr ⟨v.1, v.2, hfv, hx⟩
        vsrc := forall_find?_insert ((inv.qsrc v List.mem_cons_self).mono hsub)
          fun u tu h => (inv.vsrc u tu h).mono hsub
        -- a source pair was one before (and `v`, now popped, is dominated) or is a push of `v` (queued)
        closed := fun x hx => (src_insert hx).elim (fun hx => pop_dom hsub hdom (fun y hy => hmem.mpr (Or.inl hy)) (inv.closed x hx))
          fun hx => Or.inl (hmem.mpr (Or.inr hx))
        vedges := forall_find?_insert (fun e => by unfold evAt; rw [← hEv]; cases E'.find? v.1 <;> rfl) fun u tu h e => by
          unfold evAt
          rw [hEo u (Nat.ne_of_lt (hlt u tu h))]
          exact inv.vedges u tu h e
        ekeys := fun u ev h => by
          by_cases hu : u = v.1
          · rw [hu, hfv]; rfl
          · rw [find?_insert_ne _ _ (Ne.symm hu)]
            exact inv.ekeys u ev (hEo u hu ▸ h)
        ewf := fun s ev h => by
          by_cases hs : s = v.1
          · rw [hs] at h
            rw [h] at hEv
            rw [show ev = rawEV cfg pr inp v.1 from hEv]
            exact ⟨raw.sorted, fun e sm hsm => (raw.smOK e sm hsm).1⟩
          · exact inv.ewf s ev (hEo s hs ▸ h)
        far := hvle
        farIn := Or.inr (hfv ▸ rfl) }, fun _ => ?_⟩
      have h1 : frontier ⟨v :: q, V, E, F⟩ ≤ v.1 := by
        unfold frontier
        cases h : V.find? F with
        | none => exact Nat.zero_le _
        | some t => exact hlt F t h
      dsimp only [potential, frontier]
      rw [hfv, hlen, List.length_append]
      exact potential_lt h1 (inv.qsrc v List.mem_cons_self).le (raised_length_le v.1 v.2)

theorem fwdLoop_spec (k : Nat) {st : FState} (inv : FInv cfg pr inp st)
    (hp : st.queue = [] ∨ potential inp.length st ≤ k) :
    FInv cfg pr inp (fwdLoop cfg pr inp k st) ∧ (fwdLoop cfg pr inp k st).queue = [] := by
  induction k generalizing st with
  | zero =>
    exact ⟨inv, hp.elim id fun h => List.eq_nil_of_length_eq_zero
      (Nat.le_zero.mp (Nat.le_trans (Nat.le_add_right _ _) h))⟩
  | succ k ih =>
    unfold fwdLoop
    obtain ⟨inv', hlt⟩ := fstep_spec inv
    by_cases hq : st.queue = []
    · rw [fstep_nil hq]; exact ih inv (Or.inl hq)
    · exact ih inv' (Or.inr (Nat.le_of_lt_succ (Nat.lt_of_lt_of_le (hlt hq) (hp.resolve_left hq))))

end

theorem forward_spec (cfg : Cfg) (pr : Prism) (inp : Bytes) :
    FInv cfg pr inp (forward cfg pr inp) ∧ (forward cfg pr inp).queue = [] :=
  fwdLoop_spec _ finv_init (Or.inr (Nat.le_of_eq (Nat.add_comm 1 _)))

theorem forward_inv (cfg : Cfg) (pr : Prism) (inp : Bytes) : FInv cfg pr inp (forward cfg pr inp) :=
  (forward_spec cfg pr inp).1

theorem forward_queue_nil (cfg : Cfg) (pr : Prism) (inp : Bytes) : (forward cfg pr inp).queue = [] :=
  (forward_spec cfg pr inp).2

end RimeModel.C08
