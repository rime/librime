import RimeModel.C08.AMap
/-! lookup / ordering laws of the `AMap` operations -/
namespace RimeModel.C08.AMap
variable {β γ : Type}

@[simp] theorem find?_nil (k : Nat) : find? ([] : AMap β) k = none := rfl

theorem find?_cons (k' : Nat) (v : β) (t : AMap β) (k : Nat) :
    find? ((k', v) :: t) k = if k' = k then some v else find? t k := rfl

theorem insert_cons (a : Nat) (b : β) (t : AMap β) (k : Nat) (v : β) :
    insert ((a, b) :: t) k v =
      if k < a then (k, v) :: (a, b) :: t else if k = a then (k, v) :: t else (a, b) :: insert t k v := rfl

theorem find?_insert (m : AMap β) (k k' : Nat) (v : β) :
    find? (insert m k v) k' = if k = k' then some v else find? m k' := by
  induction m with
  | nil => rfl
  | cons h t ih =>
    obtain ⟨a, b⟩ := h
    rw [insert_cons]
    by_cases h1 : k < a
    · rw [if_pos h1]; rfl
    · rw [if_neg h1]
      by_cases h2 : k = a
      · rw [if_pos h2, ← h2]
        exact ite_congr rfl (fun _ => rfl) fun h3 => (if_neg h3).symm
      · rw [if_neg h2, find?_cons, ih, find?_cons]
        by_cases h3 : k = k'
        · rw [if_pos h3, if_neg fun h4 : a = k' => h2 (h3.trans h4.symm), if_pos h3]
        · rw [if_neg h3, if_neg h3]

theorem find?_insert_self (m : AMap β) (k : Nat) (v : β) : find? (insert m k v) k = some v := by
  rw [find?_insert, if_pos rfl]

theorem find?_insert_ne (m : AMap β) {k k' : Nat} (v : β) (h : k ≠ k') :
    find? (insert m k v) k' = find? m k' := by
  rw [find?_insert, if_neg h]

theorem forall_find?_insert {m : AMap β} {k : Nat} {v : β} {P : Nat → β → Prop} (h0 : P k v)
    (h : ∀ k' w, m.find? k' = some w → P k' w) : ∀ k' w, (m.insert k v).find? k' = some w → P k' w := by
  intro k' w hf
  rw [find?_insert] at hf
  split at hf
  · next hk => cases hf; exact hk ▸ h0
  · exact h k' w hf

theorem find?_insert_of_none {m : AMap β} {k k' : Nat} {w : β} (v : β) (hk : m.find? k = none)
    (h : m.find? k' = some w) : (m.insert k v).find? k' = some w := by
  rw [find?_insert_ne _ _ (fun hkk => by rw [hkk, h] at hk; cases hk)]
  exact h

theorem find?_map_key (g : Nat × β → Nat × γ) (h : Nat → β → γ) (hg : ∀ a b, g (a, b) = (a, h a b))
    (m : AMap β) (k : Nat) : find? (m.map g : AMap γ) k = (find? m k).map (h k) := by
  induction m with
  | nil => rfl
  | cons hd t ih =>
    obtain ⟨a, b⟩ := hd
    rw [List.map_cons, hg, find?_cons, find?_cons, ih, apply_ite (Option.map (h k))]
    exact ite_congr rfl (fun h1 => h1 ▸ rfl) fun _ => rfl

theorem find?_modify (m : AMap β) (k k' : Nat) (f : β → β) :
    find? (modify m k f) k' = if k = k' then (find? m k').map f else find? m k' := by
  refine (find?_map_key _ (fun a b => if a = k then f b else b)
    (fun a b => (apply_ite (Prod.mk a) (a = k) (f b) b).symm) m k').trans ?_
  by_cases h : k = k'
  · rw [if_pos h]
    exact congrArg (Option.map · (find? m k')) (funext fun b => if_pos h.symm)
  · rw [if_neg h]
    exact (congrArg (Option.map · (find? m k')) (funext fun b => if_neg (Ne.symm h))).trans Option.map_id'

theorem find?_mapVal (m : AMap β) (f : β → γ) (k : Nat) :
    find? (m.map (fun kv => (kv.1, f kv.2)) : AMap γ) k = (find? m k).map f :=
  find?_map_key _ (fun _ => f) (fun _ _ => rfl) m k

theorem mem_of_find? {m : AMap β} {k : Nat} {v : β} (h : find? m k = some v) : (k, v) ∈ m := by
  induction m with
  | nil => cases h
  | cons hd t ih =>
    obtain ⟨a, b⟩ := hd
    rw [find?_cons] at h
    by_cases h1 : a = k
    · subst h1
      rw [if_pos rfl] at h
      cases h
      exact List.mem_cons_self
    · rw [if_neg h1] at h
      exact List.mem_cons_of_mem _ (ih h)

theorem find?_isSome_iff {m : AMap β} {k : Nat} : (find? m k).isSome ↔ k ∈ keys m := by
  induction m with
  | nil => exact ⟨nofun, nofun⟩
  | cons hd t ih =>
    obtain ⟨a, b⟩ := hd
    rw [find?_cons]
    by_cases h1 : a = k
    · rw [if_pos h1]
      exact ⟨fun _ => List.mem_cons.mpr (Or.inl h1.symm), fun _ => rfl⟩
    · rw [if_neg h1, ih]
      exact ⟨List.mem_cons_of_mem _, fun h => (List.mem_cons.mp h).resolve_left (Ne.symm h1)⟩

theorem find?_eq_none_iff {m : AMap β} {k : Nat} : find? m k = none ↔ k ∉ keys m := by
  rw [← find?_isSome_iff]
  cases find? m k <;> simp

theorem mem_keys_of_mem {m : AMap β} {k : Nat} {v : β} (h : (k, v) ∈ m) : k ∈ keys m := by
  unfold keys
  exact List.mem_map.mpr ⟨(k, v), h, rfl⟩

theorem sorted_cons {a : Nat} {b : β} {t : AMap β} :
    Sorted ((a, b) :: t) ↔ (∀ k ∈ keys t, a < k) ∧ Sorted t :=
  List.pairwise_cons

theorem sorted_nil : Sorted ([] : AMap β) :=
  List.Pairwise.nil

theorem sorted_singleton (k : Nat) (v : β) : Sorted [(k, v)] :=
  List.pairwise_singleton _ _

theorem find?_of_mem_sorted {m : AMap β} (hs : Sorted m) {k : Nat} {v : β} (h : (k, v) ∈ m) :
    find? m k = some v := by
  induction m with
  | nil => cases h
  | cons hd t ih =>
    obtain ⟨a, b⟩ := hd
    rw [sorted_cons] at hs
    rw [find?_cons]
    rcases List.mem_cons.mp h with h1 | h1
    · cases h1; exact if_pos rfl
    · rw [if_neg (Nat.ne_of_lt (hs.1 k (mem_keys_of_mem h1)))]
      exact ih hs.2 h1

theorem mem_keys_insert {m : AMap β} {k k' : Nat} {v : β} :
    k' ∈ keys (insert m k v) ↔ k' = k ∨ k' ∈ keys m := by
  rw [← find?_isSome_iff, ← find?_isSome_iff, find?_insert]
  by_cases h : k = k'
  · simp [h]
  · have : ¬ k' = k := fun h' => h h'.symm
    simp [h, this]

theorem sorted_insert {m : AMap β} (hs : Sorted m) (k : Nat) (v : β) : Sorted (insert m k v) := by
  induction m with
  | nil => exact List.pairwise_singleton _ _
  | cons hd t ih =>
    obtain ⟨a, b⟩ := hd
    have hs' := sorted_cons.mp hs
    rw [insert_cons]
    by_cases h1 : k < a
    · rw [if_pos h1]
      exact sorted_cons.mpr ⟨fun x hx => (List.mem_cons.mp hx).elim (fun h => h ▸ h1)
        fun h => Nat.lt_trans h1 (hs'.1 x h), hs⟩
    · rw [if_neg h1]
      by_cases h2 : k = a
      · rw [if_pos h2, h2]
        exact sorted_cons.mpr hs'
      · rw [if_neg h2]
        have h3 : a < k := Nat.lt_of_le_of_ne (Nat.le_of_not_lt h1) (Ne.symm h2)
        exact sorted_cons.mpr ⟨fun x hx => (mem_keys_insert.mp hx).elim (fun h => h ▸ h3) (hs'.1 x),
          ih hs'.2⟩

theorem sorted_sublist {m m' : AMap β} (h : List.Sublist m' m) (hs : Sorted m) : Sorted m' := by
  unfold Sorted keys at *
  exact List.Pairwise.sublist (List.Sublist.map _ h) hs

theorem sorted_filter {m : AMap β} (hs : Sorted m) (p : Nat × β → Bool) : Sorted (m.filter p : AMap β) :=
  sorted_sublist List.filter_sublist hs

theorem sorted_erase {m : AMap β} (hs : Sorted m) (k : Nat) : Sorted (erase m k) :=
  sorted_filter hs _

theorem keys_modify (m : AMap β) (k : Nat) (f : β → β) : keys (modify m k f) = keys m := by
  unfold keys modify
  rw [List.map_map]
  exact List.map_congr_left fun kv _ => (apply_ite Prod.fst _ _ _).trans (ite_self _)

theorem sorted_modify {m : AMap β} (hs : Sorted m) (k : Nat) (f : β → β) : Sorted (modify m k f) := by
  unfold Sorted; rw [keys_modify]; exact hs

theorem keys_mapVal (m : AMap β) (f : β → γ) : keys (m.map (fun kv => (kv.1, f kv.2)) : AMap γ) = keys m := by
  unfold keys
  rw [List.map_map]
  rfl

theorem sorted_mapVal {m : AMap β} (hs : Sorted m) (f : β → γ) :
    Sorted (m.map (fun kv => (kv.1, f kv.2)) : AMap γ) := by
  unfold Sorted; rw [keys_mapVal]; exact hs

theorem nodup_keys {m : AMap β} (hs : Sorted m) : (keys m).Nodup := by
  unfold Sorted at hs
  exact List.Pairwise.imp (fun h => Nat.ne_of_lt h) hs

theorem find?_erase (m : AMap β) (k k' : Nat) :
    find? (erase m k) k' = if k = k' then none else find? m k' := by
  induction m with
  | nil => exact (ite_self _).symm
  | cons hd t ih =>
    obtain ⟨a, b⟩ := hd
    unfold erase at ih ⊢
    rw [List.filter_cons, find?_cons]
    by_cases ha : a = k
    · rw [if_neg (fun h => bne_iff_ne.mp h ha), ih, ha]
      exact ite_congr rfl (fun _ => rfl) fun h => (if_neg h).symm
    · rw [if_pos (bne_iff_ne.mpr ha), find?_cons, ih]
      by_cases h : a = k'
      · rw [if_pos h, if_neg fun hk => ha (h.trans hk.symm), if_pos h]
      · rw [if_neg h, if_neg h]

theorem erase_of_find?_none {m : AMap β} {k : Nat} (h : find? m k = none) : erase m k = m :=
  List.filter_eq_self.mpr fun _ hkv => bne_iff_ne.mpr fun hk =>
    find?_eq_none_iff.mp h (hk ▸ List.mem_map.mpr ⟨_, hkv, rfl⟩)

theorem find?_eq_some_iff {m : AMap β} (hs : Sorted m) {k : Nat} {v : β} : find? m k = some v ↔ (k, v) ∈ m :=
  ⟨mem_of_find?, find?_of_mem_sorted hs⟩

theorem find?_filter_some {m : AMap β} (hs : Sorted m) (p : Nat × β → Bool) {k : Nat} {v : β} :
    find? (m.filter p : AMap β) k = some v ↔ find? m k = some v ∧ p (k, v) = true := by
  rw [find?_eq_some_iff hs, find?_eq_some_iff (sorted_filter hs p), List.mem_filter]

theorem eq_nil_of_find?_none {m : AMap β} (h : ∀ k, find? m k = none) : m = [] := by
  cases m with
  | nil => rfl
  | cons hd t =>
    obtain ⟨a, b⟩ := hd
    have := h a
    simp [find?_cons] at this

theorem exists_find?_of_ne_nil {m : AMap β} (h : m ≠ []) : ∃ k v, find? m k = some v := by
  cases m with
  | nil => exact absurd rfl h
  | cons hd t => exact ⟨hd.1, hd.2, if_pos rfl⟩

theorem insert_ne_nil (m : AMap β) (k : Nat) (v : β) : insert m k v ≠ [] := by
  intro h
  have := find?_insert_self m k v
  rw [h] at this
  simp at this

theorem find?_erase_some {m : AMap β} {k i : Nat} {v : β} (h : (m.erase k).find? i = some v) :
    k ≠ i ∧ m.find? i = some v := by
  rw [find?_erase] at h
  split at h
  · cases h
  · exact ⟨by assumption, h⟩

theorem find?_modify_some {m : AMap β} {k i : Nat} {f : β → β} {v : β} (h : (m.modify k f).find? i = some v) :
    ∃ v0, m.find? i = some v0 ∧ (v = v0 ∨ v = f v0) := by
  rw [find?_modify] at h
  split at h
  · obtain ⟨v0, h0, h1⟩ := Option.map_eq_some_iff.mp h
    exact ⟨v0, h0, Or.inr h1.symm⟩
  · exact ⟨v, h, Or.inl rfl⟩

theorem mapVal_modify {γ : Type} (m : AMap β) (k : Nat) (f : β → β) (g : β → γ) (h : ∀ v, g (f v) = g v) :
    ((m.modify k f).map (fun kv => (kv.1, g kv.2)) : AMap γ) = (m.map (fun kv => (kv.1, g kv.2)) : AMap γ) := by
  unfold AMap.modify
  rw [List.map_map]
  apply List.map_congr_left
  intro kv _
  simp only [Function.comp]
  split <;> simp [h]

end RimeModel.C08.AMap
