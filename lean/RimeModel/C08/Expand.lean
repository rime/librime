import RimeModel.C08.Basic
/-! C08 — what the loop over matches at one position (`expandAt`) computes -/
namespace RimeModel.C08
open AMap

theorem keyIndex_some {pr : Prism} {k : Bytes} {i : Nat} (h : keyIndex pr k = some i) :
    ∃ row, pr[i]? = some row ∧ row.1 = k := by
  induction pr generalizing i with
  | nil => cases h
  | cons row rest ih =>
    unfold keyIndex at h
    split at h
    · rename_i h1
      cases h
      exact ⟨row, rfl, h1⟩
    · obtain ⟨j, hj, rfl⟩ := Option.map_eq_some_iff.mp h
      exact ih hj

theorem mem_cps {pr : Prism} {s : Bytes} {v l : Nat} :
    (v, l) ∈ commonPrefixSearch pr s ↔ 1 ≤ l ∧ l ≤ s.length ∧ keyIndex pr (s.take l) = some v := by
  unfold commonPrefixSearch
  rw [List.mem_filterMap]
  constructor
  · rintro ⟨i, hi, h⟩
    rw [List.mem_range] at hi
    split at h
    · rename_i hk
      cases h
      exact ⟨Nat.succ_pos i, hi, hk⟩
    · cases h
  · rintro ⟨h1, h2, h3⟩
    refine ⟨l - 1, List.mem_range.mpr (Nat.lt_of_lt_of_le (Nat.sub_lt h1 Nat.one_pos) h2), ?_⟩
    rw [Nat.sub_add_cancel h1, h3]

theorem cps_iff {pr : Prism} {inp : Bytes} {cur v l : Nat} :
    (v, l) ∈ commonPrefixSearch pr (inp.drop cur) ↔
      ∃ k, k ≠ [] ∧ k <+: inp.drop cur ∧ k.length = l ∧ keyIndex pr k = some v := by
  rw [mem_cps]
  constructor
  · rintro ⟨h1, h2, h3⟩
    have hl : ((inp.drop cur).take l).length = l := List.length_take_of_le h2
    refine ⟨_, List.ne_nil_of_length_pos ?_, List.take_prefix _ _, hl, h3⟩
    rw [hl]; exact h1
  · rintro ⟨k, hk, hp, rfl, hi⟩
    refine ⟨List.length_pos_iff.mpr hk, hp.length_le, ?_⟩
    rw [← List.prefix_iff_eq_take.mp hp]; exact hi

/-- all fields but the type agree -/
def SameButType (p q : Props) : Prop :=
  p.endPos = q.endPos ∧ p.cred = q.cred ∧ p.compl = q.compl ∧ p.amb = q.amb

theorem sameButType_refl (p : Props) : SameButType p p := ⟨rfl, rfl, rfl, rfl⟩

theorem sameButType_trans {p q r : Props} (h : SameButType p q) (h' : SameButType q r) :
    SameButType p r := by
  obtain ⟨a, b, c, d⟩ := h
  obtain ⟨a', b', c', d'⟩ := h'
  exact ⟨a.trans a', b.trans b', c.trans c', d.trans d'⟩

/-- invariant of the accessor loop: `sm0`, `t0` = spelling map and `end_vertex_type` on entry, `done` = the readings
consumed, `acc` = the two now; `evt*` speak of the end-vertex type `acc.2` -/
structure DescInv (drop : Bool) (e : Nat) (sm0 : SMap) (t0 : Nat) (done : List Desc) (acc : SMap × Nat) : Prop where
  mono : ∀ syl p0, sm0.find? syl = some p0 →
    ∃ p, acc.1.find? syl = some p ∧ p.type ≤ p0.type ∧ SameButType p p0
  complete : ∀ d ∈ done, (drop && d.type != kNormal) = false →
    ∃ p, acc.1.find? d.syl = some p ∧ p.type ≤ d.type
  sound : ∀ syl p, acc.1.find? syl = some p →
    (∃ p0, sm0.find? syl = some p0 ∧ SameButType p p0 ∧
      (p.type = p0.type ∨ ∃ d ∈ done, (drop && d.type != kNormal) = false ∧ d.syl = syl ∧ d.type = p.type)) ∨
    (sm0.find? syl = none ∧ p.endPos = e ∧ p.compl = 0 ∧ p.amb = 0 ∧
      ∃ d ∈ done, (drop && d.type != kNormal) = false ∧ d.syl = syl ∧ d.type = p.type)
  evtLe : acc.2 ≤ t0
  evtMin : ∀ d ∈ done, (drop && d.type != kNormal) = false → acc.2 ≤ d.type
  evtWit : acc.2 = t0 ∨ ∃ syl p, acc.1.find? syl = some p ∧ p.type ≤ acc.2
  sorted : Sorted sm0 → Sorted acc.1

variable {drop : Bool} {e : Nat} {sm : SMap} {acc : SMap × Nat} {d : Desc}

/-- the entry the accessor loop writes at `d.syl` -/
def newEntry (e : Nat) (sm : SMap) (d : Desc) : Props :=
  match sm.find? d.syl with
  | none => ⟨d.type, e, d.cred, 0, 0⟩
  | some p => { p with type := min p.type d.type }

theorem newEntry_none (h : sm.find? d.syl = none) : newEntry e sm d = ⟨d.type, e, d.cred, 0, 0⟩ := by
  unfold newEntry; rw [h]

theorem newEntry_some {p : Props} (h : sm.find? d.syl = some p) :
    newEntry e sm d = { p with type := min p.type d.type } := by
  unfold newEntry; rw [h]

theorem newEntry_type_le : (newEntry e sm d).type ≤ d.type := by
  unfold newEntry
  cases sm.find? d.syl with
  | none => exact Nat.le_refl _
  | some p => exact Nat.min_le_right _ _

theorem addDesc_skip (h : (drop && d.type != kNormal) = true) : addDesc drop e acc d = acc := by
  unfold addDesc; rw [if_pos h]

theorem addDesc_adm (h : (drop && d.type != kNormal) = false) :
    addDesc drop e acc d =
      (acc.1.insert d.syl (newEntry e acc.1 d), min acc.2 d.type) := by
  have hmin : (if acc.2 > d.type then d.type else acc.2) = min acc.2 d.type := by
    rcases Nat.lt_or_ge d.type acc.2 with h' | h'
    · rw [if_pos h', Nat.min_eq_right (Nat.le_of_lt h')]
    · rw [if_neg (Nat.not_lt.mpr h'), Nat.min_eq_left h']
  unfold addDesc newEntry
  rw [if_neg (by rw [h]; exact Bool.false_ne_true), hmin]
  cases acc.1.find? d.syl <;> rfl

theorem descInv_refl (drop : Bool) (e : Nat) (acc : SMap × Nat) : DescInv drop e acc.1 acc.2 [] acc where
  mono := fun _ p0 h0 => ⟨p0, h0, Nat.le_refl _, sameButType_refl p0⟩
  complete := fun _ h => nomatch h
  sound := fun _ p hp => Or.inl ⟨p, hp, sameButType_refl p, Or.inl rfl⟩
  evtLe := Nat.le_refl _
  evtMin := fun _ h => nomatch h
  evtWit := Or.inl rfl
  sorted := id

theorem descInv_step {sm0 : SMap} {t0 : Nat} {done : List Desc} (inv : DescInv drop e sm0 t0 done acc)
    (d : Desc) : DescInv drop e sm0 t0 (done ++ [d]) (addDesc drop e acc d) := by
  -- what the invariant says of an entry, with one more reading consumed: `done` only grows under the binders
  have hold := fun syl q (hq : acc.1.find? syl = some q) => (inv.sound syl q hq).imp
    (Exists.imp fun _ => And.imp_right (And.imp_right (Or.imp_right
      (Exists.imp fun _ => And.imp_left (List.mem_append_left [d])))))
    (And.imp_right (And.imp_right (And.imp_right (And.imp_right
      (Exists.imp fun _ => And.imp_left (List.mem_append_left [d]))))))
  cases hadm : (drop && d.type != kNormal) with
  | true =>
    rw [addDesc_skip hadm]
    exact { inv with
      complete := forall_mem_snoc inv.complete fun h => nomatch hadm.symm.trans h
      sound := hold
      evtMin := forall_mem_snoc inv.evtMin fun h => nomatch hadm.symm.trans h }
  | false =>
    rw [addDesc_adm hadm]
    have hlast : d ∈ done ++ [d] := List.mem_append_right _ (List.mem_singleton.mpr rfl)
    have hself := find?_insert_self acc.1 d.syl (newEntry e acc.1 d)
    -- an entry found before the step is found after it, its type not larger
    have hkeep : ∀ syl q, acc.1.find? syl = some q → ∃ p,
        (acc.1.insert d.syl (newEntry e acc.1 d)).find? syl = some p ∧ p.type ≤ q.type ∧ SameButType p q := by
      intro syl q hq
      by_cases hs : d.syl = syl
      · subst hs
        rw [hself, newEntry_some hq]
        exact ⟨_, rfl, Nat.min_le_left _ _, sameButType_refl q⟩
      · exact ⟨q, (find?_insert_ne _ _ hs).trans hq, Nat.le_refl _, sameButType_refl q⟩
    exact {
      mono := fun syl p0 h => by
        obtain ⟨q, hq, hle, hs⟩ := inv.mono syl p0 h
        obtain ⟨p, hp, hle', hs'⟩ := hkeep syl q hq
        exact ⟨p, hp, Nat.le_trans hle' hle, sameButType_trans hs' hs⟩
      complete := forall_mem_snoc
        (fun d' hd' ha => by
          obtain ⟨q, hq, hle⟩ := inv.complete d' hd' ha
          obtain ⟨p, hp, hle', _⟩ := hkeep _ q hq
          exact ⟨p, hp, Nat.le_trans hle' hle⟩)
        (fun _ => ⟨_, hself, newEntry_type_le⟩)
      sound := fun syl p h => by
        by_cases hs : d.syl = syl
        · subst hs
          cases hself.symm.trans h
          cases hq : acc.1.find? d.syl with
          | none =>
            rw [newEntry_none hq]
            refine Or.inr ⟨?_, rfl, rfl, rfl, d, hlast, hadm, rfl, rfl⟩
            cases h0 : sm0.find? d.syl with
            | none => rfl
            | some p0 =>
              obtain ⟨q, hq', _⟩ := inv.mono _ p0 h0
              cases hq.symm.trans hq'
          | some q =>
            rw [newEntry_some hq]
            rcases Nat.le_total q.type d.type with hle | hle
            · rw [Nat.min_eq_left hle]
              exact hold _ q hq
            · rw [Nat.min_eq_right hle]
              rcases inv.sound _ q hq with ⟨p0, h0, hs, _⟩ | ⟨h0, a, b, c, _⟩
              · exact Or.inl ⟨p0, h0, hs, Or.inr ⟨d, hlast, hadm, rfl, rfl⟩⟩
              · exact Or.inr ⟨h0, a, b, c, d, hlast, hadm, rfl, rfl⟩
        · exact hold syl p ((find?_insert_ne _ _ hs).symm.trans h)
      evtLe := Nat.le_trans (Nat.min_le_left _ _) inv.evtLe
      evtMin := forall_mem_snoc (fun d' hd' ha => Nat.le_trans (Nat.min_le_left _ _) (inv.evtMin d' hd' ha))
        fun _ => Nat.min_le_right _ _
      evtWit := by
        rcases Nat.le_total acc.2 d.type with hle | hle
        · rw [Nat.min_eq_left hle]
          rcases inv.evtWit with h | ⟨syl, q, hq, hq'⟩
          · exact Or.inl h
          · obtain ⟨p, hp, hle', _⟩ := hkeep syl q hq
            exact Or.inr ⟨syl, p, hp, Nat.le_trans hle' hq'⟩
        · exact Or.inr ⟨d.syl, _, hself, Nat.le_trans newEntry_type_le (Nat.le_of_eq (Nat.min_eq_right hle).symm)⟩
      sorted := fun h => sorted_insert (inv.sorted h) _ _ }

theorem descInv_fold (drop : Bool) (e : Nat) (acc : SMap × Nat) (ds : List Desc) :
    DescInv drop e acc.1 acc.2 ds (ds.foldl (addDesc drop e) acc) :=
  foldl_inv (addDesc drop e) (DescInv drop e acc.1 acc.2) ds acc (descInv_refl drop e acc)
    fun _ _ d _ inv => descInv_step inv d
/-- the `let`s of `addMatch`, named: `drop`, `endPos`, and the result `r` of the accessor loop -/
def dropFlag (cfg : Cfg) (inp : Bytes) (cur e : Nat) : Bool :=
  cfg.strict && (cur == 0 && e == inp.length)

def endOf (cfg : Cfg) (inp : Bytes) (cur : Nat) (m : Nat × Nat) : Nat :=
  skipDelims cfg.delims inp (cur + m.2)

def matchFold (cfg : Cfg) (pr : Prism) (inp : Bytes) (cur : Nat) (ev : EVMap) (m : Nat × Nat) : SMap × Nat :=
  (descsOf pr m.1).foldl (addDesc (dropFlag cfg inp cur (endOf cfg inp cur m)) (endOf cfg inp cur m))
    ((ev.find? (endOf cfg inp cur m)).getD [], kInvalid)

/-- invariant of the loop over matches at `cur`, in terms of the matches `(id, length)` consumed (`done`):
`acc` = (end vertices, pushes) -/
structure MatchInv (cfg : Cfg) (pr : Prism) (inp : Bytes) (cur : Nat) (done : List (Nat × Nat))
    (acc : EVMap × List (Nat × Nat)) : Prop where
  sorted : Sorted acc.1
  smOK : ∀ e sm, acc.1.find? e = some sm → Sorted sm ∧ sm ≠ []
  sound : ∀ e sm syl p, acc.1.find? e = some sm → sm.find? syl = some p →
    p.endPos = e ∧ p.compl = 0 ∧ p.amb = 0 ∧
    ∃ m ∈ done, m.2 ≠ 0 ∧ e = endOf cfg inp cur m ∧ ∃ d ∈ descsOf pr m.1,
      (dropFlag cfg inp cur e && d.type != kNormal) = false ∧ d.syl = syl ∧ d.type = p.type
  complete : ∀ m ∈ done, m.2 ≠ 0 → ∀ d ∈ descsOf pr m.1,
    (dropFlag cfg inp cur (endOf cfg inp cur m) && d.type != kNormal) = false →
    ∃ sm p, acc.1.find? (endOf cfg inp cur m) = some sm ∧ sm.find? d.syl = some p ∧ p.type ≤ d.type
  pushSound : ∀ e t, (e, t) ∈ acc.2 → (∃ m ∈ done, m.2 ≠ 0 ∧ e = endOf cfg inp cur m) ∧
    ∃ sm, acc.1.find? e = some sm ∧ (t = kInvalid ∨ ∃ syl p, sm.find? syl = some p ∧ p.type ≤ t)
  pushComplete : ∀ m ∈ done, m.2 ≠ 0 → ∀ d ∈ descsOf pr m.1,
    (dropFlag cfg inp cur (endOf cfg inp cur m) && d.type != kNormal) = false →
    ∃ t, (endOf cfg inp cur m, t) ∈ acc.2 ∧ t ≤ d.type

variable {cfg : Cfg} {pr : Prism} {inp : Bytes} {cur : Nat} {acc : EVMap × List (Nat × Nat)} {m : Nat × Nat}

theorem addMatch_zero (h : m.2 = 0) : addMatch cfg pr inp cur acc m = acc := by
  unfold addMatch; rw [if_pos h]

theorem addMatch_pos (h : m.2 ≠ 0) :
    addMatch cfg pr inp cur acc m =
      if (matchFold cfg pr inp cur acc.1 m).1.isEmpty then (acc.1.erase (endOf cfg inp cur m), acc.2)
      else (acc.1.insert (endOf cfg inp cur m) (matchFold cfg pr inp cur acc.1 m).1,
        acc.2 ++ [(endOf cfg inp cur m, (matchFold cfg pr inp cur acc.1 m).2)]) := by
  unfold addMatch
  rw [if_neg h]
  rfl

/-- a match none of whose readings is admitted leaves nothing to show -/
theorem matchInv_skip {done : List (Nat × Nat)} (inv : MatchInv cfg pr inp cur done acc)
    (hno : ∀ d ∈ descsOf pr m.1, (dropFlag cfg inp cur (endOf cfg inp cur m) && d.type != kNormal) = true) :
    MatchInv cfg pr inp cur (done ++ [m]) acc :=
  { inv with
    sound := fun e sm syl p h1 h2 => by
      obtain ⟨a, b, c, m', hm', rest⟩ := inv.sound e sm syl p h1 h2
      exact ⟨a, b, c, m', List.mem_append_left _ hm', rest⟩
    complete := forall_mem_snoc inv.complete fun _ d hd hadm => nomatch (hno d hd).symm.trans hadm
    pushSound := fun e t h => by
      obtain ⟨⟨m', hm', r1⟩, r2⟩ := inv.pushSound e t h
      exact ⟨⟨m', List.mem_append_left _ hm', r1⟩, r2⟩
    pushComplete := forall_mem_snoc inv.pushComplete fun _ d hd hadm => nomatch (hno d hd).symm.trans hadm }

theorem matchInv_step {done : List (Nat × Nat)} (hz : m.2 ≠ 0) (inv : MatchInv cfg pr inp cur done acc) :
    MatchInv cfg pr inp cur (done ++ [m]) (addMatch cfg pr inp cur acc m) := by
  have dinv : DescInv _ _ _ kInvalid _ (matchFold cfg pr inp cur acc.1 m) := descInv_fold _ _ (_, _) _
  generalize hE : endOf cfg inp cur m = e at dinv
  generalize hR : matchFold cfg pr inp cur acc.1 m = r at dinv
  cases hemp : r.1.isEmpty with
  | true =>
    have hnil : r.1 = [] := List.isEmpty_iff.mp hemp
    -- the accessor loop has emptied the spelling map: there was none before, and no reading is admitted
    have hnone : acc.1.find? e = none := by
      cases h : acc.1.find? e with
      | none => rfl
      | some sm =>
        obtain ⟨syl, p0, h2⟩ := exists_find?_of_ne_nil (inv.smOK e sm h).2
        obtain ⟨p, h3, _⟩ := dinv.mono syl p0 (by rw [h]; exact h2)
        rw [hnil] at h3; cases h3
    rw [addMatch_pos hz, hR, hemp, if_pos rfl, hE, erase_of_find?_none hnone]
    refine matchInv_skip inv fun d hd => ?_
    rw [hE]
    cases hadm : (dropFlag cfg inp cur e && d.type != kNormal) with
    | true => rfl
    | false =>
      obtain ⟨p, h1, _⟩ := dinv.complete d hd hadm
      rw [hnil] at h1; cases h1
  | false =>
    have hne : r.1 ≠ [] := fun h => by rw [h] at hemp; cases hemp
    rw [addMatch_pos hz, hR, hemp, if_neg Bool.false_ne_true, hE]
    have hfe : (acc.1.insert e r.1).find? e = some r.1 := find?_insert_self _ _ _
    have hmem : m ∈ done ++ [m] := List.mem_append_right _ (List.mem_singleton.mpr rfl)
    have hold : Sorted ((acc.1.find? e).getD []) := by
      cases h : acc.1.find? e with
      | none => exact sorted_nil
      | some sm => exact (inv.smOK e sm h).1
    -- what was found before the step is found after it, with types not larger
    have hkeep : ∀ e' sm, acc.1.find? e' = some sm → ∃ sm', (acc.1.insert e r.1).find? e' = some sm' ∧
        ∀ syl p0, sm.find? syl = some p0 → ∃ p, sm'.find? syl = some p ∧ p.type ≤ p0.type := by
      intro e' sm h
      by_cases he : e = e'
      · subst he
        refine ⟨r.1, hfe, fun syl p0 h0 => ?_⟩
        obtain ⟨p, hp, hle, _⟩ := dinv.mono syl p0 (by rw [h]; exact h0)
        exact ⟨p, hp, hle⟩
      · exact ⟨sm, (find?_insert_ne _ _ he).trans h, fun syl p0 h0 => ⟨p0, h0, Nat.le_refl _⟩⟩
    exact {
      sorted := sorted_insert inv.sorted _ _
      smOK := forall_find?_insert ⟨dinv.sorted hold, hne⟩ inv.smOK
      sound := fun e' sm syl p h1 h2 => by
        by_cases he : e = e'
        · subst he
          cases hfe.symm.trans h1
          rcases dinv.sound syl p h2 with ⟨p0, h3, ⟨s1, _, s3, s4⟩, h5⟩ | ⟨_, h4, h5, h6, d, hd, h7⟩
          · -- an entry that the accessor loop found at `e`
            cases hq : acc.1.find? e with
            | none => rw [hq] at h3; cases h3
            | some sm1 =>
              rw [hq] at h3
              obtain ⟨a, b, c, m', hm', hnz', hee, d', hd', hx, hy, hz'⟩ := inv.sound e sm1 syl p0 hq h3
              refine ⟨s1.trans a, s3.trans b, s4.trans c, ?_⟩
              rcases h5 with h5 | ⟨d, hd, h7⟩
              · exact ⟨m', List.mem_append_left _ hm', hnz', hee, d', hd', hx, hy, hz'.trans h5.symm⟩
              · exact ⟨m, hmem, hz, hE.symm, d, hd, h7⟩
          · exact ⟨h4, h5, h6, m, hmem, hz, hE.symm, d, hd, h7⟩
        · obtain ⟨a, b, c, m', hm', rest⟩ := inv.sound e' sm syl p ((find?_insert_ne _ _ he).symm.trans h1) h2
          exact ⟨a, b, c, m', List.mem_append_left _ hm', rest⟩
      complete := forall_mem_snoc
        (fun m' h hnz d hd hadm => by
          obtain ⟨sm, p, h1, h2, h3⟩ := inv.complete m' h hnz d hd hadm
          obtain ⟨sm', h4, hk⟩ := hkeep _ sm h1
          obtain ⟨p', h5, h6⟩ := hk d.syl p h2
          exact ⟨sm', p', h4, h5, Nat.le_trans h6 h3⟩)
        (fun _ d hd hadm => by
          rw [hE] at hadm ⊢
          obtain ⟨p, h1, h2⟩ := dinv.complete d hd hadm
          exact ⟨r.1, p, hfe, h1, h2⟩)
      pushSound := fun e' t h => by
        rcases List.mem_append.mp h with h | h
        · obtain ⟨⟨m', hm', r1⟩, sm, r2, r3⟩ := inv.pushSound e' t h
          obtain ⟨sm', h4, hk⟩ := hkeep e' sm r2
          refine ⟨⟨m', List.mem_append_left _ hm', r1⟩, sm', h4, r3.imp_right ?_⟩
          rintro ⟨syl, p, r3, r4⟩
          obtain ⟨p', h5, h6⟩ := hk syl p r3
          exact ⟨syl, p', h5, Nat.le_trans h6 r4⟩
        · cases List.mem_singleton.mp h
          exact ⟨⟨m, hmem, hz, hE.symm⟩, r.1, hfe, dinv.evtWit⟩
      pushComplete := forall_mem_snoc
        (fun m' h hnz d hd hadm => by
          obtain ⟨t, h1, h2⟩ := inv.pushComplete m' h hnz d hd hadm
          exact ⟨t, List.mem_append_left _ h1, h2⟩)
        (fun _ d hd hadm => by
          rw [hE] at hadm ⊢
          exact ⟨r.2, List.mem_append_right _ (List.mem_singleton.mpr rfl), dinv.evtMin d hd hadm⟩) }

theorem matchInv_expandAt (cfg : Cfg) (pr : Prism) (inp : Bytes) (cur : Nat) :
    MatchInv cfg pr inp cur (commonPrefixSearch pr (inp.drop cur)) (expandAt cfg pr inp cur []) := by
  unfold expandAt
  apply foldl_inv (addMatch cfg pr inp cur) (MatchInv cfg pr inp cur)
  · exact {
      sorted := sorted_nil
      smOK := fun e sm h => nomatch h
      sound := fun e sm syl p h => nomatch h
      complete := fun m hm => nomatch hm
      pushSound := fun e t h => nomatch h
      pushComplete := fun m hm => nomatch hm }
  · intro done acc m hm inv
    exact matchInv_step (Nat.ne_of_gt (mem_cps.mp hm).1) inv

/-- `MatchInv` after the loop, read in the vocabulary of Spec.lean: what `expandAt` computes from an empty row -/
structure RawAt (cfg : Cfg) (pr : Prism) (inp : Bytes) (cur : Nat) (r : EVMap × List (Nat × Nat)) : Prop where
  sorted : Sorted r.1
  smOK : ∀ e sm, r.1.find? e = some sm → Sorted sm ∧ sm ≠ []
  sound : ∀ e sm syl p, r.1.find? e = some sm → sm.find? syl = some p →
    p.endPos = e ∧ p.compl = 0 ∧ p.amb = 0 ∧
    ∃ k d, Stored pr k d ∧ SpansC cfg.delims inp cur e k ∧ Admits cfg inp cur e d ∧ d.syl = syl ∧ d.type = p.type
  complete : ∀ e k d, Stored pr k d → SpansC cfg.delims inp cur e k → Admits cfg inp cur e d →
    ∃ sm p, r.1.find? e = some sm ∧ sm.find? d.syl = some p ∧ p.type ≤ d.type
  pushSound : ∀ e t, (e, t) ∈ r.2 → cur < e ∧ e ≤ inp.length ∧
    ∃ sm, r.1.find? e = some sm ∧ (t = kInvalid ∨ ∃ syl p, sm.find? syl = some p ∧ p.type ≤ t)
  pushComplete : ∀ e k d, Stored pr k d → SpansC cfg.delims inp cur e k → Admits cfg inp cur e d →
    ∃ t, (e, t) ∈ r.2 ∧ t ≤ d.type
  endsGt : ∀ e sm, r.1.find? e = some sm → cur < e ∧ e ≤ inp.length

variable {cfg : Cfg} {pr : Prism} {inp : Bytes} {cur e : Nat} {d : Desc}

theorem admits_iff :
    (dropFlag cfg inp cur e && d.type != kNormal) = false ↔ Admits cfg inp cur e d := by
  unfold dropFlag Admits
  rw [Bool.eq_false_iff]
  simp only [ne_eq, Bool.and_eq_true, beq_iff_eq, bne_iff_ne, and_assoc]

theorem match_spans {m : Nat × Nat} (hm : m ∈ commonPrefixSearch pr (inp.drop cur)) :
    ∃ k, keyIndex pr k = some m.1 ∧ SpansC cfg.delims inp cur (endOf cfg inp cur m) k := by
  obtain ⟨k, hk, hp, hl, hi⟩ := cps_iff.mp hm
  refine ⟨k, hi, hk, hp, ?_⟩
  rw [hl]; rfl

theorem spans_to_match {k : Bytes} (hs : Stored pr k d) (hsp : SpansC cfg.delims inp cur e k) :
    ∃ m, m ∈ commonPrefixSearch pr (inp.drop cur) ∧ m.2 ≠ 0 ∧ endOf cfg inp cur m = e ∧ d ∈ descsOf pr m.1 := by
  obtain ⟨i, hi, hd⟩ := hs
  obtain ⟨hk, hp, he⟩ := hsp
  exact ⟨(i, k.length), cps_iff.mpr ⟨k, hk, hp, rfl, hi⟩, Nat.ne_of_gt (List.length_pos_iff.mpr hk), he.symm, hd⟩

/-- the row is empty when a position is first expanded: `hE` in `fstep_cons` -/
theorem rawAt (cfg : Cfg) (pr : Prism) (inp : Bytes) (cur : Nat) :
    RawAt cfg pr inp cur (expandAt cfg pr inp cur []) := by
  have inv := matchInv_expandAt cfg pr inp cur
  have hends : ∀ e sm, (expandAt cfg pr inp cur []).1.find? e = some sm → cur < e ∧ e ≤ inp.length := by
    intro e sm h
    obtain ⟨syl, p, h2⟩ := exists_find?_of_ne_nil (inv.smOK e sm h).2
    obtain ⟨_, _, _, m, hm, _, rfl, _⟩ := inv.sound e sm syl p h h2
    obtain ⟨k, _, hsp⟩ := match_spans (cfg := cfg) hm
    have hb := spansC_bounds hsp
    exact ⟨Nat.lt_of_lt_of_le hb.1 hb.2.1, hb.2.2⟩
  exact {
    sorted := inv.sorted
    smOK := inv.smOK
    sound := fun e sm syl p h1 h2 => by
      obtain ⟨a, b, c, m, hm, _, rfl, d, hd, hadm, hsyl, hty⟩ := inv.sound e sm syl p h1 h2
      obtain ⟨k, hi, hsp⟩ := match_spans (cfg := cfg) hm
      exact ⟨a, b, c, k, d, ⟨m.1, hi, hd⟩, hsp, admits_iff.mp hadm, hsyl, hty⟩
    complete := fun e k d hst hsp hadm => by
      obtain ⟨m, hm, hnz, rfl, hd⟩ := spans_to_match hst hsp
      exact inv.complete m hm hnz d hd (admits_iff.mpr hadm)
    pushSound := fun e t h => by
      obtain ⟨_, sm, h1, h2⟩ := inv.pushSound e t h
      exact ⟨(hends e sm h1).1, (hends e sm h1).2, sm, h1, h2⟩
    pushComplete := fun e k d hst hsp hadm => by
      obtain ⟨m, hm, hnz, rfl, hd⟩ := spans_to_match hst hsp
      exact inv.pushComplete m hm hnz d hd (admits_iff.mpr hadm)
    endsGt := hends }

theorem expandAt_nil_of_cps_nil
    (h : commonPrefixSearch pr (inp.drop cur) = []) : expandAt cfg pr inp cur [] = ([], []) := by
  unfold expandAt; rw [h]; rfl

end RimeModel.C08
