import RimeModel.C08.Final
/-! C08 — `Transpose` -/
namespace RimeModel.C08
open AMap

theorem transposeSM_find (sm : SMap) (hs : Sorted sm) (syl : Nat) :
    ∀ idx : AMap (List Props),
      ((transposeSM idx sm).find? syl).getD [] = (idx.find? syl).getD [] ++ (sm.find? syl).toList := by
  induction sm with
  | nil => exact fun idx => (List.append_nil _).symm
  | cons hd t ih =>
    intro idx
    obtain ⟨a, b⟩ := hd
    have hs' := sorted_cons.mp hs
    have hstep : transposeSM idx ((a, b) :: t) = transposeSM (idx.insert a ((idx.find? a).getD [] ++ [b])) t :=
      rfl
    rw [hstep, ih hs'.2, find?_insert, find?_cons]
    by_cases h : a = syl
    · subst h
      have hn : AMap.find? t a = none := find?_eq_none_iff.mpr fun hx => Nat.lt_irrefl _ (hs'.1 a hx)
      rw [if_pos rfl, if_pos rfl, hn]
      exact List.append_nil _
    · rw [if_neg h, if_neg h]

theorem transposeEV_fold (l : List (Nat × SMap)) (hs : ∀ x ∈ l, Sorted x.2) (syl : Nat) :
    ∀ idx : AMap (List Props),
      ((l.foldl (fun idx e => transposeSM idx e.2) idx).find? syl).getD [] =
        (idx.find? syl).getD [] ++ l.filterMap (fun e => e.2.find? syl) := by
  induction l with
  | nil => exact fun idx => (List.append_nil _).symm
  | cons x t ih =>
    intro idx
    rw [List.foldl_cons, ih (fun y hy => hs y (List.mem_cons_of_mem _ hy)),
      transposeSM_find _ (hs x List.mem_cons_self), List.filterMap_cons]
    cases x.2.find? syl with
    | none => exact congrArg (· ++ _) (List.append_nil _)
    | some p => exact List.append_assoc _ _ _

theorem indexAt_transpose (E : EMap) (s syl : Nat) (hs : ∀ x ∈ (E.find? s).getD [], Sorted x.2) :
    indexAt (transpose E) s syl = ((E.find? s).getD []).reverse.filterMap (fun x => x.2.find? syl) := by
  unfold indexAt transpose
  rw [find?_mapVal]
  cases h : E.find? s with
  | none => rfl
  | some ev =>
    have hs' : ∀ x ∈ ev.reverse, Sorted x.2 := fun x hx => hs x (by rw [h]; exact List.mem_reverse.mp hx)
    exact (transposeEV_fold ev.reverse hs' syl []).trans (List.nil_append _)

theorem descending_of_sorted (syl : Nat) (l : List (Nat × SMap)) (hp : l.Pairwise (fun a b => a.1 > b.1))
    (he : ∀ x ∈ l, ∀ p, x.2.find? syl = some p → p.endPos = x.1) :
    ((l.filterMap (fun x => x.2.find? syl)).map (·.endPos)).Pairwise (· > ·) :=
  List.pairwise_map.mpr (List.pairwise_filterMap.mpr
    (hp.imp_of_mem fun ha hb h p hpa q hqb => by rw [he _ ha p hpa, he _ hb q hqb]; exact h))

theorem transpose_spec (E : EMap) (hrow : ∀ s ev, E.find? s = some ev → Sorted ev)
    (hev : ∀ s e sm, evAt E s e = some sm → Sorted sm ∧ ∀ syl p, sm.find? syl = some p → p.endPos = e) :
    (∀ s, ((transpose E).find? s).isSome = (E.find? s).isSome) ∧
    (∀ s syl p, p ∈ indexAt (transpose E) s syl ↔ ∃ e, edgeAt E s e syl = some p) ∧
    (∀ s syl, ((indexAt (transpose E) s syl).map (·.endPos)).Pairwise (· > ·)) := by
  have hsorted : ∀ s, Sorted ((E.find? s).getD []) := by
    intro s
    cases h : E.find? s with
    | none => exact sorted_nil
    | some ev => exact hrow s ev h
  have hmem : ∀ s, ∀ x ∈ (E.find? s).getD [], evAt E s x.1 = some x.2 :=
    fun s x hx => by rw [evAt_eq]; exact find?_of_mem_sorted (hsorted s) hx
  have hidx := fun s syl => indexAt_transpose E s syl (fun x hx => (hev s x.1 x.2 (hmem s x hx)).1)
  refine ⟨?_, ?_, ?_⟩
  · intro s
    unfold transpose
    rw [find?_mapVal, Option.isSome_map]
  · intro s syl p
    rw [hidx, List.mem_filterMap]
    constructor
    · rintro ⟨x, hx, hp⟩
      exact ⟨x.1, edgeAt_eq.mpr ⟨x.2, hmem s x (List.mem_reverse.mp hx), hp⟩⟩
    · rintro ⟨e, he⟩
      obtain ⟨sm, hsm, hp⟩ := edgeAt_eq.mp he
      rw [evAt_eq] at hsm
      exact ⟨(e, sm), List.mem_reverse.mpr (mem_of_find? hsm), hp⟩
  · intro s syl
    rw [hidx]
    apply descending_of_sorted
    · rw [List.pairwise_reverse]
      exact List.pairwise_map.mp (hsorted s)
    · intro x hx p hp
      exact (hev s x.1 x.2 (hmem s x (List.mem_reverse.mp hx))).2 syl p hp

end RimeModel.C08
