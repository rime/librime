import RimeModel.C08.Spec
import RimeModel.C08.AMapLemmas
/-! C08 — list lemmas (`foldl`, `takeWhile`), delimiter skipping (the computational form `SpansC` of `Spans`), and the
lookups `evAt` / `edgeAt` under the map operations -/
namespace RimeModel.C08

theorem mem_foldl_insert {α} {f : List α → α → List α} (hf : ∀ acc c y, y ∈ f acc c ↔ y = c ∨ y ∈ acc)
    {y : α} : ∀ (cs acc : List α), y ∈ cs.foldl f acc ↔ y ∈ cs ∨ y ∈ acc := by
  intro cs
  induction cs with
  | nil => intro acc; exact (or_iff_right List.not_mem_nil).symm
  | cons c t ih =>
    intro acc
    rw [List.foldl_cons, ih, hf, List.mem_cons]
    exact or_left_comm.trans or_assoc.symm

theorem takeWhile_len_get {α} (p : α → Bool) :
    ∀ (l : List α) (b : α), l[(l.takeWhile p).length]? = some b → p b = false := by
  intro l
  induction l with
  | nil => intro b h; cases h
  | cons a t ih =>
    intro b h
    by_cases hp : p a = true
    · rw [List.takeWhile_cons_of_pos hp, List.length_cons, List.getElem?_cons_succ] at h
      exact ih b h
    · rw [List.takeWhile_cons_of_neg hp, List.length_nil, List.getElem?_cons_zero] at h
      cases h
      exact Bool.eq_false_iff.mpr hp

theorem takeWhile_app_len {α} (p : α → Bool) (dl rest : List α) (h1 : ∀ b ∈ dl, p b = true)
    (h2 : ∀ b, rest.head? = some b → p b = false) :
    ((dl ++ rest).takeWhile p).length = dl.length := by
  have hr : rest.takeWhile p = [] := by
    cases rest with
    | nil => rfl
    | cons a t => exact List.takeWhile_cons_of_neg (by rw [h2 a rfl]; exact Bool.false_ne_true)
  rw [List.takeWhile_append_of_pos h1, hr, List.append_nil]

theorem of_mem_takeWhile {α} (p : α → Bool) (l : List α) (b : α) (h : b ∈ l.takeWhile p) : p b = true :=
  List.all_eq_true.mp List.all_takeWhile b h

theorem foldl_inv {α β} (f : β → α → β) (P : List α → β → Prop) (l : List α) (init : β)
    (h0 : P [] init) (hstep : ∀ done acc x, x ∈ l → P done acc → P (done ++ [x]) (f acc x)) :
    P l (l.foldl f init) := by
  suffices h : ∀ (rest done : List α) (acc : β), done ++ rest = l → P done acc →
      P l (rest.foldl f acc) from h l [] init rfl h0
  intro rest
  induction rest with
  | nil =>
    intro done acc hl h
    rw [← hl, List.append_nil]
    exact h
  | cons x t ih =>
    intro done acc hl h
    refine ih (done ++ [x]) (f acc x) (by rw [List.append_assoc]; exact hl) (hstep done acc x ?_ h)
    rw [← hl]
    exact List.mem_append_right _ (List.mem_cons_self ..)

theorem forall_mem_snoc {α} {P : α → Prop} {l : List α} {a : α} (hl : ∀ x ∈ l, P x) (ha : P a) :
    ∀ x ∈ l ++ [a], P x := by
  intro x hx
  rcases List.mem_append.mp hx with h | h
  · exact hl x h
  · rw [List.mem_singleton.mp h]; exact ha

/-- computational form of `Spans` -/
def SpansC (delims inp : Bytes) (s e : Nat) (k : Bytes) : Prop :=
  k ≠ [] ∧ k <+: inp.drop s ∧ e = skipDelims delims inp (s + k.length)

theorem spansC_bounds {delims inp : Bytes} {s e : Nat} {k : Bytes} (h : SpansC delims inp s e k) :
    s < s + k.length ∧ s + k.length ≤ e ∧ e ≤ inp.length := by
  obtain ⟨hk, hp, he⟩ := h
  have hl := hp.length_le
  rw [List.length_drop] at hl
  have hk' : 0 < k.length := List.length_pos_iff.mpr hk
  unfold skipDelims at he
  have := (List.takeWhile_sublist (fun b => delims.contains b) (l := inp.drop (s + k.length))).length_le
  rw [List.length_drop] at this
  omega

theorem spansC_lt {delims inp : Bytes} {s e : Nat} {k : Bytes} (h : SpansC delims inp s e k) : s < e :=
  Nat.lt_of_lt_of_le (spansC_bounds h).1 (spansC_bounds h).2.1

theorem spans_of_spansC {delims inp : Bytes} {s e : Nat} {k : Bytes} (h : SpansC delims inp s e k) :
    Spans delims inp s e k := by
  have hb := spansC_bounds h
  obtain ⟨hk, hp, he⟩ := h
  refine ⟨hk, hb.2.2, ?_, ?_⟩
  · refine ⟨(inp.drop (s + k.length)).takeWhile (fun b => delims.contains b), ?_, ?_⟩
    · obtain ⟨r, hr⟩ := hp
      have hr2 : inp.drop (s + k.length) = r := by
        rw [← List.drop_drop, ← hr, List.drop_left]
      unfold skipDelims at he
      rw [← hr, hr2]
      rw [hr2] at he
      have : e - s = k.length + (List.takeWhile (fun b => delims.contains b) r).length := by
        rw [he, Nat.add_assoc, Nat.add_sub_cancel_left]
      rw [this, List.take_length_add_append]
      congr 1
      exact (List.prefix_iff_eq_take.mp (List.takeWhile_prefix _)).symm
    · intro b hb
      exact List.contains_iff_mem.mp (of_mem_takeWhile _ _ _ hb)
  · intro b hb
    unfold skipDelims at he
    have h2 : (inp.drop (s + k.length))[((inp.drop (s + k.length)).takeWhile (fun b => delims.contains b)).length]? = some b := by
      rw [List.getElem?_drop, ← he]; exact hb
    have := takeWhile_len_get _ _ _ h2
    exact fun hm => absurd (List.contains_iff_mem.mpr hm) (Bool.eq_false_iff.mp this)

theorem spansC_of_spans {delims inp : Bytes} {s e : Nat} {k : Bytes} (h : Spans delims inp s e k) :
    SpansC delims inp s e k := by
  obtain ⟨hk, hle, ⟨dl, htext, hdl⟩, hg⟩ := h
  have hk' : 0 < k.length := List.length_pos_iff.mpr hk
  have hlen := congrArg List.length htext
  rw [List.length_take, List.length_drop, List.length_append,
    Nat.min_eq_left (Nat.sub_le_sub_right hle s)] at hlen
  have hse : s + (e - s) = e := by omega
  -- the text from `s` on: the spelling, the delimiters, the rest from `e` on
  have hsplit : inp.drop s = k ++ (dl ++ inp.drop e) := by
    rw [← List.append_assoc, ← htext, ← hse, ← List.drop_drop, hse, List.take_append_drop]
  refine ⟨hk, ⟨_, hsplit.symm⟩, ?_⟩
  unfold skipDelims
  rw [← List.drop_drop, hsplit, List.drop_left, takeWhile_app_len _ _ _
    (fun b hb => List.contains_iff_mem.mpr (hdl b hb))
    (fun b hb => Bool.eq_false_iff.mpr fun hc => hg b (List.head?_drop ▸ hb) (List.contains_iff_mem.mp hc))]
  omega

theorem spans_iff {delims inp : Bytes} {s e : Nat} {k : Bytes} :
    Spans delims inp s e k ↔ SpansC delims inp s e k :=
  ⟨spansC_of_spans, spans_of_spansC⟩

/-! ### `evAt`, `edgeAt` -/

section
open AMap

theorem evAt_eq (X : EMap) (i j : Nat) : evAt X i j = ((X.find? i).getD []).find? j := by
  unfold evAt
  cases X.find? i <;> rfl

theorem evAt_congr {X Y : EMap} {s : Nat} (h : X.find? s = Y.find? s) (e : Nat) : evAt X s e = evAt Y s e := by
  unfold evAt; rw [h]

theorem evAt_modify (E : EMap) (k : Nat) (f : EVMap → EVMap) (s e : Nat) :
    evAt (E.modify k f) s e = if k = s then (E.find? s).bind (fun ev => (f ev).find? e) else evAt E s e := by
  unfold evAt
  rw [find?_modify]
  split
  · cases E.find? s <;> rfl
  · rfl

theorem evAt_insert_ne {E : EMap} {s s' : Nat} (ev : EVMap) (e : Nat) (h : s ≠ s') :
    evAt (E.insert s ev) s' e = evAt E s' e := by
  unfold evAt; rw [find?_insert_ne _ _ h]

theorem evAt_insert_self {E : EMap} {s : Nat} (ev : EVMap) (e : Nat) :
    evAt (E.insert s ev) s e = ev.find? e := by
  unfold evAt; rw [find?_insert_self]; rfl

variable {E : EMap} {s e syl : Nat} {sm : SMap} {p : Props}

theorem evAt_some :
    evAt E s e = some sm ↔ ∃ ev, E.find? s = some ev ∧ ev.find? e = some sm := by
  unfold evAt
  cases E.find? s <;> simp

theorem edgeAt_eq :
    edgeAt E s e syl = some p ↔ ∃ sm, evAt E s e = some sm ∧ sm.find? syl = some p := by
  unfold edgeAt
  cases evAt E s e <;> simp

end

end RimeModel.C08
