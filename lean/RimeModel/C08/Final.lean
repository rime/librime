import RimeModel.C08.Complete
/-! C08 — the graph `build` returns: pruned forward graph + completion edge -/
namespace RimeModel.C08
open AMap

section
variable (cfg : Cfg) (pr : Prism) (inp : Bytes) {s e u syl : Nat} {sm : SMap} {p : Props} {k : Bytes} {d : Desc}

/-- abbreviations for the stages of `build` -/
def fwdG : FState := forward cfg pr inp
def farG : Nat := (forward cfg pr inp).farthest
def finalE : EMap := (complete cfg pr inp (prune (forward cfg pr inp)).edges (forward cfg pr inp).farthest).1
def finalIL : Nat := (complete cfg pr inp (prune (forward cfg pr inp)).edges (forward cfg pr inp).farthest).2

theorem build_edges : (build cfg pr inp).edges = finalE cfg pr inp := by
  cases inp with
  | nil => unfold finalE complete; simp; rfl
  | cons a t => rfl

theorem build_il : (build cfg pr inp).interpretedLength = finalIL cfg pr inp := by
  cases inp with
  | nil => unfold finalIL complete; simp; rfl
  | cons a t => rfl

theorem build_indices : (build cfg pr inp).indices = transpose (build cfg pr inp).edges := by
  cases inp <;> rfl

theorem build_vertices (h : inp ≠ []) : (build cfg pr inp).vertices = (prune (forward cfg pr inp)).vertices := by
  cases inp with
  | nil => exact absurd rfl h
  | cons a t => rfl

theorem eq_of_stripP {q : Props} (h : stripP p = stripP q) :
    p.type = q.type ∧ p.endPos = q.endPos ∧ p.compl = q.compl :=
  ⟨congrArg (·.type) h, congrArg (·.endPos) h, congrArg (·.compl) h⟩

theorem admits_of_normal (h : d.type = kNormal) : Admits cfg inp s e d :=
  fun hh => hh.2.2.2 h

theorem fwd_edge_reading (h : evAt (forward cfg pr inp).edges s e = some sm) :
    ∃ k d syl p, Stored pr k d ∧ SpansC cfg.delims inp s e k ∧ Admits cfg inp s e d ∧
      sm.find? syl = some p ∧ d.type = p.type := by
  obtain ⟨syl, p, hp⟩ := exists_find?_of_ne_nil (fwd_edge_ok cfg pr inp h).2.1
  obtain ⟨_, _, _, k, d, hst, hsp, hadm, _, hdt⟩ := fwd_edge_sound cfg pr inp h hp
  exact ⟨k, d, syl, p, hst, hsp, hadm, hp, hdt⟩

/-- no spelling starts at the farthest vertex: its end would be a visited vertex further on -/
theorem no_span_at_farthest (hst : Stored pr k d)
    (hsp : SpansC cfg.delims inp (forward cfg pr inp).farthest e k)
    (hadm : Admits cfg inp (forward cfg pr inp).farthest e d) : False := by
  obtain ⟨t, ht⟩ := fwd_farthest_visited cfg pr inp
  obtain ⟨te, hte, _⟩ := fwd_step cfg pr inp ht hst hsp hadm
  exact Nat.lt_irrefl _ (Nat.lt_of_lt_of_le (spansC_lt hsp) (fwd_visited_le cfg pr inp hte))

theorem fwd_no_out_farthest (e : Nat) : evAt (forward cfg pr inp).edges (forward cfg pr inp).farthest e = none := by
  cases h : evAt (forward cfg pr inp).edges (forward cfg pr inp).farthest e with
  | none => rfl
  | some sm =>
    obtain ⟨k, d, _, _, hst, hsp, hadm, _⟩ := fwd_edge_reading cfg pr inp h
    exact (no_span_at_farthest cfg pr inp hst hsp hadm).elim

theorem pruned_no_out_farthest (e : Nat) :
    evAt (prune (forward cfg pr inp)).edges (forward cfg pr inp).farthest e = none := by
  have := (pinv_final cfg pr inp).untouched (Nat.le_refl (forward cfg pr inp).farthest) e
  rw [fwd_no_out_farthest] at this
  exact Option.map_eq_none_iff.mp this

theorem pruned_ev_farthest_nil :
    ((prune (forward cfg pr inp)).edges.find? (forward cfg pr inp).farthest).getD [] = [] := by
  apply eq_nil_of_find?_none
  intro e
  rw [← evAt_eq]
  exact pruned_no_out_farthest cfg pr inp e

theorem pruned_ev_ok (h : evAt (prune (forward cfg pr inp)).edges s e = some sm) : sm ≠ [] ∧ Sorted sm ∧ s < e :=
  (pinv_final cfg pr inp).ev_ok (fun _ _ _ h0 => (fwd_edge_ok cfg pr inp h0).2.1) h

theorem pruned_edge_spec
    (h : edgeAt (prune (forward cfg pr inp)).edges s e syl = some p) :
    p.endPos = e ∧ p.compl = 0 ∧ ∃ k d, Stored pr k d ∧ SpansC cfg.delims inp s e k ∧
      Admits cfg inp s e d ∧ d.syl = syl ∧ d.type = p.type := by
  obtain ⟨p0, hp0, hstrip⟩ := (pinv_final cfg pr inp).edge_sound h
  obtain ⟨sm0, hsm0, hp0'⟩ := edgeAt_eq.mp hp0
  obtain ⟨a, b, _, k, d, hst, hsp, hadm, hds, hdt⟩ := fwd_edge_sound cfg pr inp hsm0 hp0'
  obtain ⟨e1, e2, e3⟩ := eq_of_stripP hstrip
  exact ⟨e2.symm.trans a, e3.symm.trans b, k, d, hst, hsp, hadm, hds, hdt.trans e1⟩

theorem pruned_edge_good (h : evAt (prune (forward cfg pr inp)).edges s e = some sm) :
    Good cfg pr inp s ∧ Good cfg pr inp e := by
  apply (pinv_final cfg pr inp).edge_good h
  obtain ⟨syl, p, hp⟩ := exists_find?_of_ne_nil (pruned_ev_ok cfg pr inp h).1
  obtain ⟨p0, hp0, _⟩ := (pinv_final cfg pr inp).edge_sound (edgeAt_eq.mpr ⟨sm, h, hp⟩)
  obtain ⟨sm0, hsm0, _⟩ := edgeAt_eq.mp hp0
  obtain ⟨t, ht⟩ := fwd_edge_visited cfg pr inp hsm0
  refine Nat.lt_of_le_of_ne (fwd_visited_le cfg pr inp ht) fun hs => ?_
  rw [hs, pruned_no_out_farthest] at h
  cases h

theorem pruned_edge_complete {tu : Nat}
    (hu : (forward cfg pr inp).vertices.find? u = some tu) (htu : tu ≤ lastTypeOf (forward cfg pr inp))
    (he : Good cfg pr inp e) (hst : Stored pr k d) (hsp : SpansC cfg.delims inp u e k)
    (hadm : Admits cfg inp u e d) (hd : d.type ≤ lastTypeOf (forward cfg pr inp)) :
    Good cfg pr inp u ∧ ∃ p, edgeAt (prune (forward cfg pr inp)).edges u e d.syl = some p ∧ p.type ≤ d.type := by
  obtain ⟨sm, p0, hsm, hp0, hp0t⟩ := fwd_edge_complete cfg pr inp hu hst hsp hadm
  have huF := Nat.lt_of_lt_of_le (spansC_lt hsp) ((pinv_final cfg pr inp).good_type he).1
  obtain ⟨hgu, p, hp, hpp⟩ := (pinv_final cfg pr inp).retain hu htu huF he
    (edgeAt_eq.mpr ⟨sm, hsm, hp0⟩) (Nat.le_trans hp0t hd)
  exact ⟨hgu, p, hp, Nat.le_trans (Nat.le_of_eq (eq_of_stripP hpp).1) hp0t⟩

def Completes : Prop := ComplCond cfg pr inp (forward cfg pr inp).farthest

theorem final_pos (hc : Completes cfg pr inp) :
    finalIL cfg pr inp = inp.length ∧
    finalE cfg pr inp = (prune (forward cfg pr inp)).edges.insert (forward cfg pr inp).farthest
      [(inp.length, complSM cfg pr inp (forward cfg pr inp).farthest)] := by
  unfold finalIL finalE
  rw [complete_pos (pruned_ev_farthest_nil cfg pr inp) hc]
  -- the projections of the pair are reduced first: `rfl` against them unfolds `prune`
  dsimp only
  exact ⟨rfl, rfl⟩

theorem final_neg (hc : ¬ Completes cfg pr inp) :
    finalIL cfg pr inp = (forward cfg pr inp).farthest ∧
    (finalE cfg pr inp = (prune (forward cfg pr inp)).edges ∨
     finalE cfg pr inp = (prune (forward cfg pr inp)).edges.insert (forward cfg pr inp).farthest []) := by
  unfold finalIL finalE
  rcases complete_neg (pruned_ev_farthest_nil cfg pr inp) hc with h | h
  · rw [h]
    dsimp only
    exact ⟨rfl, Or.inl rfl⟩
  · rw [h]
    dsimp only
    exact ⟨rfl, Or.inr rfl⟩

theorem evAt_insert_farthest (row : EVMap)
    (h : s = (forward cfg pr inp).farthest → row.find? e = none) :
    evAt ((prune (forward cfg pr inp)).edges.insert (forward cfg pr inp).farthest row) s e =
      evAt (prune (forward cfg pr inp)).edges s e := by
  by_cases hs : s = (forward cfg pr inp).farthest
  · rw [hs, evAt_insert_self, pruned_no_out_farthest]
    exact h hs
  · rw [evAt_insert_ne _ _ (Ne.symm hs)]

/-- edges of the final graph: the pruned ones, plus the completion edge when completion applies -/
theorem final_evAt (s e : Nat) :
    (Completes cfg pr inp ∧ s = (forward cfg pr inp).farthest ∧ e = inp.length ∧
      evAt (finalE cfg pr inp) s e = some (complSM cfg pr inp (forward cfg pr inp).farthest)) ∨
    (¬ (Completes cfg pr inp ∧ s = (forward cfg pr inp).farthest ∧ e = inp.length) ∧
      evAt (finalE cfg pr inp) s e = evAt (prune (forward cfg pr inp)).edges s e) := by
  by_cases hc : Completes cfg pr inp
  · obtain ⟨_, hE⟩ := final_pos cfg pr inp hc
    rw [hE]
    by_cases hse : s = (forward cfg pr inp).farthest ∧ e = inp.length
    · refine Or.inl ⟨hc, hse.1, hse.2, ?_⟩
      rw [hse.1, hse.2, evAt_insert_self, find?_cons, if_pos rfl]
    · refine Or.inr ⟨fun h => hse h.2, evAt_insert_farthest cfg pr inp _ fun hs => ?_⟩
      rw [find?_cons, if_neg fun he => hse ⟨hs, he.symm⟩]
      rfl
  · refine Or.inr ⟨fun h => hc h.1, ?_⟩
    rcases (final_neg cfg pr inp hc).2 with hE | hE
    · rw [hE]
    · rw [hE]
      exact evAt_insert_farthest cfg pr inp _ fun _ => rfl

theorem final_evAt_of_pruned (h : evAt (prune (forward cfg pr inp)).edges s e = some sm) :
    evAt (finalE cfg pr inp) s e = some sm := by
  rcases final_evAt cfg pr inp s e with ⟨_, hs, _, _⟩ | ⟨_, h2⟩
  · subst hs; rw [pruned_no_out_farthest] at h; cases h
  · rw [h2]; exact h

theorem final_hasEdge_of_pruned {a b : Nat} (h : HasEdge (prune (forward cfg pr inp)).edges a b) :
    HasEdge (finalE cfg pr inp) a b := by
  obtain ⟨sm, h1, h2⟩ := h
  exact ⟨sm, final_evAt_of_pruned cfg pr inp h1, h2⟩

theorem final_edgeAt_of_pruned
    (h : edgeAt (prune (forward cfg pr inp)).edges s e syl = some p) :
    edgeAt (finalE cfg pr inp) s e syl = some p := by
  obtain ⟨sm, h1, h2⟩ := edgeAt_eq.mp h
  exact edgeAt_eq.mpr ⟨sm, final_evAt_of_pruned cfg pr inp h1, h2⟩

theorem complSM_inv : ComplInv pr (inp.length - (forward cfg pr inp).farthest) inp.length
    (complKeys cfg pr inp (forward cfg pr inp).farthest) (complSM cfg pr inp (forward cfg pr inp).farthest) :=
  complKey_fold _ _ _ _

theorem final_row_sorted {ev : EVMap} (h : (finalE cfg pr inp).find? s = some ev) : Sorted ev := by
  have hold : ∀ s ev, (prune (forward cfg pr inp)).edges.find? s = some ev → Sorted ev :=
    fun s ev h => ((pinv_final cfg pr inp).wf.ewf s ev h).1
  by_cases hc : Completes cfg pr inp
  · rw [(final_pos cfg pr inp hc).2] at h
    exact forall_find?_insert (P := fun _ ev => Sorted ev) (sorted_singleton _ _) hold s ev h
  · rcases (final_neg cfg pr inp hc).2 with hE | hE
    · exact hold s ev (hE ▸ h)
    · rw [hE] at h
      exact forall_find?_insert (P := fun _ ev => Sorted ev) sorted_nil hold s ev h

theorem final_ev_ok (h : evAt (finalE cfg pr inp) s e = some sm) :
    Sorted sm ∧ ∀ syl p, sm.find? syl = some p → p.endPos = e := by
  rcases final_evAt cfg pr inp s e with ⟨_, _, he, hev⟩ | ⟨_, hev⟩
  · rw [hev] at h; cases h
    have inv := complSM_inv cfg pr inp
    exact ⟨inv.sorted, fun syl p hp => by rw [he]; exact (inv.sound syl p hp).2.1⟩
  · rw [hev] at h
    exact ⟨(pruned_ev_ok cfg pr inp h).2.1,
      fun syl p hp => (pruned_edge_spec cfg pr inp (edgeAt_eq.mpr ⟨sm, h, hp⟩)).1⟩

theorem reach_le {p : Nat} (h : Reach cfg pr inp p) : p ≤ inp.length := by
  cases h with
  | zero => exact Nat.zero_le _
  | step _ _ hsp _ => exact hsp.2.1

theorem ntiling_reach {a c : Nat} {segs : List (Nat × Nat × Nat)} (h : NTiling cfg pr inp a c segs)
    (ha : Reach cfg pr inp a) : Reach cfg pr inp c := by
  induction h with
  | nil _ => exact ha
  | cons hst hdt hsp _ ih => exact ih (Reach.step ha hst hsp (admits_of_normal cfg inp hdt))

theorem gpath_trans {E : EMap} {a b c : Nat} (h1 : GPath E a b) (h2 : GPath E b c) : GPath E a c := by
  induction h1 with
  | refl _ => exact h2
  | step he _ ih => exact GPath.step he (ih h2)

theorem gpath_mono {E E' : EMap} (hE : ∀ a b, HasEdge E a b → HasEdge E' a b) {a b : Nat} (h : GPath E a b) :
    GPath E' a b := by
  induction h with
  | refl _ => exact GPath.refl _
  | step he _ ih => exact GPath.step (hE _ _ he) ih

theorem stored_of_expand {key : Bytes} {m : Nat × Nat} (h : ExpandOK pr key m) (hd : d ∈ descsOf pr m.1) :
    ∃ k, Stored pr k d ∧ key <+: k := by
  obtain ⟨k, h1, h2, _⟩ := h
  exact ⟨k, ⟨m.1, h1, hd⟩, h2⟩

/-- `ComplCond` in the words of the property: completion is on and the remainder begins a stored
spelling that has a normal or fuzzy reading -/
theorem complCond_text {F : Nat} (h : ComplCond cfg pr inp F) :
    cfg.completion = true ∧ F < inp.length ∧
    ∃ k d, Stored pr k d ∧ inp.drop F <+: k ∧ d.type < kAbbrev := by
  obtain ⟨h1, h2, m, hm, _, d, hd, hty⟩ := h
  obtain ⟨k, hk1, hk2⟩ := stored_of_expand pr (expandSearch_ok hm) hd
  exact ⟨h1, h2, k, d, hk1, hk2, hty⟩

theorem good_to_farthest : ∀ (n v : Nat), (forward cfg pr inp).farthest ≤ v + n → Good cfg pr inp v →
    GPath (prune (forward cfg pr inp)).edges v (forward cfg pr inp).farthest := by
  intro n
  induction n with
  | zero =>
    intro v hn hv
    rw [Nat.le_antisymm ((pinv_final cfg pr inp).good_type hv).1 hn]
    exact GPath.refl _
  | succ n ih =>
    intro v hn hv
    by_cases hF : v = (forward cfg pr inp).farthest
    · rw [hF]; exact GPath.refl _
    · obtain ⟨j, hj, sm, hsm, hne⟩ := (pinv_final cfg pr inp).good_out hv hF
      have hlt : v + 1 ≤ j := (pruned_ev_ok cfg pr inp hsm).2.2
      exact GPath.step ⟨sm, hsm, hne⟩
        (ih j (Nat.le_trans hn (Nat.add_right_comm v 1 n ▸ Nat.add_le_add_right hlt n)) hj)

theorem zero_to_good (hty : PrismTypesOK pr) : ∀ (v : Nat), Good cfg pr inp v →
    GPath (prune (forward cfg pr inp)).edges 0 v := by
  intro v
  induction v using Nat.strongRecOn with
  | _ v ih =>
    intro hv
    by_cases h0 : v = 0
    · rw [h0]; exact GPath.refl _
    · obtain ⟨hvF, t, ht, htL⟩ := (pinv_final cfg pr inp).good_type hv
      obtain ⟨u, tu, sm, hu, huv, htu, hsm, hw⟩ := fwd_pred cfg pr inp ht h0
      -- an entry of the edge u → v whose type survives the pruning
      have hentry : ∃ syl p0, sm.find? syl = some p0 ∧ p0.type ≤ lastTypeOf (forward cfg pr inp) := by
        rcases hw with hw | ⟨syl, p0, h1, h2⟩
        · obtain ⟨k, d, syl, p0, hst, _, _, hp0, hdt⟩ := fwd_edge_reading cfg pr inp hsm
          exact ⟨syl, p0, hp0, hdt ▸ Nat.le_trans (hty k d hst) (Nat.le_trans hw htL)⟩
        · exact ⟨syl, p0, h1, Nat.le_trans h2 htL⟩
      obtain ⟨syl, p0, hp0, hp0L⟩ := hentry
      obtain ⟨hgu, p, hp, _⟩ := (pinv_final cfg pr inp).retain hu (Nat.le_trans htu htL) (Nat.lt_of_lt_of_le huv hvF) hv
        (edgeAt_eq.mpr ⟨sm, hsm, hp0⟩) hp0L
      obtain ⟨sm', hsm', hp'⟩ := edgeAt_eq.mp hp
      have hedge : HasEdge (prune (forward cfg pr inp)).edges u v :=
        ⟨sm', hsm', fun hn => by rw [hn] at hp'; cases hp'⟩
      exact gpath_trans (ih u huv hgu) (GPath.step hedge (GPath.refl _))

theorem ntiling_retained {a : Nat} {segs : List (Nat × Nat × Nat)}
    (h : NTiling cfg pr inp a (forward cfg pr inp).farthest segs)
    (ha : (forward cfg pr inp).vertices.find? a = some 0) :
    Good cfg pr inp a ∧ ∀ seg ∈ segs, ∃ p, edgeAt (prune (forward cfg pr inp)).edges seg.1 seg.2.1 seg.2.2 = some p ∧
      p.type = kNormal := by
  generalize hF : (forward cfg pr inp).farthest = F at h
  induction h with
  | nil a => rw [← hF]; exact ⟨(pinv_final cfg pr inp).good_farthest, fun seg hs => nomatch hs⟩
  | @cons a b c k d rest hst hdt hsp hrest ih =>
    subst hF
    have hspc := spansC_of_spans hsp
    have hadm := admits_of_normal cfg inp (s := a) (e := b) hdt
    have hd0 : d.type = 0 := hdt
    obtain ⟨tb, htb, htble⟩ := fwd_step cfg pr inp ha hst hspc hadm
    rw [hd0] at htble
    cases Nat.le_zero.mp htble
    obtain ⟨hgb, hrestok⟩ := ih htb rfl
    obtain ⟨hga, p, hp, hpt⟩ := pruned_edge_complete cfg pr inp ha (Nat.zero_le _) hgb hst hspc hadm
      (hd0 ▸ Nat.zero_le _)
    refine ⟨hga, ?_⟩
    intro seg hs
    rcases List.mem_cons.mp hs with h1 | h1
    · subst h1; exact ⟨p, hp, Nat.le_zero.mp (hd0 ▸ hpt)⟩
    · exact hrestok seg h1

end
end RimeModel.C08
