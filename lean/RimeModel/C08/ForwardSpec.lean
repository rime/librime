import RimeModel.C08.Forward
/-! C08 — what the forward search returns, in the vocabulary of the property -/
namespace RimeModel.C08
open AMap

section
variable (cfg : Cfg) (pr : Prism) (inp : Bytes)

theorem fwd_dom {x : Nat × Nat} (h : Src cfg pr inp (forward cfg pr inp).vertices x) :
    Dom (forward cfg pr inp).vertices x := by
  rcases (forward_inv cfg pr inp).closed x h with h | h
  · rw [forward_queue_nil] at h; cases h
  · exact h

theorem fwd_start : (forward cfg pr inp).vertices.find? 0 = some 0 := by
  obtain ⟨t, ht, hle⟩ := fwd_dom cfg pr inp (Or.inl rfl)
  rw [ht, Nat.le_zero.mp hle]

theorem fwd_evAt_visited {u tu : Nat} (h : (forward cfg pr inp).vertices.find? u = some tu) (e : Nat) :
    evAt (forward cfg pr inp).edges u e = (rawEV cfg pr inp u).find? e :=
  (forward_inv cfg pr inp).vedges u tu h e

theorem fwd_edge_visited {s e : Nat} {sm : SMap} (h : evAt (forward cfg pr inp).edges s e = some sm) :
    ∃ t, (forward cfg pr inp).vertices.find? s = some t := by
  unfold evAt at h
  cases hf : (forward cfg pr inp).edges.find? s with
  | none => rw [hf] at h; simp at h
  | some ev => exact Option.isSome_iff_exists.mp ((forward_inv cfg pr inp).ekeys s ev hf)

theorem fwd_step {u tu e : Nat} {k : Bytes} {d : Desc}
    (h : (forward cfg pr inp).vertices.find? u = some tu)
    (hst : Stored pr k d) (hsp : SpansC cfg.delims inp u e k) (hadm : Admits cfg inp u e d) :
    ∃ te, (forward cfg pr inp).vertices.find? e = some te ∧ te ≤ max d.type tu := by
  obtain ⟨t, ht, hle⟩ := (rawAt cfg pr inp u).pushComplete e k d hst hsp hadm
  obtain ⟨te, h1, h2⟩ := fwd_dom cfg pr inp (Or.inr ⟨u, tu, h, List.mem_map.mpr ⟨(e, t), ht, rfl⟩⟩)
  exact ⟨te, h1, Nat.le_trans h2 (Nat.max_le.mpr ⟨Nat.le_trans hle (Nat.le_max_left _ _), Nat.le_max_right _ _⟩)⟩

theorem fwd_reach_visited {p : Nat} (h : Reach cfg pr inp p) :
    ∃ t, (forward cfg pr inp).vertices.find? p = some t := by
  induction h with
  | zero => exact ⟨0, fwd_start cfg pr inp⟩
  | step _ hst hsp hadm ih =>
    obtain ⟨tu, htu⟩ := ih
    obtain ⟨te, h1, _⟩ := fwd_step cfg pr inp htu hst (spansC_of_spans hsp) hadm
    exact ⟨te, h1⟩

/-- how a visited vertex other than 0 got its type -/
theorem fwd_pred {v t : Nat} (h : (forward cfg pr inp).vertices.find? v = some t) (hv : v ≠ 0) :
    ∃ u tu sm, (forward cfg pr inp).vertices.find? u = some tu ∧ u < v ∧ tu ≤ t ∧
      evAt (forward cfg pr inp).edges u v = some sm ∧
      (kInvalid ≤ t ∨ ∃ syl p, sm.find? syl = some p ∧ p.type ≤ t) := by
  rcases (forward_inv cfg pr inp).vsrc v t h with h0 | ⟨u, tu, h1, h2⟩
  · exact absurd (congrArg Prod.fst h0) hv
  · obtain ⟨hlt, _, hle, sm, hsm, hw⟩ := raised_sound h2
    exact ⟨u, tu, sm, h1, hlt, hle, (fwd_evAt_visited cfg pr inp h1 v).trans hsm, hw⟩

theorem fwd_edge_sound {s e syl : Nat} {sm : SMap} {p : Props}
    (h : evAt (forward cfg pr inp).edges s e = some sm) (hp : sm.find? syl = some p) :
    p.endPos = e ∧ p.compl = 0 ∧ p.amb = 0 ∧
    ∃ k d, Stored pr k d ∧ SpansC cfg.delims inp s e k ∧ Admits cfg inp s e d ∧ d.syl = syl ∧ d.type = p.type := by
  obtain ⟨t, ht⟩ := fwd_edge_visited cfg pr inp h
  rw [fwd_evAt_visited cfg pr inp ht] at h
  exact (rawAt cfg pr inp s).sound e sm syl p h hp

theorem fwd_edge_ok {s e : Nat} {sm : SMap} (h : evAt (forward cfg pr inp).edges s e = some sm) :
    Sorted sm ∧ sm ≠ [] ∧ s < e ∧ e ≤ inp.length := by
  obtain ⟨t, ht⟩ := fwd_edge_visited cfg pr inp h
  rw [fwd_evAt_visited cfg pr inp ht] at h
  have h1 := (rawAt cfg pr inp s).smOK e sm h
  have h2 := (rawAt cfg pr inp s).endsGt e sm h
  exact ⟨h1.1, h1.2, h2⟩

theorem fwd_edge_complete {u tu e : Nat} {k : Bytes} {d : Desc}
    (h : (forward cfg pr inp).vertices.find? u = some tu)
    (hst : Stored pr k d) (hsp : SpansC cfg.delims inp u e k) (hadm : Admits cfg inp u e d) :
    ∃ sm p, evAt (forward cfg pr inp).edges u e = some sm ∧ sm.find? d.syl = some p ∧ p.type ≤ d.type := by
  obtain ⟨sm, p, h1, h2, h3⟩ := (rawAt cfg pr inp u).complete e k d hst hsp hadm
  exact ⟨sm, p, by rw [fwd_evAt_visited cfg pr inp h]; exact h1, h2, h3⟩

theorem fwd_visited_reach {p : Nat} :
    ∀ t, (forward cfg pr inp).vertices.find? p = some t → Reach cfg pr inp p := by
  induction p using Nat.strongRecOn with
  | _ p ih =>
    intro t h
    by_cases hp : p = 0
    · subst hp; exact Reach.zero
    · obtain ⟨u, tu, sm, h1, h2, _, h4, _⟩ := fwd_pred cfg pr inp h hp
      obtain ⟨_, hne, _, _⟩ := fwd_edge_ok cfg pr inp h4
      obtain ⟨syl, q, hq⟩ := exists_find?_of_ne_nil hne
      obtain ⟨_, _, _, k, d, hst, hsp, hadm, _, _⟩ := fwd_edge_sound cfg pr inp h4 hq
      exact Reach.step (ih u h2 tu h1) hst (spans_of_spansC hsp) hadm

theorem fwd_farthest_visited : ∃ t, (forward cfg pr inp).vertices.find? (forward cfg pr inp).farthest = some t := by
  rcases (forward_inv cfg pr inp).farIn with h | h
  · rw [h]; exact ⟨0, fwd_start cfg pr inp⟩
  · exact Option.isSome_iff_exists.mp h

theorem fwd_farthest_max {p : Nat} (h : Reach cfg pr inp p) : p ≤ (forward cfg pr inp).farthest := by
  obtain ⟨t, ht⟩ := fwd_reach_visited cfg pr inp h
  exact (forward_inv cfg pr inp).far p t ht

theorem fwd_farthest_reach : Reach cfg pr inp (forward cfg pr inp).farthest := by
  obtain ⟨t, ht⟩ := fwd_farthest_visited cfg pr inp
  exact fwd_visited_reach cfg pr inp t ht

theorem fwd_farthest_le : (forward cfg pr inp).farthest ≤ inp.length := by
  obtain ⟨t, ht⟩ := fwd_farthest_visited cfg pr inp
  exact ((forward_inv cfg pr inp).vsrc _ t ht).le

theorem fwd_visited_le {v t : Nat} (h : (forward cfg pr inp).vertices.find? v = some t) :
    v ≤ (forward cfg pr inp).farthest := (forward_inv cfg pr inp).far v t h

end
end RimeModel.C08
