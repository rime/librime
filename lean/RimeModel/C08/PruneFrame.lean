import RimeModel.C08.PruneSkel
/-! C08 — the pruning pass (with `CheckOverlappedSpellings`) keeps the invariant of PruneSkel on the
stripped edge map: the ambiguity check changes credibilities and vertex *types* only. -/
namespace RimeModel.C08
open AMap

/-- a row and its spelling maps are sorted -/
def EVWF (ev : EVMap) : Prop := Sorted ev ∧ ∀ e sm, ev.find? e = some sm → Sorted sm

/-- the edge map fits the vertices: rows sit at vertices, edges go forward, every level is sorted -/
structure GWF (V : VMap) (E : EMap) : Prop where
  ekeys : ∀ i ev, E.find? i = some ev → (V.find? i).isSome = true
  fwdE : ∀ s e sm, evAt E s e = some sm → s < e
  ewf : ∀ s ev, E.find? s = some ev → EVWF ev

/-- a row update that deletes entries or changes their spelling maps, keeping them sorted -/
def RowShrink (f : EVMap → EVMap) : Prop :=
  ∀ ev, EVWF ev → EVWF (f ev) ∧ ∀ e sm', (f ev).find? e = some sm' → ∃ sm, ev.find? e = some sm

theorem rowShrink_erase (j : Nat) : RowShrink (fun ev => ev.erase j) := fun _ h =>
  ⟨⟨sorted_erase h.1 j, fun e sm hf => h.2 e sm (find?_erase_some hf).2⟩,
    fun _ sm hf => ⟨sm, (find?_erase_some hf).2⟩⟩

theorem rowShrink_modify (j : Nat) {g : SMap → SMap} (hg : ∀ sm, Sorted sm → Sorted (g sm)) :
    RowShrink (fun ev => ev.modify j g) := by
  intro ev h
  refine ⟨⟨sorted_modify h.1 j g, ?_⟩, ?_⟩
  · intro e sm hf
    obtain ⟨sm0, h0, rfl | rfl⟩ := find?_modify_some hf
    · exact h.2 e _ h0
    · exact hg sm0 (h.2 e sm0 h0)
  · intro e sm hf
    obtain ⟨sm0, h0, _⟩ := find?_modify_some hf
    exact ⟨sm0, h0⟩

theorem gwf_modify {V V' : VMap} {E : EMap} (wf : GWF V E) (k : Nat) {f : EVMap → EVMap} (hf : RowShrink f)
    (hV : ∀ i, (V.find? i).isSome = true → (V'.find? i).isSome = true) : GWF V' (E.modify k f) where
  ekeys := fun i ev hi => by
    obtain ⟨ev0, h0, _⟩ := find?_modify_some hi
    exact hV i (wf.ekeys i ev0 h0)
  fwdE := fun s e sm hse => by
    obtain ⟨ev, hq, he⟩ := evAt_some.mp hse
    obtain ⟨ev0, h0, rfl | rfl⟩ := find?_modify_some hq
    · exact wf.fwdE s e sm (evAt_some.mpr ⟨_, h0, he⟩)
    · obtain ⟨sm0, h1⟩ := (hf ev0 (wf.ewf s ev0 h0)).2 e sm he
      exact wf.fwdE s e sm0 (evAt_some.mpr ⟨ev0, h0, h1⟩)
  ewf := fun s ev hs => by
    obtain ⟨ev0, h0, rfl | rfl⟩ := find?_modify_some hs
    · exact wf.ewf s _ h0
    · exact (hf ev0 (wf.ewf s ev0 h0)).1

theorem gwf_erase {V : VMap} {E : EMap} (wf : GWF V E) (k : Nat) : GWF (V.erase k) (E.erase k) where
  ekeys := fun i ev hi => by
    obtain ⟨hne, h⟩ := find?_erase_some hi
    rw [find?_erase, if_neg hne]
    exact wf.ekeys i ev h
  fwdE := fun s e sm hse => by
    obtain ⟨ev, hq, he⟩ := evAt_some.mp hse
    exact wf.fwdE s e sm (evAt_some.mpr ⟨ev, (find?_erase_some hq).2, he⟩)
  ewf := fun s ev hs => wf.ewf s ev (find?_erase_some hs).2

/-- from `st` to `st'` the end vertices `js` of row `k` have been put through `keep`; nothing else
shows on the stripped edge map, the good vertices and the vertices up to `k`. -/
structure EStep (L k : Nat) (js : List Nat) (st st' : PState) : Prop where
  good : st'.good = st.good
  vsame : ∀ i, i ≤ k → st'.vertices.find? i = st.vertices.find? i
  vsome : ∀ i, (st'.vertices.find? i).isSome = (st.vertices.find? i).isSome
  others : ∀ i, i ≠ k → (stripE st'.edges).find? i = (stripE st.edges).find? i
  row : ∀ j, evAt (stripE st'.edges) k j =
    if j ∈ js then (evAt (stripE st.edges) k j).bind (keep L st.good j) else evAt (stripE st.edges) k j
  wf : GWF st'.vertices st'.edges

theorem estep_trans {L k : Nat} {js js' : List Nat} {st st' st'' : PState} (h1 : EStep L k js st st')
    (h2 : EStep L k js' st' st'') (hd : ∀ j ∈ js', j ∉ js) : EStep L k (js ++ js') st st'' where
  good := h2.good.trans h1.good
  vsame := fun i hi => (h2.vsame i hi).trans (h1.vsame i hi)
  vsome := fun i => (h2.vsome i).trans (h1.vsome i)
  others := fun i hi => (h2.others i hi).trans (h1.others i hi)
  row := fun j => by
    rw [h2.row j, h1.row j, h1.good]
    by_cases hj : j ∈ js'
    · simp [hj, hd j hj]
    · simp [hj]
  wf := h2.wf

theorem estep_refl {L k : Nat} {st : PState} (wf : GWF st.vertices st.edges) : EStep L k [] st st :=
  ⟨rfl, fun _ _ => rfl, fun _ => rfl, fun _ _ => rfl, fun _ => rfl, wf⟩

section
variable {L k : Nat} {st : PState} (wf : GWF st.vertices st.edges)
include wf

theorem overlapAt_step (e : Nat) {joint : Nat} (hk : k < joint) :
    EStep L k [] st (overlapAt e st joint) := by
  unfold overlapAt
  split
  · exact estep_refl wf
  · rename_i xev hj
    split
    · exact estep_refl wf
    · split
      · have hs : ∀ i, ((st.vertices.insert joint kAmbiguous).find? i).isSome = (st.vertices.find? i).isSome := by
          intro i
          rw [find?_insert]
          split
          · rename_i hi
            subst hi
            rw [wf.ekeys joint xev hj]; rfl
          · rfl
        have he : stripE (st.edges.modify joint _) = stripE st.edges :=
          mapVal_modify _ _ _ stripEV (fun ev => mapVal_modify _ e _ stripSM stripSM_penalize)
        exact {
          good := rfl
          vsame := fun i hi => find?_insert_ne _ _ (Nat.ne_of_gt (Nat.lt_of_le_of_lt hi hk))
          vsome := hs
          others := fun _ _ => by rw [he]
          row := fun _ => by rw [he]; rfl
          wf := gwf_modify wf joint (rowShrink_modify e (fun sm hsm => sorted_mapVal hsm penalize))
            (fun i hi => by rw [hs i]; exact hi) }
      · exact estep_refl wf

theorem overlap_fold (e : Nat) (joints : List Nat) (hk : ∀ j ∈ joints, k < j) :
    EStep L k [] st (joints.foldl (overlapAt e) st) := by
  induction joints generalizing st with
  | nil => exact estep_refl wf
  | cons j t ih =>
    have h1 := overlapAt_step (L := L) wf e (hk j List.mem_cons_self)
    exact estep_trans h1 (ih h1.wf (fun j' hj' => hk j' (List.mem_cons_of_mem _ hj'))) (fun _ _ h => nomatch h)

theorem checkOverlapped_step (e : Nat) : EStep L k [] st (checkOverlapped st k e) := by
  unfold checkOverlapped
  cases hy : st.edges.find? k with
  | none => exact estep_refl wf
  | some yev =>
    apply overlap_fold wf e
    intro j hj
    obtain ⟨sm, hsm⟩ := Option.isSome_iff_exists.mp (find?_isSome_iff.mpr ((List.takeWhile_sublist _).subset hj))
    exact wf.fwdE k j sm (evAt_some.mpr ⟨yev, hy, hsm⟩)

theorem estep_modify {j : Nat} {sm : SMap} {f : EVMap → EVMap} (hsm : evAt st.edges k j = some sm)
    (hf : RowShrink f) (hrow : ∀ ev, ev.find? j = some sm → ∀ j', (f ev).find? j' =
      if j = j' then keep L st.good j sm else ev.find? j') :
    EStep L k [j] st { st with edges := st.edges.modify k f } where
  good := rfl
  vsame := fun _ _ => rfl
  vsome := fun _ => rfl
  others := fun i hi => by
    rw [find?_stripE, find?_stripE, find?_modify, if_neg (fun h => hi h.symm)]
  row := fun j' => by
    rw [evAt_stripE, evAt_stripE, evAt_modify, if_pos rfl]
    unfold evAt at hsm ⊢
    cases hev : st.edges.find? k with
    | none => rw [hev] at hsm; cases hsm
    | some ev =>
      rw [hev] at hsm
      simp only [Option.bind_some, List.mem_singleton] at hsm ⊢
      rw [hrow ev hsm j']
      by_cases h : j = j'
      · subst h; simp [hsm, keep_strip]
      · have h' : ¬ j' = j := fun h' => h h'.symm
        simp [h, h']
  wf := gwf_modify wf k hf (fun _ h => h)

theorem pruneEdge_step (j : Nat) : EStep L k [j] st (pruneEdge L k st j) := by
  unfold pruneEdge
  rw [← evAt_eq]
  cases hsm : evAt st.edges k j with
  | none =>
    refine { estep_refl (L := L) wf with row := fun j' => ?_ }
    by_cases hj : j' = j
    · subst hj; rw [evAt_stripE, hsm]; simp
    · simp [hj]
  | some sm =>
    have herase : keep L st.good j sm = none →
        EStep L k [j] st { st with edges := st.edges.modify k (fun ev => ev.erase j) } := fun hkeep =>
      estep_modify wf hsm (rowShrink_erase j) fun ev _ j' => by rw [find?_erase, hkeep]
    -- reduces the `match` on `some sm`
    simp only
    cases hg : st.good.contains j with
    | false => exact herase (by unfold keep; rw [hg]; rfl)
    | true =>
      cases he : (filterTypes L sm).isEmpty with
      | true => exact herase (by unfold keep; rw [hg, he]; rfl)
      | false =>
        have hkeep : keep L st.good j sm = some (filterTypes L sm) := by unfold keep; rw [hg, he]; rfl
        have hfilt : EStep L k [j] st
            { st with edges := st.edges.modify k (fun ev => ev.modify j (filterTypes L)) } :=
          estep_modify wf hsm (rowShrink_modify j (fun sm hs => sorted_filter hs _)) fun ev hev j' => by
            rw [find?_modify, hkeep]
            split
            · rename_i hj; subst hj; rw [hev]; rfl
            · rfl
        simp only [Bool.not_true, Bool.false_eq_true, if_false]
        split
        · exact estep_trans hfilt (checkOverlapped_step hfilt.wf j) (fun _ h => nomatch h)
        · exact hfilt

theorem pruneEdge_fold (js : List Nat) (hnd : js.Nodup) : EStep L k js st (js.foldl (pruneEdge L k) st) := by
  induction js generalizing st with
  | nil => exact estep_refl wf
  | cons j t ih =>
    rw [List.nodup_cons] at hnd
    have h1 := pruneEdge_step (L := L) (k := k) wf j
    exact estep_trans h1 (ih h1.wf hnd.2) (fun j' hj' h => hnd.1 (List.mem_singleton.mp h ▸ hj'))

end

/-- before position `k - 1` is pruned: `SInv` on the stripped state; the vertices below `k` are
untouched, those from `k` on are the good ones -/
structure PInv (L F : Nat) (V : VMap) (E0 : EMap) (k : Nat) (st : PState) : Prop where
  sinv : SInv L F V (stripE E0) k (stripE st.edges, st.good)
  vlow : ∀ i, i < k → st.vertices.find? i = V.find? i
  vhigh : ∀ i, k ≤ i → ((st.vertices.find? i).isSome = true ↔ i ∈ st.good)
  wf : GWF st.vertices st.edges

theorem pruneAt_step {L F : Nat} {V : VMap} {E0 : EMap} {k : Nat} {st : PState} (hk : k < F)
    (raw : RawOK (stripE E0))
    (inv : PInv L F V E0 (k + 1) st) : PInv L F V E0 k (pruneAt L st k) := by
  have hvk : st.vertices.find? k = V.find? k := inv.vlow k (Nat.lt_succ_self k)
  have hkg : k ∉ st.good := fun h => Nat.lt_irrefl k (inv.sinv.goodGe k h).1
  unfold pruneAt
  rw [hvk]
  cases hV : V.find? k with
  | none =>
    simp only [Option.isNone_none, if_true]
    have hrow : (stripE st.edges).find? k = none := by
      rw [find?_stripE]
      cases h : st.edges.find? k with
      | none => rfl
      | some ev =>
        have := inv.wf.ekeys k ev h
        rw [hvk, hV] at this
        cases this
    exact {
      sinv := sinv_drop hk raw inv.sinv (fun _ _ => rfl) hrow (fun tu h => by rw [hV] at h; cases h)
      vlow := fun i hi => inv.vlow i (Nat.lt_succ_of_lt hi)
      vhigh := fun i hi => by
        by_cases hik : i = k
        · subst hik; rw [hvk, hV]; simp [hkg]
        · exact inv.vhigh i (Nat.lt_of_le_of_ne hi (Ne.symm hik))
      wf := inv.wf }
  | some tk =>
    simp only [Option.isNone_some, Bool.false_eq_true, if_false]
    have hnd : (keys ((st.edges.find? k).getD [])).Nodup := by
      cases h : st.edges.find? k with
      | none => exact List.nodup_nil
      | some ev => exact nodup_keys (inv.wf.ewf k ev h).1
    have e1 := pruneEdge_fold (L := L) (k := k) inv.wf _ hnd
    generalize (keys ((st.edges.find? k).getD [])).foldl (pruneEdge L k) st = st1 at e1
    have hrow1 : ∀ j, evAt (stripE st1.edges) k j = (evAt (stripE st.edges) k j).bind (keep L st.good j) := by
      intro j
      rw [e1.row j]
      split
      · rfl
      · rename_i hj
        rw [evAt_stripE, evAt_eq, find?_eq_none_iff.mpr hj]
        rfl
    have hc1 : st1.vertices.find? k = some tk := by rw [e1.vsame k (Nat.le_refl k), hvk, hV]
    have hlow1 : ∀ i, i < k → st1.vertices.find? i = V.find? i := fun i hi =>
      (e1.vsame i (Nat.le_of_lt hi)).trans (inv.vlow i (Nat.lt_succ_of_lt hi))
    have hhigh1 : ∀ i, k ≤ i → i ≠ k → ((st1.vertices.find? i).isSome = true ↔ i ∈ st.good) := fun i h1 h2 => by
      rw [e1.vsome i]
      exact inv.vhigh i (Nat.lt_of_le_of_ne h1 (Ne.symm h2))
    rw [hc1]
    simp only [Option.getD_some]
    by_cases hc : (decide (tk > L) || ((st1.edges.find? k).getD []).isEmpty) = true
    · rw [if_pos hc]
      refine { sinv := ?_, vlow := ?_, vhigh := ?_, wf := gwf_erase e1.wf k }
      · rw [e1.good]
        apply sinv_drop hk raw inv.sinv
        · intro i hi
          rw [find?_stripE, find?_erase, if_neg (fun h => hi h.symm), ← find?_stripE]
          exact e1.others i hi
        · rw [find?_stripE, find?_erase, if_pos rfl]
          rfl
        · intro tu htu hle j
          rw [hV] at htu
          cases htu
          have hemp : (st1.edges.find? k).getD [] = [] := by
            simpa [Nat.not_lt.mpr hle] using hc
          rw [← hrow1 j, evAt_stripE, evAt_eq, hemp]
          rfl
      · intro i hi
        rw [find?_erase, if_neg (Nat.ne_of_gt hi)]
        exact hlow1 i hi
      · intro i hi
        rw [find?_erase, e1.good]
        by_cases hik : k = i
        · subst hik; simp [hkg]
        · rw [if_neg hik]
          exact hhigh1 i hi (Ne.symm hik)
    · rw [if_neg hc]
      simp only [Bool.or_eq_true, decide_eq_true_eq, not_or, Nat.not_lt] at hc
      obtain ⟨j, sm, hj⟩ := exists_find?_of_ne_nil (m := (st1.edges.find? k).getD [])
        (fun h => by rw [h] at hc; exact hc.2 rfl)
      rw [← evAt_eq] at hj
      refine { sinv := ?_, vlow := hlow1, vhigh := ?_, wf := e1.wf }
      · rw [e1.good]
        exact sinv_keep hk raw inv.sinv e1.others hrow1 hV hc.1 ⟨j, stripSM sm, evAt_strip hj⟩
      · intro i hi
        by_cases hik : i = k
        · subst hik; simp [hc1]
        · rw [hhigh1 i hi hik, e1.good]
          simp [hik]

theorem pruneLoop_inv {L F : Nat} {V : VMap} {E0 : EMap}
    (raw : RawOK (stripE E0)) :
    ∀ (k : Nat) (st : PState), k ≤ F → PInv L F V E0 k st → PInv L F V E0 0 (pruneLoop L k st) := by
  intro k
  induction k with
  | zero => intro st _ inv; exact inv
  | succ k ih =>
    intro st hk inv
    unfold pruneLoop
    exact ih _ (Nat.le_of_succ_le hk) (pruneAt_step hk raw inv)

end RimeModel.C08
