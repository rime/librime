import RimeModel.C08.Alphabet
/-! C08 — concrete data for the non-vacuity examples of Props/C08.lean, and the bridge from the
row-wise (decidable) form of the prism hypotheses -/
namespace RimeModel.C08
open AMap

theorem stored_mem {pr : Prism} {k : Bytes} {d : Desc} (h : Stored pr k d) :
    ∃ row ∈ pr, row.1 = k ∧ d ∈ row.2 := by
  obtain ⟨i, h1, h2⟩ := h
  obtain ⟨row, hr, hk, hd⟩ := keyIndex_mem h1
  exact ⟨row, hr, hk, by rw [← hd]; exact h2⟩

/-- the decidable, row-wise form of `PrismTypesOK` -/
theorem prismTypesOK_of_rows {pr : Prism} (h : ∀ row ∈ pr, ∀ d ∈ row.2, d.type ≤ kInvalid) : PrismTypesOK pr := by
  intro k d hst
  obtain ⟨row, hr, _, hd⟩ := stored_mem hst
  exact h row hr d hd

/-- spellings `a`, `an`, `na` (normal) and the abbreviation `n` of `na`; delimiter `'`; completion on -/
def exCfg : Cfg := { delims := [39], completion := true, strict := false, alphabet := [97, 110] }
def exPrism : Prism :=
  [([97], [⟨0, 0, 0⟩]), ([97, 110], [⟨1, 0, 0⟩]), ([110, 97], [⟨2, 0, 0⟩]), ([110], [⟨2, 2, 7⟩])]
/-- `an'a` -/
def exInp : Bytes := [97, 110, 39, 97]
/-- `anan`: the abbreviation path a|na|n is pruned -/
def exInp2 : Bytes := [97, 110, 97, 110]
/-- `a'n`: `a` + `'`, then the abbreviation `n` -/
def exInp3 : Bytes := [97, 39, 110]
/-- strict spelling, completion on: a lone abbreviation may not span the whole input -/
def exCfgStrict : Cfg := { delims := [39], completion := true, strict := true, alphabet := [97, 110] }

end RimeModel.C08
