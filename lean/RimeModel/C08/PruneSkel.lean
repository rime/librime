import RimeModel.C08.Strip
/-! C08 — the invariant of the backward pruning pass, read on the stripped edge map (no
credibilities, no vertex types): which vertices and edges survive. -/
namespace RimeModel.C08
open AMap

/-- what becomes of end vertex `j` of the position being pruned -/
def keep (L : Nat) (good : List Nat) (j : Nat) (sm : SMap) : Option SMap :=
  if good.contains j && !(filterTypes L sm).isEmpty then some (filterTypes L sm) else none

theorem find?_filterTypes {sm : SMap} (hs : Sorted sm) {L syl : Nat} {p : Props} :
    (filterTypes L sm).find? syl = some p ↔ sm.find? syl = some p ∧ p.type ≤ L :=
  (find?_filter_some hs _).trans (and_congr_right fun _ => decide_eq_true_iff)

theorem keep_eq_some {L : Nat} {good : List Nat} {j : Nat} {sm0 sm : SMap} (h : keep L good j sm0 = some sm) :
    j ∈ good ∧ sm = filterTypes L sm0 ∧ sm ≠ [] := by
  unfold keep at h
  split at h
  · rename_i hc
    cases h
    simp only [Bool.and_eq_true, Bool.not_eq_true', List.contains_iff_mem] at hc
    refine ⟨hc.1, rfl, ?_⟩
    intro h'; rw [h'] at hc; simp at hc
  · cases h

theorem keep_retains {L : Nat} {good : List Nat} {j syl : Nat} {sm0 : SMap} {p0 : Props} (hs : Sorted sm0)
    (hj : j ∈ good) (hp : sm0.find? syl = some p0) (hle : p0.type ≤ L) :
    keep L good j sm0 = some (filterTypes L sm0) ∧ (filterTypes L sm0).find? syl = some p0 := by
  have hf : (filterTypes L sm0).find? syl = some p0 := (find?_filterTypes hs).mpr ⟨hp, hle⟩
  have hne : (filterTypes L sm0).isEmpty = false := by
    cases h : filterTypes L sm0 with
    | nil => rw [h] at hf; cases hf
    | cons a t => rfl
  refine ⟨?_, hf⟩
  unfold keep
  simp [hne, hj]

theorem keep_strip (L : Nat) (good : List Nat) (j : Nat) (sm : SMap) :
    keep L good j (stripSM sm) = (keep L good j sm).map stripSM := by
  unfold keep
  rw [filterTypes_isEmpty_strip, ← stripSM_filterTypes]
  split <;> rfl

/-- edges of the map before pruning go forward and carry sorted spelling maps -/
def RawOK (X0 : EMap) : Prop := ∀ s e sm0, evAt X0 s e = some sm0 → s < e ∧ Sorted sm0

/-- the pruning pass before row `k - 1`, rows `k … F - 1` processed (`proc*`): `S` = (edge map, good vertices), `X0` = the
edge map before the pass, `V` = the vertex types of the forward search, `L` = `last_type`, `F` = `farthest` -/
structure SInv (L F : Nat) (V : VMap) (X0 : EMap) (k : Nat) (S : EMap × List Nat) : Prop where
  goodGe : ∀ g ∈ S.2, k ≤ g ∧ g ≤ F
  goodF : F ∈ S.2
  untouched : ∀ i, (i < k ∨ F ≤ i) → S.1.find? i = X0.find? i
  goodType : ∀ g ∈ S.2, ∃ t, V.find? g = some t ∧ t ≤ L
  goodOut : ∀ g ∈ S.2, g ≠ F → ∃ j ∈ S.2, HasEdge S.1 g j
  sound : ∀ s e sm, evAt S.1 s e = some sm →
    ∃ sm0, evAt X0 s e = some sm0 ∧ ∀ syl p, sm.find? syl = some p → sm0.find? syl = some p
  procEdges : ∀ i, k ≤ i → i < F → ∀ j sm, evAt S.1 i j = some sm → j ∈ S.2 ∧ sm ≠ []
  procKeys : ∀ i, k ≤ i → i < F → (S.1.find? i).isSome = true → i ∈ S.2
  retain : ∀ i, k ≤ i → i < F → ∀ tu, V.find? i = some tu → tu ≤ L → ∀ j ∈ S.2, ∀ sm0, evAt X0 i j = some sm0 →
    ∀ syl p0, sm0.find? syl = some p0 → p0.type ≤ L →
    i ∈ S.2 ∧ ∃ sm, evAt S.1 i j = some sm ∧ sm.find? syl = some p0

theorem sinv_init {L F : Nat} {V : VMap} {X0 : EMap} (hF : ∃ t, V.find? F = some t ∧ t ≤ L) :
    SInv L F V X0 F (X0, [F]) := {
  goodGe := fun _ hg => List.mem_singleton.mp hg ▸ ⟨Nat.le_refl _, Nat.le_refl _⟩
  goodF := List.mem_singleton.mpr rfl
  untouched := fun _ _ => rfl
  goodType := fun _ hg => List.mem_singleton.mp hg ▸ hF
  goodOut := fun _ hg hne => absurd (List.mem_singleton.mp hg) hne
  sound := fun _ _ sm h => ⟨sm, h, fun _ _ hp => hp⟩
  procEdges := fun _ h1 h2 => absurd h2 (Nat.not_lt.mpr h1)
  procKeys := fun _ h1 h2 => absurd h2 (Nat.not_lt.mpr h1)
  retain := fun _ h1 h2 => absurd h2 (Nat.not_lt.mpr h1) }

section step
variable {L F : Nat} {V : VMap} {X0 : EMap} {k : Nat} {S : EMap × List Nat} {X' : EMap}
  (hk : k < F) (raw : RawOK X0) (inv : SInv L F V X0 (k + 1) S) (hne : ∀ i, i ≠ k → X'.find? i = S.1.find? i)
include hk raw inv hne

/-- from position `k + 1` to position `k`, given what has become of row `k` and whether `k` joins the
good vertices -/
theorem sinv_step {good' : List Nat}
    (hsub : ∀ g ∈ S.2, g ∈ good') (hsup : ∀ g ∈ good', g = k ∨ g ∈ S.2)
    (hkeys : (X'.find? k).isSome = true → k ∈ good')
    (hrow : ∀ j sm, evAt X' k j = some sm → (evAt S.1 k j).bind (keep L S.2 j) = some sm)
    (hgood : k ∈ good' → (∃ t, V.find? k = some t ∧ t ≤ L) ∧ ∃ j sm, evAt X' k j = some sm)
    (hret : ∀ tu, V.find? k = some tu → tu ≤ L → ∀ j sm, (evAt S.1 k j).bind (keep L S.2 j) = some sm →
      evAt X' k j = some sm ∧ k ∈ good') :
    SInv L F V X0 k (X', good') := by
  have hXk : ∀ j, evAt S.1 k j = evAt X0 k j := evAt_congr (inv.untouched k (Or.inl (Nat.lt_succ_self k)))
  have up : ∀ i, k ≤ i → i ≠ k → k + 1 ≤ i := fun i h1 h2 => Nat.lt_of_le_of_ne h1 (Ne.symm h2)
  have hgk : ∀ g ∈ S.2, g ≠ k := fun g hg => Nat.ne_of_gt (inv.goodGe g hg).1
  have hother : ∀ i, i ≠ k → ∀ j, evAt X' i j = evAt S.1 i j := fun i hi j => evAt_congr (hne i hi) j
  have hkept : ∀ j sm, evAt X' k j = some sm →
      ∃ sm0, evAt X0 k j = some sm0 ∧ j ∈ S.2 ∧ sm = filterTypes L sm0 ∧ sm ≠ [] := by
    intro j sm h
    have h' := hrow j sm h
    rw [hXk j] at h'
    cases h0 : evAt X0 k j with
    | none => rw [h0] at h'; cases h'
    | some sm0 =>
      rw [h0] at h'
      exact ⟨sm0, rfl, keep_eq_some h'⟩
  exact {
    goodGe := fun g hg => by
      rcases hsup g hg with h | h
      · subst h; exact ⟨Nat.le_refl _, Nat.le_of_lt hk⟩
      · exact ⟨Nat.le_of_succ_le (inv.goodGe g h).1, (inv.goodGe g h).2⟩
    goodF := hsub F inv.goodF
    untouched := fun i hi => by
      rcases hi with h | h
      · exact (hne i (Nat.ne_of_lt h)).trans (inv.untouched i (Or.inl (Nat.lt_succ_of_lt h)))
      · exact (hne i (Nat.ne_of_gt (Nat.lt_of_lt_of_le hk h))).trans (inv.untouched i (Or.inr h))
    goodType := fun g hg => by
      rcases hsup g hg with h | h
      · subst h; exact (hgood hg).1
      · exact inv.goodType g h
    goodOut := fun g hg hgF => by
      rcases hsup g hg with h | h
      · subst h
        obtain ⟨j, sm, hj⟩ := (hgood hg).2
        obtain ⟨sm0, _, h2, _, h4⟩ := hkept j sm hj
        exact ⟨j, hsub j h2, sm, hj, h4⟩
      · obtain ⟨j, hj, sm, h1, h2⟩ := inv.goodOut g h hgF
        exact ⟨j, hsub j hj, sm, (hother g (hgk g h) j).trans h1, h2⟩
    sound := fun s e sm h => by
      by_cases hs : s = k
      · subst hs
        obtain ⟨sm0, h1, _, h3, _⟩ := hkept e sm h
        refine ⟨sm0, h1, fun syl p hp => ?_⟩
        rw [h3] at hp
        exact ((find?_filterTypes (raw s e sm0 h1).2).mp hp).1
      · exact inv.sound s e sm ((hother s hs e).symm.trans h)
    procEdges := fun i hi1 hi2 j sm h => by
      by_cases hik : i = k
      · subst hik
        obtain ⟨sm0, _, h2, _, h4⟩ := hkept j sm h
        exact ⟨hsub j h2, h4⟩
      · obtain ⟨a, b⟩ := inv.procEdges i (up i hi1 hik) hi2 j sm ((hother i hik j).symm.trans h)
        exact ⟨hsub j a, b⟩
    procKeys := fun i hi1 hi2 h => by
      by_cases hik : i = k
      · subst hik; exact hkeys h
      · exact hsub i (inv.procKeys i (up i hi1 hik) hi2 (by rw [← hne i hik]; exact h))
    retain := fun i hi1 hi2 tu htu hle j hj sm0 h0 syl p0 hp hpl => by
      have hraw := raw i j sm0 h0
      have hjS : j ∈ S.2 := by
        rcases hsup j hj with h | h
        · exact absurd (h ▸ hraw.1) (Nat.not_lt.mpr hi1)
        · exact h
      by_cases hik : i = k
      · subst hik
        obtain ⟨a, b⟩ := keep_retains hraw.2 hjS hp hpl
        obtain ⟨c, d⟩ := hret tu htu hle j _ (by rw [hXk j, h0]; exact a)
        exact ⟨d, _, c, b⟩
      · obtain ⟨a, sm, b, c⟩ := inv.retain i (up i hi1 hik) hi2 tu htu hle j hjS sm0 h0 syl p0 hp hpl
        exact ⟨hsub i a, sm, (hother i hik j).trans b, c⟩ }

theorem sinv_drop (hrow : X'.find? k = none)
    (hret : ∀ tu, V.find? k = some tu → tu ≤ L → ∀ j, (evAt S.1 k j).bind (keep L S.2 j) = none) :
    SInv L F V X0 k (X', S.2) := by
  have hevk : ∀ j, evAt X' k j = none := fun j => by unfold evAt; rw [hrow]; rfl
  apply sinv_step hk raw inv hne (fun _ h => h) (fun _ h => Or.inr h)
  · intro h; rw [hrow] at h; cases h
  · intro j sm h; rw [hevk j] at h; cases h
  · intro h; exact absurd (inv.goodGe k h).1 (Nat.lt_irrefl k)
  · intro tu htu hle j sm h; rw [hret tu htu hle j] at h; cases h

theorem sinv_keep {tk : Nat}
    (hrow : ∀ j, evAt X' k j = (evAt S.1 k j).bind (keep L S.2 j))
    (hV : V.find? k = some tk) (htk : tk ≤ L) (hsome : ∃ j sm, evAt X' k j = some sm) :
    SInv L F V X0 k (X', k :: S.2) :=
  sinv_step hk raw inv hne (fun _ h => List.mem_cons_of_mem _ h) (fun _ h => List.mem_cons.mp h)
    (fun _ => List.mem_cons_self) (fun j _ h => (hrow j).symm.trans h) (fun _ => ⟨⟨tk, hV, htk⟩, hsome⟩)
    (fun _ _ _ j _ h => ⟨(hrow j).trans h, List.mem_cons_self⟩)

end step
end RimeModel.C08
