import RimeModel.C08.PruneSpec
/-! C08 — the completion edge and `ExpandSearch` -/
namespace RimeModel.C08
open AMap

/-- `m` = (id, length) of a stored spelling that begins with `key` -/
def ExpandOK (pr : Prism) (key : Bytes) (m : Nat × Nat) : Prop :=
  ∃ k, keyIndex pr k = some m.1 ∧ key <+: k ∧ m.2 = k.length

variable {pr : Prism} {al key : Bytes}

theorem matchesOf_ok {nodes : List Bytes} (h : ∀ x ∈ nodes, key <+: x)
    {m : Nat × Nat} (hm : m ∈ matchesOf pr nodes) : ExpandOK pr key m := by
  unfold matchesOf at hm
  obtain ⟨k, hk, hf⟩ := List.mem_filterMap.mp hm
  split at hf
  · rename_i hq
    cases hf
    exact ⟨k, hq, h k hk, rfl⟩
  · cases hf

theorem expandLevel_prefix {frontier : List Bytes}
    (h : ∀ x ∈ frontier, key <+: x) : ∀ x ∈ expandLevel pr al frontier, key <+: x := by
  intro x hx
  unfold expandLevel at hx
  obtain ⟨node, hn, hx⟩ := List.mem_flatMap.mp hx
  obtain ⟨c, _, hc⟩ := List.mem_filterMap.mp hx
  split at hc
  · simp only [Option.some.injEq] at hc
    subst hc
    exact (h node hn).trans (List.prefix_append _ _)
  · cases hc

theorem expandLoop_ok (fuel : Nat) :
    ∀ (frontier : List Bytes), (∀ x ∈ frontier, key <+: x) →
      ∀ m ∈ expandLoop pr al fuel frontier, ExpandOK pr key m := by
  induction fuel with
  | zero => intro _ _ m hm; cases hm
  | succ fuel ih =>
    intro frontier h m hm
    unfold expandLoop at hm
    rcases List.mem_append.mp hm with h1 | h1
    · exact matchesOf_ok (expandLevel_prefix h) h1
    · exact ih _ (expandLevel_prefix h) m h1

theorem expandSearch_ok {limit : Nat} {m : Nat × Nat}
    (hm : m ∈ expandSearch pr al key limit) : ExpandOK pr key m := by
  unfold expandSearch at hm
  by_cases hp : isPath pr key = true
  · rw [if_pos hp] at hm
    have hk : ∀ x ∈ [key], key <+: x := fun x hx => by
      rw [List.mem_singleton.mp hx]; exact List.prefix_refl _
    have hm' : m ∈ matchesOf pr [key] ++ expandLoop pr al (maxKeyLen pr) [key] := by
      split at hm
      · exact hm
      · exact List.mem_of_mem_take hm
    rcases List.mem_append.mp hm' with h1 | h1
    · exact matchesOf_ok hk h1
    · exact expandLoop_ok _ _ hk m h1
  · rw [if_neg hp] at hm
    cases hm

/-- invariant of the loop over the keys `ExpandSearch` found (`done` = keys consumed): `sp` holds a completion entry for
exactly the normal and fuzzy readings of the keys at least `codeLen` long -/
structure ComplInv (pr : Prism) (codeLen endPos : Nat) (done : List (Nat × Nat)) (sp : SMap) : Prop where
  sorted : Sorted sp
  sound : ∀ syl p, sp.find? syl = some p →
    p.type = kCompletion ∧ p.endPos = endPos ∧ p.compl = 1 ∧ p.amb = 0 ∧
    ∃ m ∈ done, codeLen ≤ m.2 ∧ ∃ d ∈ descsOf pr m.1, d.syl = syl ∧ d.type < kAbbrev
  complete : ∀ m ∈ done, codeLen ≤ m.2 → ∀ d ∈ descsOf pr m.1, d.type < kAbbrev → ∃ p, sp.find? d.syl = some p

/-- the accessor loop of one key: old entries stay, every normal/fuzzy reading gets an entry -/
structure ComplDescInv (endPos : Nat) (sp : SMap) (dd : List Desc) (sp' : SMap) : Prop where
  sorted : Sorted sp → Sorted sp'
  keepOld : ∀ syl p, sp.find? syl = some p → sp'.find? syl = some p
  sound : ∀ syl p, sp'.find? syl = some p → sp.find? syl = some p ∨
    (p.type = kCompletion ∧ p.endPos = endPos ∧ p.compl = 1 ∧ p.amb = 0 ∧ ∃ d ∈ dd, d.syl = syl ∧ d.type < kAbbrev)
  complete : ∀ d ∈ dd, d.type < kAbbrev → ∃ p, sp'.find? d.syl = some p

variable {endPos : Nat} {sp : SMap} {d : Desc} {syl : Nat} {p : Props}

theorem addCompl_sorted (h : Sorted sp) : Sorted (addCompl endPos sp d) := by
  unfold addCompl
  split
  · split
    · exact h
    · exact sorted_insert h _ _
  · exact h

theorem addCompl_keep (h : sp.find? syl = some p) : (addCompl endPos sp d).find? syl = some p := by
  unfold addCompl
  split
  · split
    · exact h
    · rename_i hq
      rw [find?_insert_ne _ _ (fun hs => by rw [hs, h] at hq; cases hq)]
      exact h
  · exact h

theorem addCompl_origin (h : (addCompl endPos sp d).find? syl = some p) :
    sp.find? syl = some p ∨ (p = ⟨kCompletion, endPos, d.cred, 1, 0⟩ ∧ d.syl = syl ∧ d.type < kAbbrev) := by
  unfold addCompl at h
  split at h
  · rename_i hty
    split at h
    · exact Or.inl h
    · by_cases hs : d.syl = syl
      · subst hs
        cases (find?_insert_self _ _ _).symm.trans h
        exact Or.inr ⟨rfl, rfl, hty⟩
      · exact Or.inl ((find?_insert_ne _ _ hs).symm.trans h)
  · exact Or.inl h

theorem addCompl_new (hty : d.type < kAbbrev) : ∃ p, (addCompl endPos sp d).find? d.syl = some p := by
  unfold addCompl
  rw [if_pos hty]
  split
  · rename_i q hq
    exact ⟨q, hq⟩
  · exact ⟨_, find?_insert_self _ _ _⟩

theorem addCompl_fold (endPos : Nat) (sp : SMap) (ds : List Desc) :
    ComplDescInv endPos sp ds (ds.foldl (addCompl endPos) sp) := by
  apply foldl_inv (addCompl endPos) (ComplDescInv endPos sp)
  · exact ⟨id, fun _ _ h => h, fun _ _ h => Or.inl h, fun d hd => nomatch hd⟩
  · intro dd sp' d _ inv
    refine ⟨fun h => addCompl_sorted (inv.sorted h), fun syl p h => addCompl_keep (inv.keepOld syl p h), ?_, ?_⟩
    · intro syl p hp
      rcases addCompl_origin hp with h | ⟨rfl, hs, hty⟩
      · rcases inv.sound syl p h with h | ⟨a, b, c, e, d', hd', r⟩
        · exact Or.inl h
        · exact Or.inr ⟨a, b, c, e, d', List.mem_append_left _ hd', r⟩
      · exact Or.inr ⟨rfl, rfl, rfl, rfl, d, List.mem_append_right _ (List.mem_singleton.mpr rfl), hs, hty⟩
    · refine forall_mem_snoc (fun d' h hty => ?_) addCompl_new
      obtain ⟨p, hp⟩ := inv.complete d' h hty
      exact ⟨p, addCompl_keep hp⟩

theorem complKey_fold (pr : Prism) (codeLen endPos : Nat) (keys : List (Nat × Nat)) :
    ComplInv pr codeLen endPos keys (keys.foldl (complKey pr codeLen endPos) []) := by
  apply foldl_inv (complKey pr codeLen endPos) (ComplInv pr codeLen endPos)
  · exact ⟨sorted_nil, fun syl p h => (nomatch h), fun m hm => (nomatch hm)⟩
  · intro done sp m _ inv
    unfold complKey
    by_cases hl : m.2 < codeLen
    · rw [if_pos hl]
      refine ⟨inv.sorted, fun syl p hp => ?_,
        forall_mem_snoc inv.complete fun hl' => absurd hl (Nat.not_lt.mpr hl')⟩
      obtain ⟨a, b, c, d, m', hm', rest⟩ := inv.sound syl p hp
      exact ⟨a, b, c, d, m', List.mem_append_left _ hm', rest⟩
    · rw [if_neg hl]
      have dinv := addCompl_fold endPos sp (descsOf pr m.1)
      refine ⟨dinv.sorted inv.sorted, fun syl p hp => ?_,
        forall_mem_snoc (fun m' h hl' d hd hty => ?_) fun _ => dinv.complete⟩
      · rcases dinv.sound syl p hp with h | ⟨a, b, c, e, d, hd, h1, h2⟩
        · obtain ⟨a, b, c, d, m', hm', rest⟩ := inv.sound syl p h
          exact ⟨a, b, c, d, m', List.mem_append_left _ hm', rest⟩
        · exact ⟨a, b, c, e, m, List.mem_append_right _ (List.mem_singleton.mpr rfl), Nat.le_of_not_lt hl,
            d, hd, h1, h2⟩
      · obtain ⟨p, hp⟩ := inv.complete m' h hl' d hd hty
        exact ⟨p, dinv.keepOld _ p hp⟩

def complKeys (cfg : Cfg) (pr : Prism) (inp : Bytes) (F : Nat) : List (Nat × Nat) :=
  expandSearch pr cfg.alphabet (inp.drop F) kExpandSearchLimit

def complSM (cfg : Cfg) (pr : Prism) (inp : Bytes) (F : Nat) : SMap :=
  (complKeys cfg pr inp F).foldl (complKey pr (inp.length - F) inp.length) []

/-- completion applies: the flag is on, the input is not exhausted, and the (limited) expand
search below the remainder yields a spelling with a normal or fuzzy reading -/
def ComplCond (cfg : Cfg) (pr : Prism) (inp : Bytes) (F : Nat) : Prop :=
  cfg.completion = true ∧ F < inp.length ∧
  ∃ m ∈ complKeys cfg pr inp F, inp.length - F ≤ m.2 ∧ ∃ d ∈ descsOf pr m.1, d.type < kAbbrev

theorem complSM_ne_nil_iff (cfg : Cfg) (pr : Prism) (inp : Bytes) (F : Nat) :
    complSM cfg pr inp F ≠ [] ↔
      ∃ m ∈ complKeys cfg pr inp F, inp.length - F ≤ m.2 ∧ ∃ d ∈ descsOf pr m.1, d.type < kAbbrev := by
  have inv : ComplInv pr _ _ (complKeys cfg pr inp F) (complSM cfg pr inp F) := complKey_fold ..
  constructor
  · intro h
    obtain ⟨syl, p, hp⟩ := exists_find?_of_ne_nil h
    obtain ⟨_, _, _, _, m, hm, hl, d, hd, _, hty⟩ := inv.sound syl p hp
    exact ⟨m, hm, hl, d, hd, hty⟩
  · rintro ⟨m, hm, hl, d, hd, hty⟩ hnil
    obtain ⟨p, hp⟩ := inv.complete m hm hl d hd hty
    rw [hnil] at hp
    cases hp

variable {cfg : Cfg} {pr : Prism} {inp : Bytes} {E : EMap} {F : Nat}

theorem complete_eq (hev : (E.find? F).getD [] = []) :
    complete cfg pr inp E F =
      if cfg.completion && decide (F < inp.length) then
        if (complKeys cfg pr inp F).isEmpty then (E, F)
        else if (complSM cfg pr inp F).isEmpty then (E.insert F [], F)
        else (E.insert F [(inp.length, complSM cfg pr inp F)], inp.length)
      else (E, F) := by
  unfold complete
  rw [hev]
  rfl

theorem complete_pos (hev : (E.find? F).getD [] = []) (hc : ComplCond cfg pr inp F) :
    complete cfg pr inp E F = (E.insert F [(inp.length, complSM cfg pr inp F)], inp.length) := by
  obtain ⟨h1, h2, h3⟩ := hc
  have hne := (complSM_ne_nil_iff cfg pr inp F).mpr h3
  obtain ⟨m, hm, _⟩ := h3
  rw [complete_eq hev, if_pos (by rw [h1, decide_eq_true h2]; rfl),
    if_neg (mt List.isEmpty_iff.mp (List.ne_nil_of_mem hm)), if_neg (mt List.isEmpty_iff.mp hne)]

theorem complete_neg (hev : (E.find? F).getD [] = []) (hc : ¬ ComplCond cfg pr inp F) :
    complete cfg pr inp E F = (E, F) ∨ complete cfg pr inp E F = (E.insert F [], F) := by
  rw [complete_eq hev]
  cases h1 : (cfg.completion && decide (F < inp.length)) with
  | false => exact Or.inl rfl
  | true =>
    cases hk : (complKeys cfg pr inp F).isEmpty with
    | true => exact Or.inl rfl
    | false =>
      cases hs : (complSM cfg pr inp F).isEmpty with
      | true => exact Or.inr rfl
      | false =>
        rw [Bool.and_eq_true, decide_eq_true_eq] at h1
        have hne : complSM cfg pr inp F ≠ [] := fun h => by rw [h] at hs; cases hs
        exact absurd ⟨h1.1, h1.2, (complSM_ne_nil_iff cfg pr inp F).mp hne⟩ hc

end RimeModel.C08
