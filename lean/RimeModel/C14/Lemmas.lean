import RimeModel.C14.Edit
/-! C14 — helper lemmas: byte-string facts for keys without '/', how `EditNode` reads a key, its one-step behaviour,
`MergeTree` of flat entries (`setAll`), and what `ResolveListIndex` makes of the list-index keys `@next`, `@before 0`,
`@last`, `@2`, `@after 1`. -/
namespace RimeModel.C14

def NoSlash (k : Str) : Prop := ∀ c ∈ k, c ≠ c_slash

instance (k : Str) : Decidable (NoSlash k) := inferInstanceAs (Decidable (∀ c ∈ k, c ≠ c_slash))

theorem NoSlash.head {c : UInt8} {cs : Str} (h : NoSlash (c :: cs)) : c ≠ c_slash :=
  h c List.mem_cons_self

theorem NoSlash.tail {c : UInt8} {cs : Str} (h : NoSlash (c :: cs)) : NoSlash cs :=
  fun x hx => h x (List.mem_cons_of_mem _ hx)

theorem trimLeft_noSlash {k : Str} (h : NoSlash k) : Str.trimLeft c_slash k = k := by
  cases k with
  | nil => rfl
  | cons c cs => exact if_neg h.head

theorem splitOn_noSlash {k : Str} (h : NoSlash k) : Str.splitOn c_slash k = [k] := by
  induction k with
  | nil => rfl
  | cons c cs ih =>
    rw [Str.splitOn, ih h.tail]
    exact if_neg h.head

theorem splitPath_noSlash {k : Str} (h : NoSlash k) : splitPath k = [k] := by
  rw [splitPath, trimLeft_noSlash h, splitOn_noSlash h]

theorem startsWith_slash {k q : Str} (h : NoSlash k) : Str.startsWith k (c_slash :: q) = false :=
  Bool.eq_false_iff.2 fun e =>
    h c_slash (List.mem_of_mem_take (beq_iff_eq.1 e ▸ List.mem_cons_self)) rfl

theorem findLast_noSlash {k q : Str} (h : NoSlash k) : Str.findLast k (c_slash :: q) = none := by
  induction k with
  | nil => rfl
  | cons c cs ih =>
    rw [Str.findLast, ih h.tail]
    exact if_neg (Bool.eq_false_iff.1 (startsWith_slash h))

theorem endsWith_noSlash {k q : Str} (h : NoSlash k) : Str.endsWith k (c_slash :: q) = false :=
  Bool.eq_false_iff.2 fun e =>
    h c_slash (List.mem_of_mem_drop (beq_iff_eq.1 (Bool.and_eq_true_iff.1 e).2 ▸ List.mem_cons_self)) rfl

theorem eraseLast_noSlash {k q : Str} (h : NoSlash k) : Str.eraseLast k (c_slash :: q) = k := by
  rw [Str.eraseLast, findLast_noSlash h]

theorem endsWith_append_right (k : Str) {p q : Str} (h : q.length ≤ p.length) :
    Str.endsWith (k ++ p) q = Str.endsWith p q := by
  unfold Str.endsWith
  rw [List.length_append, Nat.add_sub_assoc h, List.drop_length_add_append, decide_eq_true h,
    decide_eq_true (Nat.le_trans h (Nat.le_add_left _ _))]

/-- a key that names one map entry and carries no operator -/
structure PlainKey (k : Str) : Prop where
  ne : k ≠ []
  ns : NoSlash k
  nl : isListItemReference k = false
  na : k ≠ kAppend
  nm : k ≠ kMerge

/-- `EditNode` reads `key` as: append iff `app`; merge iff `mrg`, or — under `MergeTree`, for a null or
map value — unless `equ`; edit at `path` -/
structure KeyForm (key : Str) (app mrg equ : Bool) (path : Str) : Prop where
  isApp : isAppending key = app
  isMrg : ∀ v mt, isMerging key v mt = (mrg || (mt && (v.isNull || v.isMap) && !equ))
  strip : ∀ (v : Tree) (mt : Bool),
    stripOperator key (app || (mrg || (mt && (v.isNull || v.isMap) && !equ))) = path

theorem keyForm_plain {k : Str} (hs : NoSlash k) (na : k ≠ kAppend) (nm : k ≠ kMerge) :
    KeyForm k false false false k := by
  have ea : Str.endsWith k kAddOp = false := endsWith_noSlash (q := [43]) hs
  have ee : Str.endsWith k kEquOp = false := endsWith_noSlash (q := [61]) hs
  have na' := beq_eq_false_iff_ne.2 na
  have nm' := beq_eq_false_iff_ne.2 nm
  refine ⟨?_, fun v mt => ?_, fun v mt => ?_⟩
  · rw [isAppending, ea, na']
    rfl
  · rw [isMerging, ea, ee, nm']
    rfl
  · rw [stripOperator, na', nm']
    cases mt && (v.isNull || v.isMap)
    · exact eraseLast_noSlash (q := [61]) hs
    · exact eraseLast_noSlash (q := [43]) hs

theorem op_ne (k q : Str) {p : Str} (hp : NoSlash p) : (k ++ c_slash :: q == p) = false :=
  beq_eq_false_iff_ne.2 fun e => hp c_slash (e ▸ List.mem_append_right k List.mem_cons_self) rfl

theorem findLast_append_op {k : Str} (h : NoSlash k) (o : UInt8) :
    Str.findLast (k ++ [c_slash, o]) [c_slash, o] = some k.length := by
  induction k with
  | nil => simp [Str.findLast, Str.startsWith]
  | cons c cs ih => simp [Str.findLast, ih h.tail]

theorem eraseLast_append_op {k : Str} (h : NoSlash k) (o : UInt8) :
    Str.eraseLast (k ++ [c_slash, o]) [c_slash, o] = k := by
  simp [Str.eraseLast, findLast_append_op h o]

theorem keyForm_add {k : Str} (hs : NoSlash k) : KeyForm (k ++ kAddOp) true true false k := by
  have ea : Str.endsWith (k ++ kAddOp) kAddOp = true := endsWith_append_right k (Nat.le_refl _)
  have na : (k ++ kAddOp == kAppend) = false := op_ne k [43] (by decide)
  have nm : (k ++ kAddOp == kMerge) = false := op_ne k [43] (by decide)
  refine ⟨?_, fun v mt => ?_, fun _ _ => ?_⟩
  · rw [isAppending, ea, Bool.or_true]
  · rw [isMerging, ea, Bool.or_true, Bool.true_or, Bool.true_or]
  · rw [Bool.true_or, stripOperator, na, nm]
    exact eraseLast_append_op hs 43

theorem keyForm_equ {k : Str} (hs : NoSlash k) : KeyForm (k ++ kEquOp) false false true k := by
  have ea : Str.endsWith (k ++ kEquOp) kAddOp = false := endsWith_append_right k (Nat.le_refl 2)
  have ee : Str.endsWith (k ++ kEquOp) kEquOp = true := endsWith_append_right k (Nat.le_refl _)
  have na : (k ++ kEquOp == kAppend) = false := op_ne k [61] (by decide)
  have nm : (k ++ kEquOp == kMerge) = false := op_ne k [61] (by decide)
  refine ⟨?_, fun v mt => ?_, fun v mt => ?_⟩
  · rw [isAppending, ea, na]
    rfl
  · rw [isMerging, ea, ee, nm]
    rfl
  · rw [Bool.not_true, Bool.and_false, stripOperator, na, nm]
    exact eraseLast_append_op hs 61

theorem keyForm_append : KeyForm kAppend true false false [] := by
  refine ⟨by decide, fun v mt => ?_, fun _ _ => rfl⟩
  rw [isMerging, show (kAppend == kMerge) = false by decide,
    show Str.endsWith kAppend kAddOp = false by decide, show Str.endsWith kAppend kEquOp = false by decide]
  rfl

theorem keyForm_merge : KeyForm kMerge false true false [] := by
  refine ⟨by decide, fun v mt => ?_, fun _ _ => rfl⟩
  rw [isMerging, show (kMerge == kMerge) = true by decide]
  rfl

/-- `EditNode` once the key is read (`appending`, `merging`) and the target reference `tgt` found: the body of
`editNode` below its `| some tgt =>` -/
def editAt (base : Tree) (head tgt : Chain) (appending merging : Bool) (value : Tree) : ER :=
  let n := tgt.length - head.length
  let cur := getC base tgt
  if (appending || merging) && !cur.isNull then
    if value.isNull then ER.good base head else
    match (if appending then appendToString cur value else none) with
    | some s => assign base tgt n s
    | none =>
      let a := if appending then appendToList base tgt n cur value else ER.fail base head
      if a.ok || a.crash then a else
      if !merging then ER.fail base head else
      match value with
      | .map kvs =>
        let r := mergeEntries base tgt kvs
        { r with head := r.head.drop n }
      | _ => ER.fail base head
  else assign base tgt n value

theorem editNode_form {key path : Str} {app mrg equ : Bool} (hf : KeyForm key app mrg equ path)
    {base : Tree} {head tgt : Chain} {mt : Bool} (value : Tree)
    (ht : (if mt then typeChecked base head path else traverseCow base head path) = some tgt) :
    editNode base head key value mt
      = editAt base head tgt app (mrg || (mt && (value.isNull || value.isMap) && !equ)) value := by
  have hs := hf.strip value mt
  rw [← hf.isApp, ← hf.isMrg] at hs
  unfold editNode
  simp only [hs, ht]
  rw [hf.isApp, hf.isMrg]
  rfl

theorem editAt_assign {base : Tree} {head tgt : Chain} {app mrg : Bool} (value : Tree)
    (h : (app || mrg) = false ∨ (getC base tgt).isNull = true) :
    editAt base head tgt app mrg value = assign base tgt (tgt.length - head.length) value := by
  unfold editAt
  rcases h with h | h <;> simp [h]

theorem traverse_nil (base : Tree) (head : Chain) (mt : Bool) :
    (if mt then typeChecked base head [] else traverseCow base head []) = some head := by
  cases mt <;> rfl

theorem traverse_key {c : Str} (hs : NoSlash c) (hne : c ≠ []) (base : Tree) (head : Chain)
    (hok : (getC base head).isNull = true ∨ typedOk (getC base head) c = true) (mt : Bool) :
    (if mt then typeChecked base head c else traverseCow base head c)
      = some ({ key := c, copied := false } :: head) := by
  have he : c.isEmpty = false := by cases c <;> simp_all
  have htc : typeChecked base head c = some ({ key := c, copied := false } :: head) := by
    rw [typeChecked, he]
    rcases hok with h | h <;> simp [h]
  cases mt
  · have hsl : (c == [c_slash]) = false :=
      beq_eq_false_iff_ne.2 fun e => hs c_slash (e ▸ List.mem_singleton_self _) rfl
    simp only [traverseCow, he, hsl, splitPath_noSlash hs, traverseKeys, htc]
    rfl
  · exact htc

theorem writeKey_map {k : Str} (nl : isListItemReference k = false) (kvs : Entries) (v : Tree) :
    writeKey (.map kvs) k v = .map (mapSet kvs k v) := by
  rw [writeKey, nl]
  rfl

theorem readKey_map {k : Str} (nl : isListItemReference k = false) (kvs : Entries) :
    readKey (.map kvs) k = mapGet kvs k := by
  rw [readKey, nl]
  rfl

theorem typedOk_map {k : Str} (nl : isListItemReference k = false) (kvs : Entries) :
    typedOk (.map kvs) k = true := by
  rw [typedOk, nl]
  rfl

theorem assign_one (base : Tree) (c : Str) (v : Tree) :
    assign base [{ key := c, copied := false }] 1 v = ER.good (writeKey base c v) [] := rfl

theorem assign_two (base : Tree) {k : Str} (c : Str) (cp : Bool) (v : Tree) (ht : typedOk base k = true) :
    assign base [{ key := c, copied := false }, { key := k, copied := cp }] 1 v
      = ER.good (writeKey base k (writeKey (readKey base k) c v)) [{ key := k, copied := true }] := by
  cases cp <;> simp [assign, setC, getC, ht, putBack, ER.good]

theorem editNode_assign {key c : Str} {app mrg equ : Bool} (hf : KeyForm key app mrg equ c) (hs : NoSlash c)
    (hne : c ≠ []) (base : Tree) (head : Chain)
    (hok : (getC base head).isNull = true ∨ typedOk (getC base head) c = true) (v : Tree) (mt : Bool)
    (h : (app || (mrg || (mt && (v.isNull || v.isMap) && !equ))) = false
      ∨ (readKey (getC base head) c).isNull = true) :
    editNode base head key v mt = assign base ({ key := c, copied := false } :: head) 1 v := by
  rw [editNode_form hf v (traverse_key hs hne base head hok mt), editAt_assign v h, List.length_cons,
    Nat.add_sub_cancel_left]

theorem editNode_plain {c : Str} (hc : PlainKey c) {base : Tree} {head : Chain} {m : Entries}
    (hm : getC base head = .map m) {v : Tree} {mt : Bool}
    (hv : mt = false ∨ (v.isNull = false ∧ v.isMap = false)) :
    editNode base head c v mt = assign base ({ key := c, copied := false } :: head) 1 v := by
  refine editNode_assign (keyForm_plain hc.ns hc.na hc.nm) hc.ns hc.ne base head
    (Or.inr (hm ▸ typedOk_map hc.nl m)) v mt (Or.inl ?_)
  rcases hv with rfl | ⟨h1, h2⟩
  · rfl
  · rw [h1, h2]
    cases mt <;> rfl

theorem mapGet_mapSet_same (kvs : Entries) (k : Str) (v : Tree) : mapGet (mapSet kvs k v) k = v := by
  fun_induction mapSet kvs k v <;> simp_all [mapGet]

theorem mapSet_mapSet_same (kvs : Entries) (k : Str) (a b : Tree) :
    mapSet (mapSet kvs k a) k b = mapSet kvs k b := by
  fun_induction mapSet kvs k a <;> simp_all [mapSet]

/-- entries a flat merge carries: plain keys, values that are neither null nor maps -/
def Flat (m : Entries) : Prop := ∀ kv ∈ m, PlainKey kv.1 ∧ kv.2.isNull = false ∧ kv.2.isMap = false

def setAll (kvs : Entries) (m : Entries) : Entries := m.foldl (fun a kv => mapSet a kv.1 kv.2) kvs

theorem Flat.head {x : Str × Tree} {m : Entries} (h : Flat (x :: m)) :
    PlainKey x.1 ∧ x.2.isNull = false ∧ x.2.isMap = false := h x List.mem_cons_self

theorem Flat.tail {x : Str × Tree} {m : Entries} (h : Flat (x :: m)) : Flat m :=
  fun z hz => h z (List.mem_cons_of_mem _ hz)

theorem editNode_set {k : Str} (h : PlainKey k) (kvs : Entries) {v : Tree} {mt : Bool}
    (hv : mt = false ∨ (v.isNull = false ∧ v.isMap = false)) :
    editNode (.map kvs) [] k v mt = ER.good (.map (mapSet kvs k v)) [] := by
  rw [editNode_plain h (m := kvs) rfl hv, assign_one, writeKey_map h.nl]

theorem mergeEntries_flat (m : Entries) (hm : Flat m) (kvs : Entries) :
    mergeEntries (.map kvs) [] m = ER.good (.map (setAll kvs m)) [] := by
  induction m generalizing kvs with
  | nil => rfl
  | cons kv rest ih =>
    rw [mergeEntries, editNode_set hm.head.1 kvs (Or.inr hm.head.2)]
    exact ih hm.tail _

/-- one `EditNode` step of a flat merge below the entry `k` (whatever the `copied_` flag of the
reference to `k` is): the entry's map gets the key set; the reference is copied afterwards -/
theorem editNode_under {k c : Str} (hk : PlainKey k) (hc : PlainKey c) (kvs old : Entries) (cp : Bool) {v : Tree}
    (hv : v.isNull = false ∧ v.isMap = false) (hx : mapGet kvs k = .map old) :
    editNode (.map kvs) [{ key := k, copied := cp }] c v true
      = ER.good (.map (mapSet kvs k (.map (mapSet old c v)))) [{ key := k, copied := true }] := by
  have hm : getC (.map kvs) [{ key := k, copied := cp }] = .map old := (readKey_map hk.nl kvs).trans hx
  rw [editNode_plain hc hm (Or.inr hv), assign_two _ _ _ _ (typedOk_map hk.nl kvs), readKey_map hk.nl, hx,
    writeKey_map hc.nl, writeKey_map hk.nl]

theorem mergeEntries_under {k : Str} (hk : PlainKey k) (m : Entries) (kvs old : Entries) (cp : Bool)
    (hx : mapGet kvs k = .map old) (x : Str × Tree) (hm : Flat (x :: m)) :
    mergeEntries (.map kvs) [{ key := k, copied := cp }] (x :: m)
      = ER.good (.map (mapSet kvs k (.map (setAll old (x :: m))))) [{ key := k, copied := true }] := by
  induction m generalizing kvs old cp x with
  | nil =>
    rw [mergeEntries, editNode_under hk hm.head.1 kvs old cp hm.head.2 hx]
    rfl
  | cons y rest ih =>
    rw [mergeEntries, editNode_under hk hm.head.1 kvs old cp hm.head.2 hx]
    exact (ih _ _ true (mapGet_mapSet_same _ _ _) y hm.tail).trans (by rw [mapSet_mapSet_same]; rfl)

/-- every key of a patch literal is one plain map key -/
def PlainKeys (m : Entries) : Prop := ∀ kv ∈ m, PlainKey kv.1

/-- `@next` -/
def atNext : Str := [64, 110, 101, 120, 116]
/-- `@before 0` -/
def atBefore0 : Str := [64, 98, 101, 102, 111, 114, 101, 32, 48]
/-- `@last` -/
def atLast : Str := [64, 108, 97, 115, 116]
/-- `@2` -/
def at2 : Str := [64, 50]
/-- `@after 1` -/
def atAfter1 : Str := [64, 97, 102, 116, 101, 114, 32, 49]

theorem writeKey_list {key : Str} (hl : isListItemReference key = true) (xs : List Tree) (v : Tree) :
    writeKey (.list xs) key v = .list (listWrite xs key v) := by
  rw [writeKey, hl]
  rfl

theorem typedOk_list {key : Str} (hl : isListItemReference key = true) (xs : List Tree) :
    typedOk (.list xs) key = true := by
  rw [typedOk, hl]
  rfl

theorem rli_next (n : Nat) : resolveListIndex n atNext = (n % U32, false) := by
  have h : resolveListIndex n atNext = (n % U32 % U32, false) := by rfl
  rwa [Nat.mod_mod] at h

theorem rli_before0 (n : Nat) : resolveListIndex n atBefore0 = (0, true) := by
  rfl

theorem rli_last (n : Nat) :
    resolveListIndex n atLast = (if n % U32 ≠ 0 then n % U32 - 1 else n % U32, false) := by
  have h : resolveListIndex n atLast
      = (if (0 + n) % U32 ≠ 0 then (0 + n) % U32 - 1 else (0 + n) % U32, false) := by rfl
  rwa [Nat.zero_add] at h

theorem rli_2 (n : Nat) : resolveListIndex n at2 = (2, false) := by
  rfl

theorem rli_after1 (n : Nat) : resolveListIndex n atAfter1 = (2, true) := by
  rfl

theorem padTo_of_le {xs : List Tree} {n : Nat} (h : n ≤ xs.length) : padTo xs n = xs := by
  rw [padTo, Nat.sub_eq_zero_of_le h]
  exact List.append_nil xs

theorem le_length_padTo (xs : List Tree) (n : Nat) : n ≤ (padTo xs n).length := by
  rw [padTo, List.length_append, List.length_replicate]
  omega

theorem listSetAt_insert (xs : List Tree) (i : Nat) (v : Tree) :
    listSetAt (listInsert xs i .null) i v = (padTo xs i).take i ++ v :: (padTo xs i).drop i := by
  have ht : ((padTo xs i).take i).length = i := List.length_take_of_le (le_length_padTo xs i)
  have hl : i + 1 ≤ (listInsert xs i .null).length := by
    rw [listInsert, List.length_append, ht, List.length_cons]
    omega
  rw [listSetAt, padTo_of_le hl, listInsert, List.set_append_right _ _ (Nat.le_of_eq ht), ht, Nat.sub_self]
  rfl

end RimeModel.C14
