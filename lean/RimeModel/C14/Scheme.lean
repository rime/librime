/-!
C14 — the recursion scheme of `ConfigCompiler::ResolveDependencies`, abstractly.

Nodes are paths; `deps n` are the nodes whose resolution resolving `n` triggers (pending children, the
targets and blocking ancestors of its references).  Before resolving `n` the code tests the resolve
chain (`HasCircularDependencies`): if `n` is guarded it returns `false` at once, otherwise it pushes `n`
and resolves the dependencies one after the other, returning at the first failure.  The only property
of the guard that termination needs is that a node on the chain is guarded (a path is a prefix of
itself).  The dependency map is arbitrary — cycles allowed.  `none` = the fuel ran out.
-/
namespace RimeModel.C14

/-- sequential conjunction with early exit; `none` propagates -/
def allOpt {α : Type} (g : α → Option Bool) : List α → Option Bool
  | [] => some true
  | d :: ds =>
    match g d with
    | none => none
    | some false => some false
    | some true => allOpt g ds

def resolveAbs {α : Type} [DecidableEq α] (deps : α → List α) (guard : List α → α → Bool) :
    Nat → List α → α → Option Bool
  | 0, _, _ => none
  | f + 1, chain, n =>
    if guard chain n then some false
    else allOpt (resolveAbs deps guard f (n :: chain)) (deps n)

/-- nodes of the universe not yet on the chain: the termination measure -/
def freeNodes {α : Type} [DecidableEq α] (u chain : List α) : Nat := (u.filter fun x => decide (x ∉ chain)).length

theorem allOpt_isSome {α : Type} (g : α → Option Bool) (ds : List α) (h : ∀ d ∈ ds, (g d).isSome = true) :
    (allOpt g ds).isSome = true := by
  induction ds with
  | nil => rfl
  | cons d ds ih =>
    obtain ⟨hd, hds⟩ := List.forall_mem_cons.mp h
    obtain ⟨b, hb⟩ := Option.isSome_iff_exists.mp hd
    rw [allOpt, hb]
    cases b
    · rfl
    · exact ih hds

theorem freeNodes_push {α : Type} [DecidableEq α] (u chain : List α) (n : α) (hu : n ∈ u) (hn : n ∉ chain) :
    freeNodes u (n :: chain) < freeNodes u chain := by
  have e : (u.filter fun x => decide (x ∉ n :: chain))
      = (u.filter fun x => decide (x ∉ chain)).filter fun x => decide (x ≠ n) := by
    rw [List.filter_filter]
    exact List.filter_congr fun x _ => by simp
  unfold freeNodes
  rw [e]
  exact List.length_filter_lt_length_iff_exists.2
    ⟨n, List.mem_filter.2 ⟨hu, decide_eq_true hn⟩, by simp⟩

end RimeModel.C14
