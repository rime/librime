import RimeModel.C14.Lemmas
import RimeModel.C14.Doc
/-! C14 — helper lemmas about the compiler: directive-free trees, the reachable-document closure. -/
namespace RimeModel.C14

mutual
/-- no `__include` / `__patch` key anywhere -/
def noDir : Tree → Bool
  | .map kvs => noDirM kvs
  | .list xs => noDirL xs
  | _ => true
def noDirL : List Tree → Bool
  | [] => true
  | x :: xs => noDir x && noDirL xs
def noDirM : Entries → Bool
  | [] => true
  | (k, v) :: rest => k != kInclude && k != kPatch && noDir v && noDirM rest
end

theorem noDirM_cons {k : Str} {v : Tree} {rest : Entries} :
    noDirM ((k, v) :: rest) = true ↔ (k ≠ kInclude ∧ k ≠ kPatch) ∧ noDir v = true ∧ noDirM rest = true := by
  simp only [noDirM, Bool.and_eq_true, bne_iff_ne, ne_eq, and_assoc]

theorem registersDep_other {k : Str} (v : Tree) (h : k ≠ kInclude ∧ k ≠ kPatch) : registersDep k v = false := by
  rw [registersDep, beq_eq_false_iff_ne.2 h.1, beq_eq_false_iff_ne.2 h.2]
  rfl

theorem consumed_other {k : Str} (v : Tree) (h : k ≠ kInclude ∧ k ≠ kPatch) : consumed k v = false := by
  rw [consumed, beq_eq_false_iff_ne.2 h.1, beq_eq_false_iff_ne.2 h.2]
  rfl

mutual
theorem hasDeps_noDir : ∀ t : Tree, noDir t = true → hasDeps t = false
  | .map kvs, h => hasDepsM_noDir kvs h
  | .list xs, h => hasDepsL_noDir xs h
  | .null, _ => rfl
  | .scalar _, _ => rfl
theorem hasDepsL_noDir : ∀ xs : List Tree, noDirL xs = true → hasDepsL xs = false
  | [], _ => rfl
  | x :: xs, h => by
    have h := Bool.and_eq_true_iff.1 h
    rw [hasDepsL, hasDeps_noDir x h.1, hasDepsL_noDir xs h.2]
    rfl
theorem hasDepsM_noDir : ∀ kvs : Entries, noDirM kvs = true → hasDepsM kvs = false
  | [], _ => rfl
  | (k, v) :: rest, h => by
    obtain ⟨hk, hv, hr⟩ := noDirM_cons.1 h
    rw [hasDepsM, registersDep_other v hk, hasDeps_noDir v hv, hasDepsM_noDir rest hr]
    rfl
end

mutual
theorem parseForm_noDir : ∀ t : Tree, noDir t = true → parseForm t = t
  | .map kvs, h => congrArg Tree.map (parseFormM_noDir kvs h)
  | .list xs, h => congrArg Tree.list (parseFormL_noDir xs h)
  | .null, _ => rfl
  | .scalar _, _ => rfl
theorem parseFormL_noDir : ∀ xs : List Tree, noDirL xs = true → parseFormL xs = xs
  | [], _ => rfl
  | x :: xs, h => by
    have h := Bool.and_eq_true_iff.1 h
    rw [parseFormL, parseForm_noDir x h.1, parseFormL_noDir xs h.2]
theorem parseFormM_noDir : ∀ kvs : Entries, noDirM kvs = true → parseFormM kvs = kvs
  | [], _ => rfl
  | (k, v) :: rest, h => by
    obtain ⟨hk, hv, hr⟩ := noDirM_cons.1 h
    rw [parseFormM, consumed_other v hk, parseForm_noDir v hv, parseFormM_noDir rest hr]
    rfl
end

theorem ownDepsM_noDir (kvs : Entries) (h : noDirM kvs = true) : ownDepsM kvs = {} := by
  induction kvs with
  | nil => rfl
  | cons kv rest ih =>
    obtain ⟨hk, _, hr⟩ := noDirM_cons.1 h
    simp [ownDepsM, hk.1, hk.2, ih hr]

theorem compileEntries_noDir (rec : Rec) (chain : RChain) (doc : Str) (path : List Str) (kvs : Entries) (acc : MC)
    (h : noDirM kvs = true) :
    compileEntries rec chain doc path kvs acc = { acc with data := acc.data ++ kvs } := by
  induction kvs generalizing acc with
  | nil => simp [compileEntries]
  | cons kv rest ih =>
    obtain ⟨hk, hv, hr⟩ := noDirM_cons.1 h
    unfold compileEntries
    simp [hk.1, hk.2, compileChild, hasDeps_noDir kv.2 hv, parseForm_noDir kv.2 hv, ih _ hr]

theorem autoPatch_resource {doc : Str} {root : Tree} {r : Reference} (h : autoPatchRef doc root = some r) :
    r.resource = customOf doc ∧ r.optional = true := by
  rw [autoPatchRef] at h
  obtain ⟨_, h⟩ := Option.ite_none_left_eq_some.1 h
  obtain ⟨_, h⟩ := Option.ite_none_left_eq_some.1 h
  cases h
  exact ⟨rfl, rfl⟩

theorem endsWith_custom_yaml (a : Str) : Str.endsWith (a ++ kDotCustom) kDotYaml = false :=
  endsWith_append_right a (by decide : kDotYaml.length ≤ kDotCustom.length)

theorem toResourceId_custom (a : Str) : toResourceId (a ++ kDotCustom) = a ++ kDotCustom := by
  simp [toResourceId, endsWith_custom_yaml]

theorem compileNode_plain_root (docs : Docs) (rec : Rec) (name : Str) (kvs : Entries) (hnd : noDirM kvs = true)
    (hc : Str.endsWith name kDotCustom = true ∨ docs (customOf name) = none) :
    compileNode docs rec [] ⟨name, []⟩ false (.map kvs) = { lit := .map kvs, slot := .map kvs, fl := {} } := by
  have hown : ownDeps (.map kvs) = {} := by simp [ownDeps, ownDepsM_noDir kvs hnd]
  unfold compileNode
  simp only [circular, List.any_nil, Bool.false_eq_true, if_false]
  rw [compileEntries_noDir rec _ name [] kvs {} hnd]
  simp only [List.nil_append, Bool.false_eq_true, if_false, Bool.not_true]
  unfold applyOwn
  simp only [hown, applyPatches, Bool.not_true, Bool.false_eq_true, if_false, List.isEmpty_nil, if_true]
  cases hap : autoPatchRef name (.map kvs) with
  | none => simp
  | some r =>
    have hr := autoPatch_resource hap
    have hcd : docs (toResourceId r.resource) = none := by
      rcases hc with hc | hc
      · simp [autoPatchRef, hc] at hap
      · rw [hr.1]; unfold customOf; rw [toResourceId_custom]; exact hc
    simp [applyPatchRef, resolveRef, hcd, hr.2, Fl.seq, Fl.swallow]

theorem closure_mono (docs : Docs) (f : Nat) (todo seen : List Str) {x : Str} (h : x ∈ seen) :
    x ∈ closure docs f todo seen := by
  fun_induction closure docs f todo seen with
  | case1 => exact h
  | case2 => exact h
  | case3 f n todo seen hc ih => exact ih h
  | case4 f n todo seen hc hd ih => exact ih (List.mem_cons_of_mem _ h)
  | case5 f n todo seen hc t hd ih => exact ih (List.mem_cons_of_mem _ h)

theorem closure_congr (docs docs' : Docs) (f : Nat) (todo seen : List Str) :
    (∀ n ∈ closure docs f todo seen, docs' n = docs n) → closure docs' f todo seen = closure docs f todo seen := by
  fun_induction closure docs f todo seen with
  | case1 => exact fun _ => rfl
  | case2 => exact fun _ => rfl
  | case3 f n todo seen hc ih =>
    intro h
    rw [closure, if_pos hc]
    exact ih h
  | case4 f n todo seen hc hd ih =>
    intro h
    rw [closure, if_neg hc, h n (closure_mono docs _ _ _ List.mem_cons_self), hd]
    exact ih h
  | case5 f n todo seen hc t hd ih =>
    intro h
    rw [closure, if_neg hc, h n (closure_mono docs _ _ _ List.mem_cons_self), hd]
    exact ih h

theorem restrict_congr (docs docs' : Docs) (s : List Str) (h : ∀ n ∈ s, docs' n = docs n) :
    restrict docs' s = restrict docs s := by
  funext n
  unfold restrict
  split
  · next hc => exact h n (List.contains_iff_mem.1 hc)
  · rfl

theorem closed_congr (docs docs' : Docs) (s : List Str) (h : ∀ n ∈ s, docs' n = docs n) :
    closed docs' s = closed docs s := by
  unfold closed
  rw [Bool.eq_iff_iff, List.all_eq_true, List.all_eq_true]
  exact forall₂_congr fun n hn => by rw [h n hn]

theorem isPrefixOf_refl (p : List Str) : isPrefixOf p p = true := by
  induction p with
  | nil => rfl
  | cons a as ih =>
    rw [isPrefixOf, beq_self_eq_true, ih]
    rfl

end RimeModel.C14
