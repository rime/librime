import RimeModel.C14.Doc
/-! C14 — a two-document set with an include, and a cyclic dependency map, used by the non-vacuity examples -/
namespace RimeModel.C14
namespace Ex
/-- `a` -/
def kA : Str := [97]
/-- `b.custom` -/
def kBc : Str := [98, 46, 99, 117, 115, 116, 111, 109]
/-- `a` = `{k: v, x: {__include: "b.custom:/", z: "1"}}`, `b.custom` = `{y: "2"}` -/
def docs : Docs := fun n =>
  if n == kA then
    some (.map [([107], .scalar [118]), ([120], .map [(kInclude, .scalar (kBc ++ [58, 47])), ([122], .scalar [49])])])
  else if n == kBc then some (.map [([121], .scalar [50])]) else none
/-- a cyclic dependency map: 0 → 1 → 0 -/
def cyc (n : Nat) : List Nat := if n = 0 then [1] else if n = 1 then [0] else []
end Ex
end RimeModel.C14
