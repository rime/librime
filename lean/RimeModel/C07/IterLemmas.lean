import RimeModel.C07.DyLemmas
import RimeModel.C07.LexLemmas
/-! C07: the chunk iterator yields every entry once, always from a best chunk -/
namespace RimeModel.C07
open RimeModel.C06

/-! ### `better` is a strict weak order on heads -/

theorem keyBetter_iff (a b : Bool × Nat × Dy) : keyBetter a b = true ↔
    Prod.Lex (fun x y => x = true ∧ y = false) (Prod.Lex (· < ·) (fun x y => Dy.lt y x = true)) a b := by
  obtain ⟨a1, a2, a3⟩ := a
  obtain ⟨b1, b2, b3⟩ := b
  simp only [keyBetter, Prod.lex_def]
  by_cases h1 : a1 = b1
  · subst h1
    by_cases h2 : a2 = b2
    · subst h2; simp
    · simp [h2]
  · cases a1 <;> cases b1 <;> simp at h1 ⊢

theorem keyBetter_asymm (a b : Bool × Nat × Dy) (h : keyBetter a b = true) : keyBetter b a = false := by
  rw [keyBetter_iff] at h
  rw [Bool.eq_false_iff, Ne, keyBetter_iff]
  refine lex_asymm h (fun _ _ h h' => by simp [h.1] at h') (fun _ _ h => lex_asymm h (fun _ _ => Nat.lt_asymm) ?_)
  intro x y h h'
  simp [Dy.lt_asymm _ _ h] at h'

theorem keyBetter_trans (a b c : Bool × Nat × Dy) (h1 : keyBetter a b = true) (h2 : keyBetter b c = true) :
    keyBetter a c = true := by
  rw [keyBetter_iff] at *
  exact lex_trans h1 h2 (fun _ _ _ h h' => ⟨h.1, h'.2⟩)
    (fun _ _ _ h h' => lex_trans h h' (fun _ _ _ => Nat.lt_trans) (fun _ _ _ h h' => Dy.lt_trans _ _ _ h' h))

theorem better_asymm (a b : Chunk) (h : better a b = true) : better b a = false := by
  unfold better at *
  cases ha : a.headKey with
  | none => simp [ha] at h
  | some ka =>
    cases hb : b.headKey with
    | none => simp
    | some kb =>
      simp only [ha, hb] at h ⊢
      exact keyBetter_asymm ka kb h

theorem better_trans (a b c : Chunk) (h1 : better a b = true) (h2 : better b c = true) : better a c = true := by
  unfold better at *
  cases ha : a.headKey with
  | none => simp [ha] at h1
  | some ka =>
    cases hb : b.headKey with
    | none => simp [hb] at h2
    | some kb =>
      cases hc : c.headKey with
      | none => simp
      | some kc =>
        simp only [ha, hb, hc] at h1 h2 ⊢
        exact keyBetter_trans ka kb kc h1 h2

theorem better_nt (x f0 f : Chunk) (h1 : better x f0 = false) (h2 : better f f0 = true) : better x f = false := by
  cases h : better x f
  · rfl
  · rw [better_trans x f f0 h h2] at h1; exact absurd h1 (by simp)

/-! ### `selectBest` (the libstdc++ `partial_sort(first, first+1, last)`) -/

theorem selectBest_perm (f : Chunk) (cs : List Chunk) : ((selectBest f cs).1 :: (selectBest f cs).2).Perm (f :: cs) := by
  induction cs generalizing f with
  | nil => exact List.Perm.refl _
  | cons c cs ih =>
    unfold selectBest
    split
    · -- r.1 :: f :: r.2  ~  f :: r.1 :: r.2  ~  f :: c :: cs
      exact List.Perm.trans (List.Perm.swap _ _ _) (List.Perm.cons f (ih c))
    · -- r.1 :: c :: r.2  ~  c :: r.1 :: r.2  ~  c :: f :: cs  ~  f :: c :: cs
      exact List.Perm.trans (List.Perm.swap _ _ _) (List.Perm.trans (List.Perm.cons c (ih f)) (List.Perm.swap _ _ _))

theorem selectBest_spec (f : Chunk) (cs : List Chunk) :
    ((selectBest f cs).1 = f ∨ better (selectBest f cs).1 f = true) ∧
    ∀ x ∈ (selectBest f cs).2, better x (selectBest f cs).1 = false := by
  induction cs generalizing f with
  | nil => exact ⟨Or.inl rfl, nofun⟩
  | cons c cs ih =>
    unfold selectBest
    split
    · rename_i hb
      obtain ⟨h1, h2⟩ := ih c
      have hbf : better (selectBest c cs).1 f = true := by
        rcases h1 with h | h
        · rw [h]; exact hb
        · exact better_trans _ _ _ h hb
      refine ⟨Or.inr hbf, fun x hx => ?_⟩
      rcases List.mem_cons.mp hx with rfl | hx
      · exact better_asymm _ _ hbf
      · exact h2 x hx
    · rename_i hb
      obtain ⟨h1, h2⟩ := ih f
      refine ⟨h1, fun x hx => ?_⟩
      rcases List.mem_cons.mp hx with rfl | hx
      · have hcf : better x f = false := Bool.eq_false_iff.mpr hb
        rcases h1 with h | h
        · rw [h]; exact hcf
        · exact better_nt _ _ _ hcf h
      · exact h2 x hx

/-! ### the iterator -/

def NoEmpty (cs : List Chunk) : Prop := ∀ c ∈ cs, c.entries ≠ []

/-- the chunk at `chunk_index_` is not beaten by any other remaining chunk -/
def HeadBest (cs : List Chunk) : Prop :=
  match cs with
  | [] => True
  | c :: rest => ∀ x ∈ rest, better x c = false

def allEntries (cs : List Chunk) : List (Entry Dy) := cs.flatMap (·.entries)

theorem peek_some {it : Iter} {ce : Chunk × Entry Dy} (h : it.peek = some ce) : ce.1 ∈ it.rest ∧ ce.2 ∈ ce.1.entries := by
  unfold Iter.peek at h
  split at h
  · exact absurd h nofun
  · rename_i c rest hr
    split at h
    · exact absurd h nofun
    · rename_i en ens hen
      cases h
      exact ⟨hr ▸ List.mem_cons_self, hen ▸ List.mem_cons_self⟩

theorem sort_rest_perm (it : Iter) : it.sort.rest.Perm it.rest := by
  unfold Iter.sort
  split
  · rename_i h; simp [h]
  · rename_i c cs h
    simp only [h]
    exact selectBest_perm c cs

theorem sort_headBest (it : Iter) : HeadBest it.sort.rest := by
  unfold Iter.sort
  split
  · rename_i h; simp [h, HeadBest]
  · rename_i c cs h
    simp only [HeadBest]
    exact (selectBest_spec c cs).2

theorem sort_done (it : Iter) : it.sort.done = it.done := by
  unfold Iter.sort
  split <;> rfl

theorem noEmpty_perm {a b : List Chunk} (h : a.Perm b) (hb : NoEmpty b) : NoEmpty a :=
  fun c hc => hb c (h.mem_iff.mp hc)

theorem allEntries_perm {a b : List Chunk} (h : a.Perm b) : (allEntries a).Perm (allEntries b) :=
  List.Perm.flatMap_right _ h

theorem totalEntries_eq (cs : List Chunk) : totalEntries cs = (allEntries cs).length :=
  List.length_flatMap.symm

theorem allEntries_cons (c : Chunk) (cs : List Chunk) : allEntries (c :: cs) = c.entries ++ allEntries cs :=
  List.flatMap_cons

theorem next_rest (it : Iter) (c : Chunk) (cs : List Chunk) (e : Entry Dy) (es : List (Entry Dy))
    (hr : it.rest = c :: cs) (he : c.entries = e :: es) :
    it.next.rest.Perm (if es.isEmpty then cs else { c with entries := es } :: cs) := by
  unfold Iter.next
  simp only [hr, he, List.drop_one, List.tail_cons]
  by_cases hes : es.isEmpty = true
  · simp only [hes, if_true]
    split
    · rename_i hx
      simp only [Iter.exhausted, List.isEmpty_iff] at hx
      simp [hx]
    · exact sort_rest_perm _
  · simp only [hes, Bool.false_eq_true, if_false]
    exact sort_rest_perm _

theorem next_headBest (it : Iter) : HeadBest it.next.rest := by
  unfold Iter.next
  split
  · rename_i h; simp [h, HeadBest]
  · rename_i c cs h
    simp only
    split
    · split
      · rename_i hx
        simp only [Iter.exhausted, List.isEmpty_iff] at hx
        simp [hx, HeadBest]
      · exact sort_headBest _
    · exact sort_headBest _

theorem next_mem {it : Iter} {c x : Chunk} {cs : List Chunk} {e : Entry Dy} {es : List (Entry Dy)}
    (hr : it.rest = c :: cs) (he : c.entries = e :: es) (hx : x ∈ it.next.rest) :
    x ∈ cs ∨ (x = { c with entries := es } ∧ es ≠ []) := by
  have hx := (next_rest it c cs e es hr he).mem_iff.mp hx
  by_cases hes : es.isEmpty = true
  · rw [if_pos hes] at hx
    exact Or.inl hx
  · rw [if_neg hes] at hx
    exact (List.mem_cons.mp hx).symm.imp id (fun h => ⟨h, fun h0 => hes (h0 ▸ rfl)⟩)

theorem next_allEntries {it : Iter} {c : Chunk} {cs : List Chunk} {e : Entry Dy} {es : List (Entry Dy)}
    (hr : it.rest = c :: cs) (he : c.entries = e :: es) : (allEntries it.next.rest).Perm (es ++ allEntries cs) := by
  refine (allEntries_perm (next_rest it c cs e es hr he)).trans ?_
  by_cases hes : es.isEmpty = true
  · rw [if_pos hes, List.isEmpty_iff.mp hes]
    exact List.Perm.refl _
  · rw [if_neg hes]
    exact List.Perm.refl _

theorem rest_cases (it : Iter) (hne : NoEmpty it.rest) :
    (it.rest = [] ∧ it.peek = none) ∨ ∃ c cs e es, it.rest = c :: cs ∧ c.entries = e :: es ∧ it.peek = some (c, e) := by
  unfold Iter.peek
  cases hr : it.rest with
  | nil => exact Or.inl ⟨rfl, rfl⟩
  | cons c cs =>
    cases he : c.entries with
    | nil => exact absurd he (hne c (hr ▸ List.mem_cons_self))
    | cons e es => exact Or.inr ⟨c, cs, e, es, rfl, he, by simp only [he]⟩

theorem peek_ne_none {it : Iter} (hne : NoEmpty it.rest) (h : it.rest ≠ []) : it.peek ≠ none := by
  rcases rest_cases it hne with ⟨hr, _⟩ | ⟨_, _, _, _, _, _, hp⟩
  · exact absurd hr h
  · rw [hp]
    nofun

theorem next_noEmpty (it : Iter) (h : NoEmpty it.rest) : NoEmpty it.next.rest := by
  rcases rest_cases it h with ⟨hr, _⟩ | ⟨c, cs, e, es, hr, he, _⟩
  · simp [Iter.next, hr, NoEmpty]
  · intro x hx
    rcases next_mem hr he hx with hx | ⟨rfl, hes⟩
    · exact h x (hr ▸ List.mem_cons_of_mem _ hx)
    · exact hes

theorem drain_perm (fuel : Nat) : ∀ (it : Iter), NoEmpty it.rest → totalEntries it.rest ≤ fuel →
    ((Iter.drain fuel it).map (·.2)).Perm (allEntries it.rest) := by
  induction fuel with
  | zero =>
    intro it _ hf
    rw [totalEntries_eq] at hf
    rw [List.eq_nil_of_length_eq_zero (Nat.le_zero.mp hf)]
    exact List.Perm.refl _
  | succ fuel ih =>
    intro it hne hf
    rcases rest_cases it hne with ⟨hr, hp⟩ | ⟨c, cs, e, es, hr, he, hp⟩
    · rw [Iter.drain, hp, hr]
      exact List.Perm.refl _
    · have hn := next_allEntries hr he
      rw [totalEntries_eq, hr, allEntries_cons, he, List.cons_append, List.length_cons, ← hn.length_eq,
        ← totalEntries_eq] at hf
      rw [Iter.drain, hp, hr, allEntries_cons, he]
      exact List.Perm.cons e ((ih it.next (next_noEmpty it hne) (Nat.le_of_succ_le_succ hf)).trans hn)

/-! ### order of what the iterator yields -/

/-- the part of the chunk order that does not depend on weights: exact before predictive, then shorter
remaining code -/
def staticBetter (a b : Chunk) : Bool :=
  if a.isExact != b.isExact then a.isExact else decide (a.remaining.length < b.remaining.length)

/-- same chunk up to how far it has been consumed -/
def SameChunk (a b : Chunk) : Prop :=
  a.code = b.code ∧ a.matching = b.matching ∧ a.remaining = b.remaining ∧ a.cred = b.cred

theorem SameChunk.refl (a : Chunk) : SameChunk a a := ⟨rfl, rfl, rfl, rfl⟩

theorem sameChunk_isExact {a b : Chunk} (h : SameChunk a b) : a.isExact = b.isExact := by
  rw [Chunk.isExact, Chunk.isExact, h.1, h.2.1]

theorem staticBetter_congr_left {a a' : Chunk} (h : SameChunk a a') (b : Chunk) : staticBetter a b = staticBetter a' b := by
  obtain ⟨h1, h2, h3, _⟩ := h
  simp [staticBetter, Chunk.isExact, h1, h2, h3]

theorem staticBetter_congr_right (a : Chunk) {b b' : Chunk} (h : SameChunk b b') : staticBetter a b = staticBetter a b' := by
  obtain ⟨h1, h2, h3, _⟩ := h
  simp [staticBetter, Chunk.isExact, h1, h2, h3]

theorem staticBetter_irrefl (a : Chunk) : staticBetter a a = false := by simp [staticBetter]

theorem static_of_not_better (x c : Chunk) (hx : x.entries ≠ []) (hc : c.entries ≠ []) (h : better x c = false) :
    staticBetter x c = false := by
  unfold better at h
  cases ex : x.entries with
  | nil => exact absurd ex hx
  | cons e1 r1 =>
    cases ec : c.entries with
    | nil => exact absurd ec hc
    | cons e2 r2 =>
      simp only [Chunk.headKey, ex, ec, keyBetter] at h
      unfold staticBetter
      by_cases h1 : (x.isExact != c.isExact) = true
      · simp only [h1, if_true] at h ⊢; exact h
      · simp only [h1, Bool.false_eq_true, if_false] at h ⊢
        by_cases h2 : (x.remaining.length != c.remaining.length) = true
        · simp only [h2, if_true] at h; exact h
        · have : x.remaining.length = c.remaining.length := by simpa using h2
          simp [this]

theorem drain_mem_same (fuel : Nat) : ∀ (it : Iter) (ce : Chunk × Entry Dy), NoEmpty it.rest →
    ce ∈ Iter.drain fuel it → ∃ x ∈ it.rest, SameChunk ce.1 x := by
  induction fuel with
  | zero => exact fun _ _ _ h => absurd h List.not_mem_nil
  | succ fuel ih =>
    intro it ce hne h
    rcases rest_cases it hne with ⟨_, hp⟩ | ⟨c, cs, e, es, hr, he, hp⟩
    · rw [Iter.drain, hp] at h
      exact absurd h List.not_mem_nil
    · rw [Iter.drain, hp] at h
      rw [hr]
      rcases List.mem_cons.mp h with rfl | h
      · exact ⟨c, List.mem_cons_self, SameChunk.refl c⟩
      · obtain ⟨x, hx, hs⟩ := ih it.next ce (next_noEmpty it hne) h
        rcases next_mem hr he hx with hx | ⟨rfl, _⟩
        · exact ⟨x, List.mem_cons_of_mem _ hx, hs⟩
        · exact ⟨c, List.mem_cons_self, hs⟩

/-- the weight-independent part of the order holds from the first entry on as soon as the chunk in front has a
minimal (exactness, remaining length) rank — no initial `Sort` needed for that -/
def HeadStatic (cs : List Chunk) : Prop :=
  match cs with
  | [] => True
  | c :: rest => ∀ x ∈ rest, staticBetter x c = false

theorem headStatic_of_headBest (cs : List Chunk) (hne : NoEmpty cs) (hb : HeadBest cs) : HeadStatic cs := by
  cases cs with
  | nil => trivial
  | cons c rest =>
    intro x hx
    exact static_of_not_better x c (hne x (by simp [hx])) (hne c (by simp)) (hb x hx)

theorem drain_static_order (fuel : Nat) : ∀ (it : Iter), NoEmpty it.rest → HeadStatic it.rest →
    (Iter.drain fuel it).Pairwise (fun a b => staticBetter b.1 a.1 = false) := by
  induction fuel with
  | zero => exact fun _ _ _ => List.Pairwise.nil
  | succ fuel ih =>
    intro it hne hb
    rcases rest_cases it hne with ⟨_, hp⟩ | ⟨c, cs, e, es, hr, he, hp⟩
    · rw [Iter.drain, hp]
      exact List.Pairwise.nil
    · rw [Iter.drain, hp]
      have hne' := next_noEmpty it hne
      refine List.pairwise_cons.mpr ⟨fun ce hce => ?_, ih it.next hne' (headStatic_of_headBest _ hne' (next_headBest it))⟩
      obtain ⟨x, hx, hs⟩ := drain_mem_same fuel it.next ce hne' hce
      rw [staticBetter_congr_left hs]
      rcases next_mem hr he hx with hx | ⟨rfl, _⟩
      · exact (hr ▸ hb : HeadStatic (c :: cs)) x hx
      · exact staticBetter_irrefl c

end RimeModel.C07
