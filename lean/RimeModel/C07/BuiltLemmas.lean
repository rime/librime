import RimeModel.C07.CompleteLemmas
import RimeModel.C06.FindLemmas
import RimeModel.C06.TreeLemmas
/-! C07 on a table built by C06's `build`: the cursor can follow every row's code and finds its page -/
namespace RimeModel.C07
open RimeModel.C06

def node2Of (S : List (CRow Dy) → List (CRow Dy)) (p : List Nat) (rs : List (CRow Dy)) (k : Nat) : Node2 Dy :=
  { key := k
    entries := (S (pageAt (p ++ [k]) rs)).map toEntry
    next := if (pageBelow (p ++ [k]) rs).isEmpty then none else some (build3 S (p ++ [k]) rs) }

def node3Of (S : List (CRow Dy) → List (CRow Dy)) (p : List Nat) (rs : List (CRow Dy)) (k : Nat) : Node3 Dy :=
  { key := k
    entries := (S (pageAt (p ++ [k]) rs)).map toEntry
    tail := if (pageBelow (p ++ [k]) rs).isEmpty then none else some ((S (pageBelow (p ++ [k]) rs)).map toLong) }

theorem build2_eq (S : List (CRow Dy) → List (CRow Dy)) (p : List Nat) (rs : List (CRow Dy)) :
    build2 S p rs = (childKeys p rs).map (node2Of S p rs) := rfl

theorem build3_eq (S : List (CRow Dy) → List (CRow Dy)) (p : List Nat) (rs : List (CRow Dy)) :
    build3 S p rs = (childKeys p rs).map (node3Of S p rs) := rfl

section
variable (S : List (CRow Dy) → List (CRow Dy)) (n : Nat) (rs : List (CRow Dy))

theorem findNode_of_mem {ks : List Nat} (hs : Ascending natLt ks) {k : Nat} (hk : k ∈ ks) :
    ∃ i, findNode ks k = some i ∧ ks[i]? = some k := by
  obtain ⟨i, hl, hi⟩ := List.mem_iff_getElem.mp hk
  exact ⟨i, (findNode_iff ks k hs i).mpr ⟨hl, (getD_of_lt hl 0).trans hi⟩, (List.getElem?_eq_getElem hl).trans (congrArg some hi)⟩

theorem findNode_map {α : Type} (key : α → Nat) (f : Nat → α) (hkey : ∀ k, key (f k) = k) {ks : List Nat}
    (hs : Ascending natLt ks) {k : Nat} (hk : k ∈ ks) :
    (findNode ((ks.map f).map key) k).bind (fun i => (ks.map f)[i]?) = some (f k) := by
  have hkeys : (ks.map f).map key = ks := by
    rw [List.map_map]
    exact (List.map_congr_left (fun k _ => hkey k)).trans (List.map_id _)
  obtain ⟨i, hf, hi⟩ := findNode_of_mem hs hk
  rw [hkeys, hf]
  simp [hi]

theorem findIn2_build2 (p : List Nat) (k : Nat)
    (hk : k ∈ childKeys p rs) : findIn2 (build2 S p rs) k = some (node2Of S p rs k) :=
  findNode_map Node2.key (node2Of S p rs) (fun _ => rfl) (ascending_sortDedup natLt_strict _) hk

theorem findIn3_build3 (p : List Nat) (k : Nat)
    (hk : k ∈ childKeys p rs) : findIn3 (build3 S p rs) k = some (node3Of S p rs k) :=
  findNode_map Node3.key (node3Of S p rs) (fun _ => rfl) (ascending_sortDedup natLt_strict _) hk

theorem head_build (a : Nat) (ha : a < n) :
    (build S n rs).head[a]? = some { entries := (S (pageAt [a] rs)).map toEntry,
                                     next := if (pageBelow [a] rs).isEmpty then none else some (build2 S [a] rs) } := by
  simp [build, ha]

/-- a row whose code properly extends `p` by `k`: `k` is a child key of `p` and the page below `p` is not empty -/
theorem child_of_row (r : CRow Dy) (hr : r ∈ rs) (p : List Nat) (k : Nat) (t : List Nat)
    (hc : r.code = p ++ k :: t) : k ∈ childKeys p rs ∧ (pageBelow p rs).isEmpty = false := by
  have hb : r ∈ pageBelow p rs := by
    simp only [pageBelow, List.mem_filter, Bool.and_eq_true, decide_eq_true_eq, List.isPrefixOf_iff_prefix]
    exact ⟨hr, ⟨k :: t, hc.symm⟩, by rw [hc]; simp⟩
  constructor
  · unfold childKeys
    rw [mem_sortDedup natLt_strict]
    refine List.mem_map.mpr ⟨r, hb, ?_⟩
    rw [hc]
    simp [List.getD]
  · cases h : pageBelow p rs with
    | nil => rw [h] at hb; simp at hb
    | cons x xs => rfl

theorem page_nonempty (hS : ∀ l, (S l).Perm l) (r : CRow Dy)
    (hr : r ∈ rs) : ((S (pageAt r.code rs)).map toEntry).isEmpty = false := by
  have hm : r ∈ S (pageAt r.code rs) := (hS _).mem_iff.mpr (by simp [pageAt, hr])
  cases h : S (pageAt r.code rs) with
  | nil => rw [h] at hm; simp at hm
  | cons x xs => simp

/-- what the cursor finds for a row of the built table whose code has one to three syllables -/
def Finds (t : Table) (c : List Nat) (y : Nat) (es : List (Entry Dy)) : Prop :=
  Followable t c ∧ ∀ q : TQ, q.indexCode = c → ∃ acc, access t q y = some acc ∧ acc.exhausted = false ∧ acc.span = .entries es

theorem finds1 (hS : ∀ l, (S l).Perm l) (r : CRow Dy)
    (hr : r ∈ rs) (a : Nat) (hc : r.code = [a]) (ha : a < n) :
    Finds (build S n rs) [] a ((S (pageAt r.code rs)).map toEntry) := by
  refine ⟨fun k hk => by simp at hk, ?_⟩
  intro q hq
  have hne := page_nonempty S rs hS r hr
  refine ⟨⟨[a], .entries ((S (pageAt [a] rs)).map toEntry), q.back⟩, ?_, ?_, by rw [hc]⟩
  · simp [access, hq, head_build S n rs a ha]
  · rw [hc] at hne; simpa [Accessor.exhausted] using hne

theorem trunk2_build (a : Nat) (ha : a < n)
    (hb : (pageBelow [a] rs).isEmpty = false) : trunk2 (build S n rs) a = some (build2 S [a] rs) := by
  simp [trunk2, head_build S n rs a ha, hb]

theorem finds2 (hS : ∀ l, (S l).Perm l) (r : CRow Dy)
    (hr : r ∈ rs) (a b : Nat) (hc : r.code = [a, b]) (ha : a < n) :
    Finds (build S n rs) [a] b ((S (pageAt r.code rs)).map toEntry) := by
  obtain ⟨hk, hb⟩ := child_of_row rs r hr [a] b [] (by simpa using hc)
  have ht2 := trunk2_build S n rs a ha hb
  refine ⟨?_, ?_⟩
  · intro k hk'
    have : k = 0 := Nat.lt_one_iff.mp hk'
    subst this
    simp [canAdvance, ht2]
  · intro q hq
    have hne := page_nonempty S rs hS r hr
    refine ⟨⟨[a, b], .entries ((S (pageAt [a, b] rs)).map toEntry), q.back⟩, ?_, ?_, by rw [hc]⟩
    · simp [access, hq, ht2, findIn2_build2 S rs [a] b hk, node2Of]
    · rw [hc] at hne; simpa [Accessor.exhausted] using hne

theorem trunk3_build (a b : Nat) (ha : a < n)
    (hb1 : (pageBelow [a] rs).isEmpty = false) (hk : b ∈ childKeys [a] rs) (hb2 : (pageBelow [a, b] rs).isEmpty = false) :
    trunk3 (build S n rs) a b = some (build3 S [a, b] rs) := by
  simp [trunk3, trunk2_build S n rs a ha hb1, findIn2_build2 S rs [a] b hk, node2Of, hb2]

theorem finds3 (hS : ∀ l, (S l).Perm l) (r : CRow Dy)
    (hr : r ∈ rs) (a b c : Nat) (hc : r.code = [a, b, c]) (ha : a < n) :
    Finds (build S n rs) [a, b] c ((S (pageAt r.code rs)).map toEntry) := by
  obtain ⟨hk1, hb1⟩ := child_of_row rs r hr [a] b [c] (by simpa using hc)
  obtain ⟨hk2, hb2⟩ := child_of_row rs r hr [a, b] c [] (by simpa using hc)
  have ht2 := trunk2_build S n rs a ha hb1
  have ht3 := trunk3_build S n rs a b ha hb1 hk1 hb2
  refine ⟨?_, ?_⟩
  · intro k hk'
    have : k = 0 ∨ k = 1 := Nat.le_one_iff_eq_zero_or_eq_one.mp (Nat.le_of_lt_succ hk')
    rcases this with rfl | rfl
    · simp [canAdvance, ht2]
    · simp [canAdvance, ht3]
  · intro q hq
    have hne := page_nonempty S rs hS r hr
    refine ⟨⟨[a, b, c], .entries ((S (pageAt [a, b, c] rs)).map toEntry), q.back⟩, ?_, ?_, by rw [hc]⟩
    · simp [access, hq, ht3, findIn3_build3 S rs [a, b] c hk2, node3Of]
    · rw [hc] at hne; simpa [Accessor.exhausted] using hne

theorem finds (hS : ∀ l, (S l).Perm l) (r : CRow Dy)
    (hr : r ∈ rs) (c : List Nat) (y : Nat) (hc : r.code = c ++ [y]) (hl : c.length < indexDepth) (hh : r.code.getD 0 0 < n) :
    Finds (build S n rs) c y ((S (pageAt r.code rs)).map toEntry) := by
  rw [hc] at hh
  rcases c with _ | ⟨a, _ | ⟨b, _ | ⟨d, c⟩⟩⟩
  · exact finds1 S n rs hS r hr y hc hh
  · exact finds2 S n rs hS r hr a y hc hh
  · exact finds3 S n rs hS r hr a b y hc hh
  · exact absurd hl (Nat.not_lt.mpr (Nat.le_add_left 3 _))

end

end RimeModel.C07
