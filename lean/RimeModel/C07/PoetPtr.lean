import RimeModel.C07.PoetLemmas
/-!
# C07 — the poet with `predecessor` POINTERS, and why the immutable lines of `Poet.lean` lose nothing

In poet.cc a `Line` holds `const Line* predecessor`; with the `DynamicProgramming` strategy that pointer is the address
of the map slot `states[start_pos]` (`update(state)` passes the slot itself, `new_line{&candidate, …}`).  A line's
components are found by following the pointers through the map AS IT IS WHEN THEY ARE FOLLOWED (`compare_` with
`LeftAssociateCompare` does it during the loop, `MakeSentenceWithStrategy` at the end).  If a slot were overwritten after
a successor had been built on it, the successor's components would silently change.

`PLine` is the `Line` object as stored (`pred` = the position whose slot `predecessor` points at), `resolve` follows the
pointers, `pPoetStates` is the loop on such objects.  `pointer_poet_agrees`: on a graph whose start positions increase
(`std::map` order) and whose edges go forward, every slot of the pointer version resolves — at the end and at every
comparison on the way — to exactly the line the immutable version holds: a slot is written only by edges from smaller
start positions, all of which are done when the slot is first read.
-/
namespace RimeModel.C07
open RimeModel.C06

variable {W : Type}

/-- a `Line` object as the code stores it: `predecessor` (as the position of the slot it points at), `entry`, `end_pos`,
`weight` -/
structure PLine (W : Type) where
  pred : Option Nat
  entry : Option (PEntry W)
  endPos : Nat
  weight : W

/-- `Line::empty()`: `!predecessor && !entry` -/
def PLine.isEmpty (l : PLine W) : Bool := l.pred.isNone && l.entry.isNone

/-- `Line::kEmpty` / a value-initialised `Line` -/
def PLine.nil (ops : WOps W) : PLine W := ⟨none, none, 0, ops.zero⟩

abbrev PStates (W : Type) := List (Nat × PLine W)

def pFind (st : PStates W) (p : Nat) : Option (PLine W) := (st.find? (fun kv => kv.1 == p)).map (·.2)

def pSet : PStates W → Nat → PLine W → PStates W
  | [], p, l => [(p, l)]
  | kv :: rest, p, l => if kv.1 == p then (p, l) :: rest else kv :: pSet rest p l

/-- `Line::components()`: follow `predecessor` through the map until an empty line; `fuel` bounds the number of hops.
The result is the chain, last word first. -/
def resolve (st : PStates W) : Nat → PLine W → Line W
  | 0, _ => []
  | fuel + 1, l =>
    match l.entry, l.pred with
    | some e, some p =>
      ⟨e, l.endPos, l.weight⟩ :: (match pFind st p with
        | some l' => resolve st fuel l'
        | none => [])
    | _, _ => []

/-- the loop body on stored objects; `compare_` looks at the lines through the map `st` -/
def pRelax (ops : WOps W) (cmp : Line W → Line W → Bool) (st : PStates W) (fuel start : Nat) (candWeight : W) (endPos : Nat)
    (best : PLine W) (e : PEntry W) : PLine W :=
  if best.isEmpty || cmp (resolve st fuel best) (resolve st fuel ⟨some start, some e, endPos, ops.add candWeight (evaluate ops e.weight)⟩)
  then ⟨some start, some e, endPos, ops.add candWeight (evaluate ops e.weight)⟩ else best

def pProcessEdge (ops : WOps W) (cmp : Line W → Line W → Bool) (total fuel start : Nat) (st : PStates W)
    (ev : Nat × List (PEntry W)) : PStates W :=
  if start == 0 && ev.1 == total then st
  else
    match pFind st start with            -- `candidate` is a reference to the slot of the start position
    | none => st
    | some cand =>
      pSet st ev.1 (ev.2.foldl (pRelax ops cmp st fuel start cand.weight ev.1) ((pFind st ev.1).getD (PLine.nil ops)))

def pProcessStart (ops : WOps W) (cmp : Line W → Line W → Bool) (total fuel : Nat) (st : PStates W)
    (sv : Nat × List (Nat × List (PEntry W))) : PStates W :=
  match pFind st sv.1 with
  | none => st
  | some _ => sv.2.foldl (pProcessEdge ops cmp total fuel sv.1) st

def pPoetStates (ops : WOps W) (cmp : Line W → Line W → Bool) (g : PGraph W) (total fuel : Nat) : PStates W :=
  g.foldl (pProcessStart ops cmp total fuel) [(0, PLine.nil ops)]

/-- the line `MakeSentenceWithStrategy` reads the components of -/
def pPoetLine (ops : WOps W) (cmp : Line W → Line W → Bool) (g : PGraph W) (total fuel : Nat) : Option (Line W) :=
  match pFind (pPoetStates ops cmp g total fuel) total with
  | none => none
  | some l => if l.isEmpty then none else some (resolve (pPoetStates ops cmp g total fuel) fuel l)

/-! ## the map -/

theorem pFind_pSet (st : PStates W) (p q : Nat) (l : PLine W) :
    pFind (pSet st p l) q = if q = p then some l else pFind st q :=
  find_set pSet (fun _ _ => rfl) (fun _ _ _ _ => rfl) st p q l

theorem resolve_nil (ops : WOps W) (st : PStates W) (fuel : Nat) : resolve st fuel (PLine.nil ops) = [] := by
  cases fuel <;> rfl

/-- `Chain ops st n l ln`: following `predecessor` from the stored line `l` through the map `st` leads to slots at
positions below `n`, each below the one before, down to an empty line, and collects the line `ln` -/
inductive Chain (ops : WOps W) (st : PStates W) : Nat → PLine W → Line W → Prop
  | nil {n : Nat} : Chain ops st n (PLine.nil ops) []
  | cons {n s : Nat} {l l' : PLine W} {e : PEntry W} {ln : Line W} : l.entry = some e → l.pred = some s → s < n →
      pFind st s = some l' → Chain ops st s l' ln → Chain ops st n l (⟨e, l.endPos, l.weight⟩ :: ln)

section chain
variable {ops : WOps W} {st : PStates W} {n : Nat} {l : PLine W} {ln : Line W}

theorem chain_resolve (h : Chain ops st n l ln) : ∀ f, n ≤ f → resolve st f l = ln := by
  induction h with
  | nil => exact fun f _ => resolve_nil ops st f
  | @cons n s l l' e ln he hp hs hf _ ih =>
    intro f hn
    obtain ⟨f, rfl⟩ := Nat.exists_eq_succ_of_ne_zero (Nat.ne_of_gt (Nat.lt_of_lt_of_le (Nat.zero_lt_of_lt hs) hn))
    rw [resolve, he, hp]
    simp only [hf]
    rw [ih f (Nat.le_of_lt_succ (Nat.lt_of_lt_of_le hs hn))]

theorem chain_weight (h : Chain ops st n l ln) : lineWeight ops ln = l.weight := by
  cases h <;> rfl

theorem chain_isEmpty (h : Chain ops st n l ln) : ln.isEmpty = l.isEmpty := by
  cases h with
  | nil => rfl
  | cons he hp => simp [PLine.isEmpty, he, hp]

theorem chain_mono {m : Nat} (h : Chain ops st n l ln) (hm : n ≤ m) : Chain ops st m l ln := by
  cases h with
  | nil => exact .nil
  | cons he hp hs hf hc => exact .cons he hp (Nat.lt_of_lt_of_le hs hm) hf hc

theorem chain_congr {st' : PStates W} (h : Chain ops st n l ln) (hsame : ∀ s, s < n → pFind st' s = pFind st s) :
    Chain ops st' n l ln := by
  induction h with
  | nil => exact .nil
  | cons he hp hs hf _ ih =>
    exact .cons he hp hs ((hsame _ hs).trans hf) (ih (fun s' hs' => hsame s' (Nat.lt_trans hs' hs)))

end chain

/-- the pointer map `pst` and the immutable map `st` have the same slots, and the chain of a slot is the line the
immutable map holds there; the chain of slot `p` runs below `p` and, when every start position processed so far is
`≤ b`, at or below `b`: a slot written later cannot be on it -/
def Agree (ops : WOps W) (pst : PStates W) (st : States W) (b : Nat) : Prop :=
  ∀ p, (pFind pst p = none ∧ stFind st p = none) ∨
    ∃ l ln n, pFind pst p = some l ∧ stFind st p = some ln ∧ n ≤ p ∧ n ≤ b + 1 ∧ Chain ops pst n l ln

theorem agree_mono {ops : WOps W} {pst : PStates W} {st : States W} {b b' : Nat} (h : Agree ops pst st b) (hb : b ≤ b') :
    Agree ops pst st b' := fun p =>
  (h p).imp id (fun ⟨l, ln, n, h1, h2, h3, h4, h5⟩ => ⟨l, ln, n, h1, h2, h3, Nat.le_trans h4 (Nat.succ_le_succ hb), h5⟩)

theorem agree_sim {ops : WOps W} {pst : PStates W} {st : States W} {b fuel : Nat} (h : Agree ops pst st b) (hb : b + 1 ≤ fuel)
    (p : Nat) : stFind st p = (pFind pst p).map (resolve pst fuel) := by
  rcases h p with ⟨h1, h2⟩ | ⟨l, ln, n, h1, h2, _, h4, h5⟩
  · rw [h1, h2]; rfl
  · rw [h1, h2, Option.map_some, chain_resolve h5 fuel (Nat.le_trans h4 hb)]

section loop
variable (ops : WOps W) (cmp : Line W → Line W → Bool) (total fuel start : Nat) (hfuel : start + 1 ≤ fuel)
include hfuel

/-- the slot of the start position holds `cand`, whose chain is `candLn`, and the maps agree -/
def AgreeAt (pst : PStates W) (st : States W) (cand : PLine W) (candLn : Line W) : Prop :=
  Agree ops pst st start ∧ pFind pst start = some cand ∧ Chain ops pst start cand candLn

theorem relax_chain {pst : PStates W} {cand : PLine W} {candLn : Line W} (hc : pFind pst start = some cand)
    (hcl : Chain ops pst start cand candLn) (e : Nat) (x : PEntry W) {best : PLine W} {bestLn : Line W}
    (h : Chain ops pst (start + 1) best bestLn) :
    Chain ops pst (start + 1) (pRelax ops cmp pst fuel start cand.weight e best x) (relax ops cmp candLn e bestLn x) := by
  -- the new line, looked at through the map, is the immutable new line
  have hnew : Chain ops pst (start + 1) ⟨some start, some x, e, ops.add cand.weight (evaluate ops x.weight)⟩
      (extendLine ops candLn x e) := by
    rw [extendLine, chain_weight hcl]
    exact .cons rfl rfl (Nat.lt_succ_self _) hc hcl
  unfold pRelax relax
  rw [chain_resolve h fuel hfuel, chain_resolve hnew fuel hfuel, chain_isEmpty h]
  split
  · exact hnew
  · exact h

theorem processEdge_agree {pst : PStates W} {st : States W} {cand : PLine W} {candLn : Line W}
    (ev : Nat × List (PEntry W)) (hse : start < ev.1) (h : AgreeAt ops start pst st cand candLn) :
    AgreeAt ops start (pProcessEdge ops cmp total fuel start pst ev) (processEdge ops cmp total start candLn st ev) cand candLn := by
  obtain ⟨h, hc, hcl⟩ := h
  unfold pProcessEdge processEdge
  split
  · exact ⟨h, hc, hcl⟩
  · rw [hc]
    simp only
    have htarget : Chain ops pst (start + 1) ((pFind pst ev.1).getD (PLine.nil ops)) ((stFind st ev.1).getD []) := by
      rcases h ev.1 with ⟨h1, h2⟩ | ⟨l, ln, n, h1, h2, _, h4, h5⟩
      · rw [h1, h2]; exact .nil
      · rw [h1, h2]; exact chain_mono h5 h4
    have hr := foldl_sim (Chain ops pst (start + 1)) _ _ ev.2
      (fun x _ _ _ hb => relax_chain ops cmp fuel start hfuel hc hcl ev.1 x hb) _ _ htarget
    generalize ev.2.foldl (pRelax ops cmp pst fuel start cand.weight ev.1) ((pFind pst ev.1).getD (PLine.nil ops)) = r at hr
    generalize ev.2.foldl (relax ops cmp candLn ev.1) ((stFind st ev.1).getD []) = rl at hr
    have hsame : ∀ s, s < start + 1 → pFind (pSet pst ev.1 r) s = pFind pst s := fun s hs => by
      rw [pFind_pSet, if_neg (Nat.ne_of_lt (Nat.lt_of_le_of_lt (Nat.le_of_lt_succ hs) hse))]
    refine ⟨fun p => ?_, (hsame start (Nat.lt_succ_self _)).trans hc, chain_congr hcl (fun s hs => hsame s (Nat.lt_succ_of_lt hs))⟩
    rw [pFind_pSet, stFind_stSet]
    by_cases hp : p = ev.1
    · rw [if_pos hp, if_pos hp]
      exact Or.inr ⟨r, rl, start + 1, rfl, rfl, hp ▸ hse, Nat.le_refl _, chain_congr hr hsame⟩
    · rw [if_neg hp, if_neg hp]
      exact (h p).imp id (fun ⟨l, ln, n, h1, h2, h3, h4, h5⟩ =>
        ⟨l, ln, n, h1, h2, h3, h4, chain_congr h5 (fun s hs => hsame s (Nat.lt_of_lt_of_le hs h4))⟩)

theorem processStart_agree {pst : PStates W} {st : States W} {b : Nat} (sv : Nat × List (Nat × List (PEntry W)))
    (hsv : sv.1 = start) (hb : b ≤ start) (hev : ∀ ev ∈ sv.2, start < ev.1) (h : Agree ops pst st b) :
    Agree ops (pProcessStart ops cmp total fuel pst sv) (processStart ops cmp total st sv) start := by
  subst hsv
  unfold pProcessStart processStart
  rcases h sv.1 with ⟨h1, h2⟩ | ⟨l, ln, n, h1, h2, h3, _, h5⟩
  · rw [h1, h2]; exact agree_mono h hb
  · rw [h1, h2]
    exact (foldl_sim (AgreeAt ops sv.1 · · l ln) _ _ sv.2
      (fun ev hm _ _ => processEdge_agree ops cmp total fuel sv.1 hfuel ev (hev ev hm)) pst st
      ⟨agree_mono h hb, h1, chain_mono h5 h3⟩).1

end loop

theorem foldl_processStart_agree (ops : WOps W) (cmp : Line W → Line W → Bool) (total fuel : Nat) (g : PGraph W) :
    ∀ (b : Nat) (pst : PStates W) (st : States W), g.Sorted → g.Forward → b + 1 ≤ fuel → (∀ sv ∈ g, b ≤ sv.1) →
    (∀ sv ∈ g, sv.1 + 1 ≤ fuel) → Agree ops pst st b →
    ∃ b', b' + 1 ≤ fuel ∧ Agree ops (g.foldl (pProcessStart ops cmp total fuel) pst) (g.foldl (processStart ops cmp total) st) b' := by
  induction g with
  | nil => exact fun b _ _ _ _ hb _ _ h => ⟨b, hb, h⟩
  | cons sv g ih =>
    intro b pst st hs hf _ hbg hg h
    have hp := List.pairwise_cons.mp hs
    have hsv : sv ∈ sv :: g := List.mem_cons_self
    exact ih sv.1 _ _ hp.2 (fun x hx => hf x (List.mem_cons_of_mem _ hx)) (hg sv hsv) (fun x hx => Nat.le_of_lt (hp.1 x hx))
      (fun x hx => hg x (List.mem_cons_of_mem _ hx))
      (processStart_agree ops cmp total fuel sv.1 (hg sv hsv) sv rfl (hbg sv hsv) (hf sv hsv) h)

/-- the two versions of the loop hold the same lines at the end, and return the same line; `fuel` need only exceed the
start positions -/
theorem pointer_poet_agrees (ops : WOps W) (cmp : Line W → Line W → Bool) (g : PGraph W) (total fuel : Nat)
    (hs : g.Sorted) (hf : g.Forward) (h0 : 0 < fuel) (hfuel : ∀ sv ∈ g, sv.1 + 1 ≤ fuel) :
    (∀ p, stFind (poetStates ops cmp g total) p = (pFind (pPoetStates ops cmp g total fuel) p).map (resolve (pPoetStates ops cmp g total fuel) fuel)) ∧
    pPoetLine ops cmp g total fuel = poetLine ops cmp g total := by
  have hinit : Agree ops [(0, PLine.nil ops)] [(0, [])] 0 := fun p => by
    by_cases hp : p = 0
    · exact Or.inr ⟨_, _, 0, (find_init _ p).trans (if_pos hp), (find_init _ p).trans (if_pos hp), Nat.zero_le _,
        Nat.zero_le _, .nil⟩
    · exact Or.inl ⟨(find_init _ p).trans (if_neg hp), (find_init _ p).trans (if_neg hp)⟩
  obtain ⟨b, hb, h⟩ := foldl_processStart_agree ops cmp total fuel g 0 _ _ hs hf h0 (fun _ _ => Nat.zero_le _) hfuel hinit
  refine ⟨agree_sim h hb, ?_⟩
  unfold pPoetLine poetLine
  rcases h total with ⟨h1, h2⟩ | ⟨l, ln, n, h1, h2, _, h4, h5⟩
  · rw [pPoetStates, poetStates, h1, h2]
  · rw [pPoetStates, poetStates, h1, h2]
    simp only
    rw [chain_resolve h5 fuel (Nat.le_trans h4 hb), chain_isEmpty h5]

end RimeModel.C07
