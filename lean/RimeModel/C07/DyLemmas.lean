import RimeModel.C07.Model
/-! C07: the exact order on dyadic numbers is a strict weak order -/
namespace RimeModel.C07

/-- `a` scaled to exponent `e0 ≤ a.e` -/
def Dy.scaled (a : Dy) (e0 : Int) : Int := a.m * 2 ^ (a.e - e0).toNat

theorem two_pow_pos (n : Nat) : (0 : Int) < 2 ^ n := Int.pow_pos (by omega)

theorem Dy.scaled_shift (a : Dy) (e e0 : Int) (h1 : e0 ≤ e) (h2 : e ≤ a.e) :
    a.scaled e0 = a.scaled e * 2 ^ (e - e0).toNat := by
  unfold Dy.scaled
  have : a.e - e + (e - e0) = a.e - e0 := by omega
  rw [Int.mul_assoc, ← Int.pow_add, ← Int.toNat_add (Int.sub_nonneg.mpr h2) (Int.sub_nonneg.mpr h1), this]

/-- comparison at the common exponent equals comparison at any smaller exponent -/
theorem Dy.lt_iff_scaled (a b : Dy) (e0 : Int) (ha : e0 ≤ a.e) (hb : e0 ≤ b.e) :
    Dy.lt a b = true ↔ a.scaled e0 < b.scaled e0 := by
  have hmin1 : min a.e b.e ≤ a.e := Int.min_le_left _ _
  have hmin2 : min a.e b.e ≤ b.e := Int.min_le_right _ _
  have hmin0 : e0 ≤ min a.e b.e := Int.le_min.mpr ⟨ha, hb⟩
  rw [Dy.scaled_shift a (min a.e b.e) e0 hmin0 hmin1, Dy.scaled_shift b (min a.e b.e) e0 hmin0 hmin2]
  simp only [Dy.lt, decide_eq_true_eq]
  have hp := two_pow_pos (min a.e b.e - e0).toNat
  constructor
  · intro h; exact Int.mul_lt_mul_of_pos_right h hp
  · intro h; exact Int.lt_of_mul_lt_mul_right h (Int.le_of_lt hp)

/-- an exponent all three can be scaled to -/
def min3 (a b c : Dy) : Int := min a.e (min b.e c.e)

theorem min3_le (a b c : Dy) : min3 a b c ≤ a.e ∧ min3 a b c ≤ b.e ∧ min3 a b c ≤ c.e :=
  ⟨Int.min_le_left _ _, Int.le_trans (Int.min_le_right _ _) (Int.min_le_left _ _),
    Int.le_trans (Int.min_le_right _ _) (Int.min_le_right _ _)⟩

theorem Dy.lt_irrefl (a : Dy) : Dy.lt a a = false := by
  simp [Dy.lt]

theorem Dy.lt_trans (a b c : Dy) (h1 : Dy.lt a b = true) (h2 : Dy.lt b c = true) : Dy.lt a c = true := by
  obtain ⟨ha, hb, hc⟩ := min3_le a b c
  rw [Dy.lt_iff_scaled a b _ ha hb] at h1
  rw [Dy.lt_iff_scaled b c _ hb hc] at h2
  rw [Dy.lt_iff_scaled a c _ ha hc]
  omega

theorem Dy.lt_asymm (a b : Dy) (h : Dy.lt a b = true) : Dy.lt b a = false := by
  cases h2 : Dy.lt b a
  · rfl
  · have := Dy.lt_trans a b a h h2
    simp [Dy.lt_irrefl] at this

theorem Dy.not_lt_trans (a b c : Dy) (h1 : Dy.lt a b = false) (h2 : Dy.lt b c = false) : Dy.lt a c = false := by
  obtain ⟨ha, hb, hc⟩ := min3_le a b c
  have n1 : ¬ (Dy.lt a b = true) := by simp [h1]
  have n2 : ¬ (Dy.lt b c = true) := by simp [h2]
  rw [Dy.lt_iff_scaled a b _ ha hb] at n1
  rw [Dy.lt_iff_scaled b c _ hb hc] at n2
  have : ¬ (Dy.lt a c = true) := by
    rw [Dy.lt_iff_scaled a c _ ha hc]
    omega
  simpa using this

end RimeModel.C07
