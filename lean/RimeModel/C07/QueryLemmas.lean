import RimeModel.C07.MatchLemmas
import RimeModel.C06.Lemmas
/-! C07: `Table::Query` only reports codes the graph spells; the four rounds of the walk (`roundInput`, `roundOutput`,
`query_forall`) and membership in `lookupTable` / `chunksOf`, which the completeness lemmas use as well -/
namespace RimeModel.C07
open RimeModel.C06

/-- keys of the recorded `std::map`s are distinct -/
def Graph.KeysNodup (g : Graph) : Prop := ∀ start idx, g.indexAt start = some idx → (idx.map (·.1)).Nodup

theorem lookupSyll_of_mem (idx : List (Nat × List Edge)) (sp : Nat × List Edge) (hnd : (idx.map (·.1)).Nodup) (h : sp ∈ idx) :
    lookupSyll idx sp.1 = some sp.2 := by
  induction idx with
  | nil => exact absurd h List.not_mem_nil
  | cons x xs ih =>
    rw [List.map_cons, List.nodup_cons] at hnd
    rw [lookupSyll, List.find?_cons]
    rcases List.mem_cons.mp h with rfl | h
    · rw [beq_self_eq_true]
      rfl
    · rw [beq_false_of_ne (fun e : x.1 = sp.1 => hnd.1 (e ▸ List.mem_map_of_mem h))]
      exact ih hnd.2 h

theorem spells_append {g : Graph} {c1 c2 : List Nat} {s m e : Nat} (h1 : Spells g c1 s m) (h2 : Spells g c2 m e) :
    Spells g (c1 ++ c2) s e := by
  induction h1 with
  | nil _ => exact h2
  | cons ha hb _ ih => exact Spells.cons ha hb (ih h2)

theorem access_indexCode (t : Table) (q : TQ) (s : Nat) (a : Accessor) (h : access t q s = some a) :
    q.level ≤ indexDepth ∧ a.indexCode = if q.level = indexDepth then q.indexCode else q.indexCode ++ [s] := by
  unfold access at h
  unfold TQ.level
  split at h
  · rename_i hq
    obtain ⟨_, _, rfl⟩ := Option.map_eq_some_iff.mp h
    rw [hq]; exact ⟨(by decide : 0 ≤ 3), rfl⟩
  · rename_i hq
    simp only [Option.map_eq_some_iff, Option.bind_eq_some_iff] at h
    obtain ⟨_, _, _, _, rfl⟩ := h
    rw [hq]; exact ⟨(by decide : 1 ≤ 3), rfl⟩
  · rename_i hq
    simp only [Option.map_eq_some_iff, Option.bind_eq_some_iff] at h
    obtain ⟨_, _, _, _, rfl⟩ := h
    rw [hq]; exact ⟨(by decide : 2 ≤ 3), rfl⟩
  · rename_i hq
    obtain ⟨_, _, rfl⟩ := Option.map_eq_some_iff.mp h
    rw [hq]; exact ⟨(by decide : 3 ≤ 3), rfl⟩
  · exact absurd h nofun

/-- what holds of every state in the queue -/
def StateOk (g : Graph) (start : Nat) (st : Nat × TQ) : Prop :=
  Spells g st.2.indexCode start st.1 ∧ st.1 < g.interpLen

theorem expand_fst (t : Table) (g : Graph) {st : Nat × TQ} {em : Emission} (hem : em ∈ (expand t g st).1) :
    ∃ idx, g.indexAt st.1 = some idx ∧ em.2.exhausted = false ∧
      ((st.2.level = indexDepth ∧ access t st.2 0 = some em.2 ∧ em.1 = st.1) ∨
       (st.2.level ≠ indexDepth ∧ ∃ sp ∈ idx, access t st.2 sp.1 = some em.2 ∧ ∃ p ∈ sp.2, p.endPos = em.1)) := by
  unfold expand at hem
  cases hi : g.indexAt st.1 with
  | none => rw [hi] at hem; exact absurd hem List.not_mem_nil
  | some idx =>
    rw [hi] at hem
    simp only at hem
    refine ⟨idx, rfl, ?_⟩
    -- either way the results are `if a.exhausted then [] else l` with `l` made of pairs that carry `a`
    have key : ∀ (a : Accessor) (l : List Emission), em ∈ (if a.exhausted = true then [] else l) →
        a.exhausted = false ∧ em ∈ l := by
      intro a l h
      by_cases hx : a.exhausted = true
      · rw [if_pos hx] at h; exact absurd h List.not_mem_nil
      · rw [if_neg hx] at h; exact ⟨Bool.eq_false_iff.mpr hx, h⟩
    by_cases hl : (st.2.level == indexDepth) = true
    · rw [if_pos hl] at hem
      cases ha : access t st.2 0 with
      | none => rw [ha] at hem; exact absurd hem List.not_mem_nil
      | some acc =>
        rw [ha] at hem
        obtain ⟨hx, h⟩ := key acc _ hem
        cases List.mem_singleton.mp h
        exact ⟨hx, Or.inl ⟨beq_iff_eq.mp hl, rfl, rfl⟩⟩
    · rw [if_neg hl] at hem
      simp only [List.flatMap_map, List.mem_flatMap] at hem
      obtain ⟨sp, hsp, hem⟩ := hem
      cases ha : access t st.2 sp.1 with
      | none => rw [ha] at hem; exact absurd hem List.not_mem_nil
      | some acc =>
        rw [ha] at hem
        obtain ⟨hx, h⟩ := key acc _ hem
        obtain ⟨p, hp, rfl⟩ := List.mem_map.mp h
        exact ⟨hx, Or.inr ⟨fun e => hl (beq_iff_eq.mpr e), sp, hsp, ha, p, hp, rfl⟩⟩

theorem expand_sound (t : Table) (g : Graph) (hk : g.KeysNodup) (start : Nat) (st : Nat × TQ) (hst : StateOk g start st) :
    (∀ em ∈ (expand t g st).1, Spells g em.2.indexCode start em.1) ∧
    (∀ st' ∈ (expand t g st).2, StateOk g start st') := by
  -- an edge of the graph at the state's position extends the state's path
  have hedge : ∀ idx, g.indexAt st.1 = some idx → ∀ sp ∈ idx, ∀ p ∈ sp.2,
      Spells g (st.2.indexCode ++ [sp.1]) start p.endPos := fun idx hi sp hsp p hp =>
    spells_append hst.1
      (.cons hst.2 ⟨idx, sp.2, p, hi, lookupSyll_of_mem idx sp (hk _ _ hi) hsp, hp, rfl⟩ (.nil _))
  constructor
  · intro em hem
    obtain ⟨idx, hi, _, ⟨hl, ha, he⟩ | ⟨hl, sp, hsp, ha, p, hp, he⟩⟩ := expand_fst t g hem
    · rw [(access_indexCode t st.2 0 em.2 ha).2, if_pos hl, he]
      exact hst.1
    · rw [(access_indexCode t st.2 sp.1 em.2 ha).2, if_neg hl, ← he]
      exact hedge idx hi sp hsp p hp
  · intro st' hst'
    unfold expand at hst'
    cases hi : g.indexAt st.1 with
    | none => rw [hi] at hst'; exact absurd hst' List.not_mem_nil
    | some idx =>
      rw [hi] at hst'
      simp only at hst'
      by_cases hl : (st.2.level == indexDepth) = true
      · rw [if_pos hl] at hst'
        cases ha : access t st.2 0 <;> rw [ha] at hst' <;> exact absurd hst' List.not_mem_nil
      · rw [if_neg hl] at hst'
        simp only [List.flatMap_map, List.mem_flatMap, List.mem_filterMap] at hst'
        obtain ⟨sp, hsp, p, hp, hst'⟩ := hst'
        by_cases hc : (decide (p.endPos < g.interpLen) && canAdvance t st.2.indexCode sp.1) = true
        · rw [if_pos hc] at hst'
          cases hst'
          exact ⟨hedge idx hi sp hsp p hp, of_decide_eq_true (Bool.and_eq_true _ _ ▸ hc).1⟩
        · rw [if_neg hc] at hst'; exact absurd hst' nofun

/-- the queue content processed in round `k` -/
def roundInput (t : Table) (g : Graph) (start : Nat) : Nat → List (Nat × TQ)
  | 0 => [(start, TQ.init)]
  | k + 1 => (round t g (roundInput t g start k)).2

/-- the results pushed while round `k` is processed -/
def roundOutput (t : Table) (g : Graph) (start k : Nat) : List Emission := (round t g (roundInput t g start k)).1

theorem mem_round {α : Type} (sts : List (Nat × TQ)) (f : List Emission × List (Nat × TQ) → List α) (x : α) (t : Table) (g : Graph) :
    x ∈ (sts.map (expand t g)).flatMap f ↔ ∃ st ∈ sts, x ∈ f (expand t g st) := by
  simp only [List.mem_flatMap, List.mem_map]
  exact ⟨fun ⟨_, ⟨st, hst, e⟩, h⟩ => ⟨st, hst, e ▸ h⟩, fun ⟨st, hst, h⟩ => ⟨_, ⟨st, hst, rfl⟩, h⟩⟩

theorem query_eq_some {t : Table} {g : Graph} {start : Nat} {ems : List Emission} : query t g start = some ems ↔
    start < g.interpLen ∧ ems ≠ [] ∧
      ems = roundOutput t g start 0 ++ roundOutput t g start 1 ++ roundOutput t g start 2 ++ roundOutput t g start 3 := by
  have hq : query t g start = if g.interpLen ≤ start then none else
      if (roundOutput t g start 0 ++ roundOutput t g start 1 ++ roundOutput t g start 2 ++ roundOutput t g start 3).isEmpty
      then none
      else some (roundOutput t g start 0 ++ roundOutput t g start 1 ++ roundOutput t g start 2 ++ roundOutput t g start 3) := rfl
  rw [hq]
  generalize roundOutput t g start 0 ++ roundOutput t g start 1 ++ roundOutput t g start 2 ++ roundOutput t g start 3 = all
  by_cases hs : g.interpLen ≤ start
  · rw [if_pos hs]
    exact ⟨nofun, fun h => absurd h.1 (Nat.not_lt.mpr hs)⟩
  · rw [if_neg hs]
    cases all with
    | nil => exact ⟨nofun, fun h => absurd h.2.2 h.2.1⟩
    | cons a l =>
      rw [List.isEmpty_cons, if_neg Bool.false_ne_true, Option.some.injEq]
      exact ⟨fun h => ⟨Nat.lt_of_not_le hs, h ▸ List.cons_ne_nil _ _, h.symm⟩, fun h => h.2.2.symm⟩

theorem query_emissions (t : Table) (g : Graph) (start : Nat) (ems : List Emission) (h : query t g start = some ems) :
    ems = roundOutput t g start 0 ++ roundOutput t g start 1 ++ roundOutput t g start 2 ++ roundOutput t g start 3 :=
  (query_eq_some.mp h).2.2

theorem query_some_of_expand {t : Table} {g : Graph} {start k : Nat} {st : Nat × TQ} {em : Emission} (hs : start < g.interpLen)
    (hk : k ≤ 3) (hst : st ∈ roundInput t g start k) (hem : em ∈ (expand t g st).1) :
    ∃ ems, query t g start = some ems ∧ em ∈ ems := by
  have hem : em ∈ roundOutput t g start k := (mem_round _ (·.1) em t g).mpr ⟨st, hst, hem⟩
  have hall : em ∈ roundOutput t g start 0 ++ roundOutput t g start 1 ++ roundOutput t g start 2 ++ roundOutput t g start 3 := by
    have : k = 0 ∨ k = 1 ∨ k = 2 ∨ k = 3 := by omega
    rcases this with rfl | rfl | rfl | rfl
    · exact List.mem_append_left _ (List.mem_append_left _ (List.mem_append_left _ hem))
    · exact List.mem_append_left _ (List.mem_append_left _ (List.mem_append_right _ hem))
    · exact List.mem_append_left _ (List.mem_append_right _ hem)
    · exact List.mem_append_right _ hem
  exact ⟨_, query_eq_some.mpr ⟨hs, List.ne_nil_of_mem hall, rfl⟩, hall⟩

theorem query_forall {t : Table} {g : Graph} {start : Nat} {ems : List Emission} (h : query t g start = some ems)
    (P : Emission → Prop) (I : Nat × TQ → Prop) (h0 : start < g.interpLen → I (start, TQ.init))
    (hstep : ∀ st, I st → (∀ em ∈ (expand t g st).1, P em) ∧ ∀ st' ∈ (expand t g st).2, I st') : ∀ em ∈ ems, P em := by
  obtain ⟨hs, _, rfl⟩ := query_eq_some.mp h
  have hin : ∀ k, ∀ st ∈ roundInput t g start k, I st := by
    intro k
    induction k with
    | zero => intro st hst; cases List.mem_singleton.mp hst; exact h0 hs
    | succ k ih =>
      intro st' hst'
      obtain ⟨st, hst, h⟩ := (mem_round _ (·.2) st' t g).mp hst'
      exact (hstep st (ih st hst)).2 st' h
  have hout : ∀ k, ∀ em ∈ roundOutput t g start k, P em := by
    intro k em hem
    obtain ⟨st, hst, h⟩ := (mem_round _ (·.1) em t g).mp hem
    exact (hstep st (hin k st hst)).1 em h
  intro em hem
  simp only [List.mem_append] at hem
  rcases hem with ((h | h) | h) | h <;> exact hout _ em h

theorem query_spells (t : Table) (g : Graph) (hk : g.KeysNodup) (start : Nat) (ems : List Emission)
    (h : query t g start = some ems) : ∀ em ∈ ems, Spells g em.2.indexCode start em.1 :=
  query_forall h _ (StateOk g start) (fun hs => ⟨Spells.nil _, hs⟩) (expand_sound t g hk start)

theorem mem_valuesAt_iff {α : Type} (l : List (Nat × α)) (k : Nat) (v : α) : v ∈ valuesAt l k ↔ (k, v) ∈ l := by
  simp only [valuesAt, List.mem_map, List.mem_filter, beq_iff_eq]
  exact ⟨fun ⟨kv, ⟨h1, h2⟩, h3⟩ => by rw [← h2, ← h3]; exact h1, fun h => ⟨(k, v), ⟨h, rfl⟩, rfl⟩⟩

theorem mem_keysOf {α : Type} (l : List (Nat × α)) (kv : Nat × α) (h : kv ∈ l) : kv.1 ∈ keysOf l :=
  (mem_sortDedup natLt_strict _ _).mpr (List.mem_map_of_mem h)

theorem mem_lookupTable {t : Table} {g : Graph} {start : Nat} {predict : Bool} {ic : Dy} {kc : Nat × Chunk} :
    kc ∈ lookupTable t g start predict ic ↔
      ∃ ems, query t g start = some ems ∧ ∃ e a, (e, a) ∈ ems ∧ kc ∈ chunksOf g predict ic e a := by
  unfold lookupTable
  cases query t g start with
  | none => simp
  | some ems =>
    simp only [List.mem_flatMap, mem_valuesAt_iff, Option.some.injEq, exists_eq_left']
    exact ⟨fun ⟨e, _, a, ha, hc⟩ => ⟨e, a, ha, hc⟩, fun ⟨e, a, ha, hc⟩ => ⟨e, mem_keysOf _ _ ha, a, ha, hc⟩⟩

theorem mem_chunksOf {g : Graph} {predict : Bool} {ic : Dy} {e : Nat} {a : Accessor} {kc : Nat × Chunk} :
    kc ∈ chunksOf g predict ic e a ↔
      (∃ es, a.span = .entries es ∧ kc = (e, ⟨a.indexCode, es, [], a.indexCode.length, Dy.add ic a.cred⟩)) ∨
      (∃ es, a.span = .tail es ∧ ∃ le ∈ es, ∃ m, matchExtra g predict le.extra 0 e = some m ∧
        kc = (m.2, ⟨a.indexCode ++ le.extra, [le.entry], [], a.indexCode.length + m.1, Dy.add ic a.cred⟩)) := by
  unfold chunksOf
  cases a.span with
  | entries es => simp
  | tail es =>
    simp only [List.mem_filterMap, reduceCtorEq, false_and, exists_false, false_or, Span.tail.injEq, exists_eq_left']
    refine exists_congr fun le => and_congr_right fun _ => ?_
    cases matchExtra g predict le.extra 0 e with
    | none => simp
    | some m => simp [eq_comm]

theorem lookupTable_sound (t : Table) (g : Graph) (hk : g.KeysNodup) (start : Nat) (ic : Dy) :
    ∀ kc ∈ lookupTable t g start false ic, Spells g kc.2.code start kc.1 := by
  intro kc hkc
  obtain ⟨ems, hq, e, a, hem, hc⟩ := mem_lookupTable.mp hkc
  have hsp := query_spells t g hk start ems hq (e, a) hem
  rcases mem_chunksOf.mp hc with ⟨es, _, rfl⟩ | ⟨es, _, le, _, m, hm, rfl⟩
  · exact hsp
  · exact spells_append hsp (matchExtra_sound g le.extra 0 e m.1 m.2 hm).2

end RimeModel.C07
