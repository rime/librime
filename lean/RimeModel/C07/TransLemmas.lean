import RimeModel.C07.IterLemmas
import RimeModel.C07.ListLemmas
import RimeModel.C07.Translation
import RimeModel.C06.Lemmas
/-! C07: order of the translations, `DistinctTranslation` -/
namespace RimeModel.C07
open RimeModel.C06

/-- the phrase part of `scriptTranslation` -/
def scriptPhrases (lk : List (Nat × Iter)) (start : Nat) : List Cand :=
  lk.reverse.flatMap fun kv =>
    (drainAll kv.2).map fun ce =>
      { type := if ce.1.isPredictive then "completion" else "phrase", start := start, endPos := start + kv.1, text := ce.2.text }

theorem sortDedup_lt (l : List Nat) : (sortDedup natLt l).Pairwise (· < ·) :=
  (ascending_sortDedup natLt_strict l).imp of_decide_eq_true

theorem lookup_keys_ascending (t : Table) (g : Graph) (start : Nat) (predict : Bool) (ic : Dy) :
    ((lookup t g start predict ic).map (·.1)).Pairwise (fun a b => a < b) := by
  unfold lookup
  rw [List.map_map]
  exact (List.map_id _).symm ▸ sortDedup_lt _

/-- blocks of candidates that end at `start + key`, listed by descending key -/
theorem descending_blocks {α : Type} (key : α → Nat) (f : α → List Cand) (start : Nat) (l : List α)
    (hf : ∀ a, ∀ c ∈ f a, c.endPos = start + key a) (hk : (l.map key).Pairwise (· < ·)) :
    (l.reverse.flatMap f).Pairwise (fun a b => b.endPos ≤ a.endPos) := by
  rw [List.pairwise_flatMap, List.pairwise_reverse]
  constructor
  · intro a _
    exact List.pairwise_of_forall_mem_list fun x hx y hy => Nat.le_of_eq ((hf a y hy).trans (hf a x hx).symm)
  · refine (List.pairwise_map.mp hk).imp fun {a b} hab x hx y hy => ?_
    rw [hf b x hx, hf a y hy]
    exact Nat.add_le_add_left (Nat.le_of_lt hab) start

theorem scriptPhrases_order (lk : List (Nat × Iter)) (start : Nat)
    (hk : (lk.map (·.1)).Pairwise (fun a b => a < b)) :
    (scriptPhrases lk start).Pairwise (fun a b => b.endPos ≤ a.endPos) := by
  refine descending_blocks (·.1) _ start lk (fun kv c hc => ?_) hk
  obtain ⟨_, _, rfl⟩ := List.mem_map.mp hc
  rfl

theorem scriptPhrases_types (lk : List (Nat × Iter)) (start : Nat) :
    ∀ c ∈ scriptPhrases lk start, (c.type = "phrase" ∨ c.type = "completion") ∧ c.start = start := by
  intro c hc
  simp only [scriptPhrases, List.mem_flatMap, List.mem_map] at hc
  obtain ⟨kv, _, ce, _, rfl⟩ := hc
  refine ⟨?_, rfl⟩
  cases ce.1.isPredictive
  · exact Or.inl rfl
  · exact Or.inr rfl

/-! ### `DistinctTranslation` -/

theorem distinct_sublist (seen : List Bytes) (l : List Cand) : (distinct seen l).Sublist l := by
  induction l generalizing seen with
  | nil => exact List.Sublist.refl _
  | cons c cs ih =>
    unfold distinct
    split
    · exact (ih seen).cons _
    · exact (ih _).cons_cons _

theorem distinct_spec (seen : List Bytes) (l : List Cand) :
    ((distinct seen l).map (·.text)).Nodup ∧ ∀ c ∈ distinct seen l, c.text ∉ seen := by
  induction l generalizing seen with
  | nil => exact ⟨List.nodup_nil, nofun⟩
  | cons x xs ih =>
    unfold distinct
    by_cases hx : seen.contains x.text = true
    · rw [if_pos hx]
      exact ih seen
    · rw [if_neg hx]
      obtain ⟨ih1, ih2⟩ := ih (x.text :: seen)
      refine ⟨List.nodup_cons.mpr ⟨fun hm => ?_, ih1⟩, fun c h hc => ?_⟩
      · obtain ⟨c, hc, hct⟩ := List.mem_map.mp hm
        exact ih2 c hc (hct ▸ List.mem_cons_self)
      · rcases List.mem_cons.mp h with rfl | h
        · exact hx (List.contains_iff_mem.mpr hc)
        · exact ih2 c h (List.mem_cons_of_mem _ hc)

theorem distinct_complete (seen : List Bytes) (l : List Cand) : ∀ c ∈ l, c.text ∉ seen →
    ∃ c' ∈ distinct seen l, c'.text = c.text := by
  induction l generalizing seen with
  | nil => exact fun _ h => absurd h List.not_mem_nil
  | cons x xs ih =>
    intro c h hs
    unfold distinct
    by_cases hx : seen.contains x.text = true
    · rw [if_pos hx]
      rcases List.mem_cons.mp h with rfl | h
      · exact absurd (List.contains_iff_mem.mp hx) hs
      · exact ih seen c h hs
    · rw [if_neg hx]
      rcases List.mem_cons.mp h with rfl | h
      · exact ⟨c, List.mem_cons_self, rfl⟩
      · by_cases hc : c.text = x.text
        · exact ⟨x, List.mem_cons_self, hc.symm⟩
        · obtain ⟨c', hc', ht⟩ := ih (x.text :: seen) c h (fun hm => (List.mem_cons.mp hm).elim hc hs)
          exact ⟨c', List.mem_cons_of_mem _ hc', ht⟩

/-! ### words by code -/

theorem mem_lookupWords {t : Table} {syl : List Bytes} {n : Nat} {keys : List PrismKey} {c : Chunk}
    (h : c ∈ lookupWords t syl n keys) : c.entries ≠ [] ∧ ∃ k ∈ keys, (¬ n < k.length → c.remaining = []) := by
  simp only [lookupWords, List.mem_flatMap, List.mem_filterMap] at h
  obtain ⟨k, hk, st, _, hc⟩ := h
  by_cases h0 : 0 < st.2
  · rw [if_pos h0] at hc; exact absurd hc nofun
  · rw [if_neg h0] at hc
    cases ha : access t TQ.init st.1 with
    | none => rw [ha] at hc; exact absurd hc nofun
    | some a =>
      rw [ha] at hc
      simp only at hc
      cases hx : a.exhausted with
      | true => rw [hx, if_pos rfl] at hc; exact absurd hc nofun
      | false =>
        rw [hx, if_neg Bool.false_ne_true] at hc
        cases hs : a.span with
        | tail es => rw [hs] at hc; exact absurd hc nofun
        | entries es =>
          rw [hs] at hc
          cases hc
          refine ⟨fun (he : es = []) => ?_, k, hk, fun hn => ?_⟩
          · rw [Accessor.exhausted, hs, he] at hx; exact absurd hx (by decide)
          · simp [hn]

theorem lookupWords_noEmpty (t : Table) (syl : List Bytes) (n : Nat) (keys : List PrismKey) :
    NoEmpty (lookupWords t syl n keys) :=
  fun _ hc => (mem_lookupWords hc).1

theorem lookupWords_remaining (t : Table) (syl : List Bytes) (n : Nat) (keys : List PrismKey)
    (hk : ∀ k ∈ keys, k.length = n) : ∀ c ∈ lookupWords t syl n keys, c.remaining = [] := by
  intro c hc
  obtain ⟨k, hkm, h⟩ := (mem_lookupWords hc).2
  exact h (hk k hkm ▸ Nat.lt_irrefl _)

end RimeModel.C07
