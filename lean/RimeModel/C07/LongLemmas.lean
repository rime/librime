import RimeModel.C07.CompleteLemmas
import RimeModel.C06.Lemmas
/-! C07: a long-code entry is listed at its farthest match -/
namespace RimeModel.C07
open RimeModel.C06

variable (t : Table) (g : Graph)

theorem tail_emission (st : Nat × TQ) (a b c : Nat) (hc : st.2.indexCode = [a, b, c])
    (idx : List (Nat × List Edge)) (hi : g.indexAt st.1 = some idx)
    (es : List (LongEntry Dy)) (ht : tailOf t a b c = some es) (hne : es ≠ []) :
    (st.1, (⟨[a, b, c], .tail es, st.2.back⟩ : Accessor)) ∈ (expand t g st).1 := by
  unfold expand
  have hl : (st.2.level == indexDepth) = true := by simp [TQ.level, hc, indexDepth]
  simp only [hi, hl, if_true]
  have ha : access t st.2 0 = some ⟨[a, b, c], .tail es, st.2.back⟩ := by
    simp [access, hc, ht]
  simp only [ha]
  have hx : (⟨[a, b, c], .tail es, st.2.back⟩ : Accessor).exhausted = false := by
    cases es with
    | nil => exact absurd rfl hne
    | cons x xs => simp [Accessor.exhausted]
  simp [hx]

theorem long_chunk (hfw : g.Forward) (start : Nat) (ic : Dy) (ems : List Emission)
    (hq : query t g start = some ems) (m : Nat) (a b c : Nat) (es : List (LongEntry Dy)) (cr : Dy)
    (hem : (m, (⟨[a, b, c], .tail es, cr⟩ : Accessor)) ∈ ems) (le : LongEntry Dy) (hle : le ∈ es) (e' : Nat)
    (hs : Spells g le.extra m e') :
    ∃ kc ∈ lookupTable t g start false ic, kc.2.code = [a, b, c] ++ le.extra ∧ kc.2.entries = [le.entry] ∧
      kc.2.matching = kc.2.code.length ∧ e' ≤ kc.1 := by
  obtain ⟨d, e, hm, hle'⟩ := matchExtra_farthest g hfw le.extra 0 m e' hs
  have hd := (matchExtra_sound g le.extra 0 m d e hm).1
  refine ⟨_, mem_lookupTable.mpr ⟨ems, hq, m, _, hem, mem_chunksOf.mpr (Or.inr ⟨es, rfl, le, hle, (d, e), hm, rfl⟩)⟩,
    rfl, rfl, ?_, hle'⟩
  rw [hd, Nat.zero_add, List.length_append]

end RimeModel.C07
