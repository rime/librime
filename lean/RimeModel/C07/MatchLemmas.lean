import RimeModel.C07.Spells
import RimeModel.C07.ListLemmas
/-! C07: `match_extra_code` is sound and finds the farthest match -/
namespace RimeModel.C07

theorem matchExtra_cons (g : Graph) (predict : Bool) (s : Nat) (rest : List Nat) (depth pos : Nat) :
    matchExtra g predict (s :: rest) depth pos =
      if g.interpLen ≤ pos then (if predict then some (depth, g.interpLen) else none)
      else match g.indexAt pos with
        | none => none
        | some idx =>
          match lookupSyll idx s with
          | none => none
          | some props => props.foldl (bestStep (fun p => matchExtra g predict rest (depth + 1) p.endPos)) none := by
  rw [matchExtra]
  rfl

theorem foldl_best_some (f : Edge → Option (Nat × Nat)) (props : List Edge) (best : Option (Nat × Nat)) (m : Nat × Nat)
    (h : props.foldl (bestStep f) best = some m) : best = some m ∨ ∃ p ∈ props, f p = some m := by
  rw [← h]
  refine foldl_invariant (fun b => best = b ∨ ∃ p ∈ props, f p = b) _ props best (Or.inl rfl) (fun b hb p hp => ?_)
  unfold bestStep
  cases hfp : f p with
  | none => exact hb
  | some m' =>
    dsimp only
    split
    · exact Or.inr ⟨p, hp, hfp⟩
    · exact hb

/-- end position of the running best (0 for "failed") -/
def bestEnd (b : Option (Nat × Nat)) : Nat := (b.map (·.2)).getD 0

theorem bestStep_end_ge (f : Edge → Option (Nat × Nat)) (best : Option (Nat × Nat)) (p : Edge) :
    bestEnd best ≤ bestEnd (bestStep f best p) ∧ (∀ m, f p = some m → m.2 ≤ bestEnd (bestStep f best p)) := by
  unfold bestStep
  cases f p with
  | none => exact ⟨Nat.le_refl _, nofun⟩
  | some m' =>
    dsimp only
    by_cases h : (best.map (·.2)).getD 0 < m'.2
    · rw [if_pos h]
      exact ⟨Nat.le_of_lt h, fun m hm => Option.some.inj hm ▸ Nat.le_refl _⟩
    · rw [if_neg h]
      exact ⟨Nat.le_refl _, fun m hm => Option.some.inj hm ▸ Nat.le_of_not_lt h⟩

theorem foldl_best_end (f : Edge → Option (Nat × Nat)) (props : List Edge) (best : Option (Nat × Nat)) (p : Edge)
    (hp : p ∈ props) (m : Nat × Nat) (hm : f p = some m) : m.2 ≤ bestEnd (props.foldl (bestStep f) best) := by
  -- the best after `p` ends at least as far as `p`'s match, and later steps never go back
  obtain ⟨pre, post, rfl⟩ := List.append_of_mem hp
  rw [List.foldl_append, List.foldl_cons]
  exact foldl_invariant (fun b => m.2 ≤ bestEnd b) _ post _ ((bestStep_end_ge f _ p).2 m hm)
    (fun b h q _ => Nat.le_trans h (bestStep_end_ge f b q).1)

theorem spells_le {g : Graph} (hf : g.Forward) {code : List Nat} {s e : Nat} (h : Spells g code s e) : s ≤ e := by
  induction h with
  | nil _ => exact Nat.le_refl _
  | cons _ he _ ih => exact Nat.le_trans (Nat.le_of_lt (hf _ _ _ he)) ih

theorem matchExtra_sound (g : Graph) (extra : List Nat) : ∀ (depth pos d e : Nat),
    matchExtra g false extra depth pos = some (d, e) → d = depth + extra.length ∧ Spells g extra pos e := by
  induction extra with
  | nil =>
    intro depth pos d e h
    cases h
    exact ⟨rfl, Spells.nil _⟩
  | cons s rest ih =>
    intro depth pos d e h
    rw [matchExtra_cons] at h
    by_cases hp : g.interpLen ≤ pos
    · rw [if_pos hp] at h; exact absurd h nofun
    · rw [if_neg hp] at h
      cases hi : g.indexAt pos with
      | none => rw [hi] at h; exact absurd h nofun
      | some idx =>
        simp only [hi] at h
        cases hl : lookupSyll idx s with
        | none => rw [hl] at h; exact absurd h nofun
        | some props =>
          simp only [hl] at h
          rcases foldl_best_some _ props none (d, e) h with h0 | ⟨p, hp', hf⟩
          · exact absurd h0 nofun
          · obtain ⟨hd, hs⟩ := ih (depth + 1) p.endPos d e hf
            exact ⟨by rw [hd, List.length_cons, Nat.add_assoc, Nat.add_comm 1], Spells.cons (Nat.lt_of_not_le hp) ⟨idx, props, p, hi, hl, hp', rfl⟩ hs⟩

theorem matchExtra_farthest (g : Graph) (hfw : g.Forward) (extra : List Nat) : ∀ (depth pos e' : Nat),
    Spells g extra pos e' → ∃ d e, matchExtra g false extra depth pos = some (d, e) ∧ e' ≤ e := by
  induction extra with
  | nil =>
    intro depth pos e' h
    cases h
    exact ⟨depth, pos, rfl, Nat.le_refl _⟩
  | cons s rest ih =>
    intro depth pos e' h
    cases h with
    | cons hlt hedge hrest =>
      obtain ⟨idx, props, p, hi, hl, hp, rfl⟩ := hedge
      obtain ⟨d1, e1, hm, hle⟩ := ih (depth + 1) p.endPos e' hrest
      rw [matchExtra_cons, if_neg (Nat.not_le_of_lt hlt)]
      simp only [hi, hl]
      have hend := foldl_best_end (fun p => matchExtra g false rest (depth + 1) p.endPos) props none p hp (d1, e1) hm
      -- the running best ends after `pos`, so it is not the initial "failed"
      have hpos : pos < e1 := Nat.lt_of_lt_of_le (hfw pos s p.endPos ⟨idx, props, p, hi, hl, hp, rfl⟩)
        (Nat.le_trans (spells_le hfw hrest) hle)
      cases hr : props.foldl (bestStep (fun p => matchExtra g false rest (depth + 1) p.endPos)) none with
      | none => rw [hr] at hend; exact absurd (Nat.lt_of_lt_of_le hpos hend) (Nat.not_lt_zero _)
      | some r => rw [hr] at hend; exact ⟨r.1, r.2, rfl, Nat.le_trans hle hend⟩

end RimeModel.C07
