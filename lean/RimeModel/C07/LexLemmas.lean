/-! C07: order properties of `Prod.Lex r s`; `compare_chunk_by_head_element` and `Poet::LeftAssociateCompare` are such
combinations. -/
namespace RimeModel.C07

variable {α β : Type} {r : α → α → Prop} {s : β → β → Prop}

theorem lex_irrefl (p : α × β) (hr : ∀ a, ¬ r a a) (hs : ∀ b, ¬ s b b) : ¬ Prod.Lex r s p p := by
  rw [Prod.lex_def]
  exact fun h => h.elim (hr _) (fun h => hs _ h.2)

theorem lex_asymm {p q : α × β} (h : Prod.Lex r s p q) (hr : ∀ a b, r a b → ¬ r b a) (hs : ∀ a b, s a b → ¬ s b a) :
    ¬ Prod.Lex r s q p := by
  rw [Prod.lex_def] at *
  rintro (h' | ⟨e', h'⟩)
  · rcases h with h | ⟨e, _⟩
    · exact hr _ _ h h'
    · rw [e] at h'; exact hr _ _ h' h'
  · rcases h with h | ⟨_, h⟩
    · rw [e'] at h; exact hr _ _ h h
    · exact hs _ _ h h'

theorem lex_trans {p q u : α × β} (h1 : Prod.Lex r s p q) (h2 : Prod.Lex r s q u)
    (hr : ∀ a b c, r a b → r b c → r a c) (hs : ∀ a b c, s a b → s b c → s a c) : Prod.Lex r s p u := by
  rw [Prod.lex_def] at *
  rcases h1 with h1 | ⟨e1, h1⟩
  · rcases h2 with h2 | ⟨e2, _⟩
    · exact Or.inl (hr _ _ _ h1 h2)
    · exact Or.inl (e2 ▸ h1)
  · rcases h2 with h2 | ⟨e2, h2⟩
    · exact Or.inl (e1 ▸ h2)
    · exact Or.inr ⟨e1.trans e2, hs _ _ _ h1 h2⟩

theorem lex_imp {α' β' : Type} {r' : α' → α' → Prop} {s' : β' → β' → Prop} {p q : α × β} {p' q' : α' × β'}
    (h : Prod.Lex r s p q) (hr : r p.1 q.1 → r' p'.1 q'.1) (he : p.1 = q.1 → p'.1 = q'.1)
    (hs : p.1 = q.1 → s p.2 q.2 → s' p'.2 q'.2) : Prod.Lex r' s' p' q' := by
  rw [Prod.lex_def] at *
  exact h.imp hr (fun h => ⟨he h.1, hs h.1 h.2⟩)

theorem lex_negtrans {p q u : α × β} (h1 : ¬ Prod.Lex r s p q) (h2 : ¬ Prod.Lex r s q u)
    (hr : ∀ a b c, ¬ r a b → ¬ r b c → ¬ r a c) (tri : ∀ a b, ¬ r a b → ¬ r b a → a = b)
    (hs : ∀ a b c, ¬ s a b → ¬ s b c → ¬ s a c) : ¬ Prod.Lex r s p u := by
  rw [Prod.lex_def] at *
  rintro (h | ⟨e, h⟩)
  · exact hr _ _ _ (fun h => h1 (Or.inl h)) (fun h => h2 (Or.inl h)) h
  · have e1 : p.1 = q.1 := tri _ _ (fun h => h1 (Or.inl h)) (fun h => h2 (Or.inl (e ▸ h)))
    exact hs _ _ _ (fun h => h1 (Or.inr ⟨e1, h⟩)) (fun h => h2 (Or.inr ⟨e1 ▸ e, h⟩)) h

end RimeModel.C07
