import RimeModel.C07.Poet
import RimeModel.C07.ListLemmas
/-! C07: the sentence maker.  Slot properties every new line inherits (`SlotInv`); slots only improve (`Later`); on a sorted
forward graph the slot of a start position is final when it is read, so every processed edge has left its mark (`Marked`). -/
namespace RimeModel.C07
open RimeModel.C06

variable {W : Type}

/-! ## the `states` map -/

theorem stFind_stSet (st : States W) (p q : Nat) (l : Line W) :
    stFind (stSet st p l) q = if q = p then some l else stFind st q :=
  find_set stSet (fun _ _ => rfl) (fun _ _ _ _ => rfl) st p q l

theorem stFind_stSet_self (st : States W) (p : Nat) (l : Line W) : stFind (stSet st p l) p = some l := by
  rw [stFind_stSet, if_pos rfl]

theorem stFind_stSet_ne (st : States W) (p q : Nat) (l : Line W) (h : q ≠ p) : stFind (stSet st p l) q = stFind st q := by
  rw [stFind_stSet, if_neg h]

theorem find_init {α : Type} (v : α) (p : Nat) :
    (([(0, v)] : List (Nat × α)).find? (fun kv => kv.1 == p)).map (·.2) = if p = 0 then some v else none := by
  by_cases h : p = 0
  · simp [h]
  · have : ¬ 0 = p := fun e => h e.symm
    simp [h, this]

/-! ## lines -/

theorem lineWeight_extend (ops : WOps W) (cand : Line W) (x : PEntry W) (e : Nat) :
    lineWeight ops (extendLine ops cand x e) = ops.add (lineWeight ops cand) (evaluate ops x.weight) := rfl

theorem lineEnd_extend (ops : WOps W) (cand : Line W) (x : PEntry W) (e : Nat) :
    lineEnd (extendLine ops cand x e) = e := rfl

theorem extend_ne_nil (ops : WOps W) (cand : Line W) (x : PEntry W) (e : Nat) : extendLine ops cand x e ≠ [] :=
  List.cons_ne_nil _ _

/-- what the comparison function must be like for a relation `R` ("is at least as good as") to be maintained -/
structure PoetOrder (ops : WOps W) (cmp : Line W → Line W → Bool) (R : Line W → Line W → Prop) : Prop where
  refl : ∀ l, R l l
  trans : ∀ a b c, R a b → R b c → R a c
  yes : ∀ a b, cmp a b = true → R b a
  no : ∀ a b, cmp a b = false → R a b
  ext : ∀ a b x e, lineEnd a = lineEnd b → R a b → R (extendLine ops a x e) (extendLine ops b x e)

theorem poetOrder_true (ops : WOps W) (cmp : Line W → Line W → Bool) : PoetOrder ops cmp (fun _ _ => True) :=
  ⟨fun _ => trivial, fun _ _ _ _ _ => trivial, fun _ _ _ => trivial, fun _ _ _ => trivial, fun _ _ _ _ _ _ => trivial⟩

/-- `l'` is non-empty whenever `l` is, and then at least as good -/
def Improves (R : Line W → Line W → Prop) (l' l : Line W) : Prop := l ≠ [] → l' ≠ [] ∧ R l' l

section relax
variable {ops : WOps W} {cmp : Line W → Line W → Bool} {R : Line W → Line W → Prop} (hR : PoetOrder ops cmp R)
include hR

theorem improves_refl (l : Line W) : Improves R l l := fun h => ⟨h, hR.refl l⟩

theorem improves_trans {a b c : Line W} (h1 : Improves R a b) (h2 : Improves R b c) : Improves R a c :=
  fun hc => ⟨(h1 (h2 hc).1).1, hR.trans _ _ _ (h1 (h2 hc).1).2 (h2 hc).2⟩

theorem relax_fold (cand : Line W) (e : Nat) (es : List (PEntry W)) : ∀ (target : Line W),
      (es.foldl (relax ops cmp cand e) target = target ∨
        ∃ x ∈ es, es.foldl (relax ops cmp cand e) target = extendLine ops cand x e) ∧
      Improves R (es.foldl (relax ops cmp cand e) target) target ∧
      ∀ x ∈ es, Improves R (es.foldl (relax ops cmp cand e) target) (extendLine ops cand x e) := by
  induction es with
  | nil => exact fun target => ⟨Or.inl rfl, improves_refl hR _, nofun⟩
  | cons x es ih =>
    intro target
    rw [List.foldl_cons]
    obtain ⟨ih1, ih2, ih3⟩ := ih (relax ops cmp cand e target x)
    have step : (relax ops cmp cand e target x = target ∨ relax ops cmp cand e target x = extendLine ops cand x e) ∧
        Improves R (relax ops cmp cand e target x) target ∧
        Improves R (relax ops cmp cand e target x) (extendLine ops cand x e) := by
      unfold relax
      cases target with
      | nil => exact ⟨Or.inr rfl, fun h => absurd rfl h, improves_refl hR _⟩
      | cons c cs =>
        cases hc : cmp (c :: cs) (extendLine ops cand x e) with
        | true => exact ⟨Or.inr rfl, fun _ => ⟨extend_ne_nil _ _ _ _, hR.yes _ _ hc⟩, improves_refl hR _⟩
        | false => exact ⟨Or.inl rfl, improves_refl hR _, fun _ => ⟨List.cons_ne_nil _ _, hR.no _ _ hc⟩⟩
    obtain ⟨s1, s2, s3⟩ := step
    refine ⟨?_, improves_trans hR ih2 s2, fun y hy => ?_⟩
    · rcases ih1 with h | ⟨y, hy, h⟩
      · rcases s1 with s1 | s1
        · exact Or.inl (h.trans s1)
        · exact Or.inr ⟨x, List.mem_cons_self, h.trans s1⟩
      · exact Or.inr ⟨y, List.mem_cons_of_mem _ hy, h⟩
    · rcases List.mem_cons.mp hy with rfl | hy
      · exact improves_trans hR ih2 s3
      · exact ih3 y hy

end relax

/-! ## a property of every slot is kept by the loop -/

section slot
variable (ops : WOps W) (cmp : Line W → Line W → Bool) (g : PGraph W) (total : Nat) (P : Nat → Line W → Prop)

/-- what a slot property must satisfy to be an invariant of the loop -/
structure SlotInv : Prop where
  /-- a line built on a line with the property has it -/
  ext : ∀ s evs, (s, evs) ∈ g → ∀ cand, P s cand → ∀ e es, (e, es) ∈ evs → ¬ (s = 0 ∧ e = total) → ∀ x ∈ es,
    P e (extendLine ops cand x e)
  /-- the empty line a slot is created with when the edge has no entries -/
  empty : ∀ s evs, (s, evs) ∈ g → ∀ cand, P s cand → ∀ e, (e, []) ∈ evs → ¬ (s = 0 ∧ e = total) → P e []

def AllSlots (st : States W) : Prop := ∀ p l, stFind st p = some l → P p l

variable {ops g total P}

theorem processEdge_allSlots (h : SlotInv ops g total P) {s : Nat} {evs : List (Nat × List (PEntry W))} (hs : (s, evs) ∈ g)
    {cand : Line W} (hc : P s cand) (st : States W) (hst : AllSlots P st) (ev : Nat × List (PEntry W)) (hev : ev ∈ evs) :
    AllSlots P (processEdge ops cmp total s cand st ev) := by
  unfold processEdge
  split
  · exact hst
  · rename_i hx
    have hx : ¬ (s = 0 ∧ ev.1 = total) := fun ⟨a, b⟩ => hx (by simp [a, b])
    intro p l hp
    rw [stFind_stSet] at hp
    split at hp
    · rename_i hpe
      subst hpe
      obtain ⟨h1, _, h3⟩ := relax_fold (poetOrder_true ops cmp) cand ev.1 ev.2 ((stFind st ev.1).getD [])
      rw [Option.some.inj hp] at h1 h3
      rcases h1 with h1 | ⟨x, hx1, h1⟩
      · -- the slot keeps its line; it is new and empty only if the edge has no entries
        cases hf : stFind st ev.1 with
        | some t => rw [hf] at h1; exact h1 ▸ hst _ _ hf
        | none =>
          rw [hf] at h1
          have hes : ev.2 = [] := List.eq_nil_iff_forall_not_mem.mpr fun x hx => (h3 x hx (extend_ne_nil _ _ _ _)).1 h1
          exact h1 ▸ h.empty s evs hs cand hc ev.1 (hes ▸ hev) hx
      · exact h1 ▸ h.ext s evs hs cand hc ev.1 ev.2 hev hx x hx1
    · exact hst _ _ hp

theorem poetStates_allSlots (h : SlotInv ops g total P) (h0 : P 0 []) : AllSlots P (poetStates ops cmp g total) := by
  refine foldl_invariant _ _ g _ ?_ (fun st hst sv hsv => ?_)
  · intro p l hp
    rw [stFind, find_init] at hp
    split at hp
    · rename_i hp0
      rw [hp0, ← Option.some.inj hp]; exact h0
    · exact absurd hp nofun
  · unfold processStart
    split
    · exact hst
    · rename_i cand hf
      exact foldl_invariant _ _ sv.2 st hst (processEdge_allSlots cmp h hsv (hst _ _ hf))

end slot

/-! ## paths, written last word first (as the lines are) -/

/-- `RPath ops g total o l p`: the line `l` (last word first) is a chain of edges of `g` from `o` to `p`, with the
running weights of the code -/
def RPath (ops : WOps W) (g : PGraph W) (total o : Nat) : Line W → Nat → Prop
  | [], p => p = o
  | c :: cs, p => c.endPos = p ∧ c.weight = ops.add (lineWeight ops cs) (evaluate ops c.entry.weight) ∧
      ∃ s, RPath ops g total o cs s ∧ EdgeHas g s p c.entry ∧ ¬ (s = 0 ∧ p = total)

theorem pathEnd_append (p : Nat) (as bs : List (Comp W)) : pathEnd p (as ++ bs) = pathEnd (pathEnd p as) bs := by
  induction as generalizing p with
  | nil => rfl
  | cons a as ih => exact ih _

theorem pathWeight_append (w : W) (as bs : List (Comp W)) : pathWeight w (as ++ bs) = pathWeight (pathWeight w as) bs := by
  induction as generalizing w with
  | nil => rfl
  | cons a as ih => exact ih _

theorem lineWeight_reverse (ops : WOps W) (cs : List (Comp W)) : lineWeight ops cs.reverse = pathWeight ops.zero cs := by
  rcases List.eq_nil_or_concat cs with rfl | ⟨cs, c, rfl⟩
  · rfl
  · rw [List.concat_eq_append, List.reverse_append, pathWeight_append]; rfl

theorem wordLengths_reverse (cs : List (Comp W)) : wordLengths cs.reverse = wordLengthsFrom 0 cs := by
  rw [wordLengths, List.reverse_reverse]

theorem rpath_cons {ops : WOps W} {g : PGraph W} {total o p : Nat} {c : Comp W} {cs : Line W}
    (h : RPath ops g total o (c :: cs) p) : c :: cs = extendLine ops cs c.entry p := by
  obtain ⟨h1, h2, _⟩ := h
  cases c
  simp only at h1 h2
  rw [extendLine, ← h1, ← h2]

/-- last word first → first word first -/
theorem rpath_isPath (ops : WOps W) (g : PGraph W) (total o : Nat) (l : Line W) : ∀ (p : Nat), RPath ops g total o l p →
    ∀ tail, IsPath ops g total (lineWeight ops l) p tail →
      IsPath ops g total ops.zero o (l.reverse ++ tail) ∧ pathEnd o (l.reverse ++ tail) = pathEnd p tail := by
  induction l with
  | nil =>
    intro p h tail ht
    cases (h : p = o)
    exact ⟨ht, rfl⟩
  | cons c cs ih =>
    intro p h tail ht
    obtain ⟨h1, h2, s, h3, h4, h5⟩ := h
    subst h1
    rw [List.reverse_cons, List.append_assoc]
    exact ih s h3 (c :: tail) ⟨h4, h5, h2, ht⟩

/-- first word first → last word first -/
theorem isPath_rpath (ops : WOps W) (g : PGraph W) (total o : Nat) (cs : List (Comp W)) : ∀ (acc : Line W) (p : Nat),
    RPath ops g total o acc p → IsPath ops g total (lineWeight ops acc) p cs →
    RPath ops g total o (cs.reverse ++ acc) (pathEnd p cs) := by
  induction cs with
  | nil => exact fun _ _ h _ => h
  | cons c cs ih =>
    intro acc p h ⟨h1, h2, h3, h4⟩
    rw [List.reverse_cons, List.append_assoc]
    exact ih (c :: acc) c.endPos ⟨rfl, h3, p, h, h1, h2⟩ h4

theorem rpath_end (ops : WOps W) (g : PGraph W) (total o : Nat) (l : Line W) (p : Nat) (h : RPath ops g total o l p)
    (hne : l ≠ []) : lineEnd l = p := by
  cases l with
  | nil => exact absurd rfl hne
  | cons c cs => exact h.1

theorem rpath_mono (ops : WOps W) {g g' : PGraph W} (total o : Nat) (h : ∀ sv ∈ g, sv ∈ g') :
    ∀ (l : Line W) (p : Nat), RPath ops g total o l p → RPath ops g' total o l p := by
  intro l
  induction l with
  | nil => exact fun _ hp => hp
  | cons c cs ih =>
    intro p ⟨h1, h2, s, h3, h4, h5⟩
    obtain ⟨evs, es, a, b, c⟩ := h4
    exact ⟨h1, h2, s, ih s h3, ⟨evs, es, h _ a, b, c⟩, h5⟩

/-! ## soundness: every slot holds a chain of edges from an origin -/

section sound
variable (ops : WOps W) (cmp : Line W → Line W → Bool) (g : PGraph W) (total : Nat)

theorem slotInv_rpath :
    SlotInv ops g total (fun p l => ∃ o, Origin g o ∧ RPath ops g total o l p) where
  ext := by
    intro s evs hs cand ⟨o, ho, hc⟩ e es hev hx x hxs
    exact ⟨o, ho, rfl, rfl, s, hc, ⟨evs, es, hs, hev, hxs⟩, hx⟩
  empty := by
    intro s evs hs cand _ e hev _
    exact ⟨e, Or.inr ⟨s, evs, hs, hev⟩, rfl⟩

theorem slotInv_visited :
    SlotInv ops g total (fun p l => Visited g total p ∧ (l ≠ [] → Live g total p)) where
  ext := by
    intro s evs hs cand ⟨hv, _⟩ e es hev hx x hxs
    exact ⟨Visited.step hv hs hev hx, fun _ => ⟨s, evs, es, hv, hs, hev, hx, List.ne_nil_of_mem hxs⟩⟩
  empty := by
    intro s evs hs cand ⟨hv, _⟩ e hev hx
    exact ⟨Visited.step hv hs hev hx, fun h => absurd rfl h⟩

theorem poetLine_some (l : Line W) :
    poetLine ops cmp g total = some l ↔ stFind (poetStates ops cmp g total) total = some l ∧ l ≠ [] := by
  unfold poetLine
  cases stFind (poetStates ops cmp g total) total with
  | none => simp
  | some t => cases t <;> simp +contextual [eq_comm]

theorem poetComponents_some (cs : List (Comp W)) :
    poetComponents ops cmp g total = some cs ↔ poetLine ops cmp g total = some cs.reverse := by
  unfold poetComponents
  cases poetLine ops cmp g total with
  | none => simp
  | some l =>
    rw [Option.map_some, Option.some.injEq, Option.some.injEq]
    exact ⟨fun h => by rw [← h, List.reverse_reverse], fun h => by rw [h, List.reverse_reverse]⟩

theorem poetComponents_sound (cs : List (Comp W)) (h : poetComponents ops cmp g total = some cs) :
    cs ≠ [] ∧ ∃ o, Origin g o ∧ IsPath ops g total ops.zero o cs ∧ pathEnd o cs = total := by
  rw [poetComponents_some, poetLine_some] at h
  obtain ⟨o, ho, hp⟩ := poetStates_allSlots cmp (slotInv_rpath ops g total) ⟨0, Or.inl rfl, rfl⟩ total cs.reverse h.1
  have := rpath_isPath ops g total o cs.reverse total hp [] trivial
  rw [List.reverse_reverse, List.append_nil] at this
  exact ⟨fun e => h.2 (by rw [e]; rfl), o, ho, this⟩

end sound

/-! ## a slot only gets better; an edge from a position with a state leaves its mark -/

/-- every slot of `st` is still there in `st'`, improved -/
def Later (R : Line W → Line W → Prop) (st st' : States W) : Prop :=
  ∀ p l, stFind st p = some l → ∃ l', stFind st' p = some l' ∧ Improves R l' l

/-- an edge that is not skipped: its end has a slot afterwards, at least as good as every line the edge offers when
`cand` is the line at its start -/
def Hit (ops : WOps W) (R : Line W → Line W → Prop) (cand : Line W) (st : States W) (ev : Nat × List (PEntry W)) : Prop :=
  ∃ l', stFind st ev.1 = some l' ∧ ∀ x ∈ ev.2, Improves R l' (extendLine ops cand x ev.1)

section order
variable {ops : WOps W} {cmp : Line W → Line W → Bool} {R : Line W → Line W → Prop} (hR : PoetOrder ops cmp R)
include hR

theorem later_refl (st : States W) : Later R st st := fun _ l h => ⟨l, h, improves_refl hR l⟩

theorem later_trans {a b c : States W} (h1 : Later R a b) (h2 : Later R b c) : Later R a c := by
  intro p l hl
  obtain ⟨l1, hl1, i1⟩ := h1 p l hl
  obtain ⟨l2, hl2, i2⟩ := h2 p l1 hl1
  exact ⟨l2, hl2, improves_trans hR i2 i1⟩

theorem processEdge_later (total s : Nat) (cand : Line W) (st : States W) (ev : Nat × List (PEntry W)) :
    Later R st (processEdge ops cmp total s cand st ev) := by
  unfold processEdge
  split
  · exact later_refl hR st
  · intro p l h
    by_cases hp : p = ev.1
    · subst hp
      refine ⟨_, stFind_stSet_self _ _ _, ?_⟩
      rw [h, Option.getD_some]
      exact (relax_fold hR cand ev.1 ev.2 l).2.1
    · exact ⟨l, by rw [stFind_stSet_ne _ _ _ _ hp]; exact h, improves_refl hR l⟩

theorem processStart_later (total : Nat) (st : States W) (sv : Nat × List (Nat × List (PEntry W))) :
    Later R st (processStart ops cmp total st sv) := by
  unfold processStart
  split
  · exact later_refl hR st
  · exact foldl_invariant (Later R st) _ sv.2 st (later_refl hR st)
      (fun st' h ev _ => later_trans hR h (processEdge_later hR total sv.1 _ st' ev))

theorem foldl_processStart_mono (total : Nat) : ∀ (gs : PGraph W) (st : States W) (p : Nat) (l : Line W),
    stFind st p = some l → ∃ l', stFind (gs.foldl (processStart ops cmp total) st) p = some l' ∧ Improves R l' l :=
  fun gs st => foldl_invariant (Later R st) _ gs st (later_refl hR st)
    (fun st' h sv _ => later_trans hR h (processStart_later hR total st' sv))

theorem hit_later {cand : Line W} {st st' : States W} {ev : Nat × List (PEntry W)} (h : Hit ops R cand st ev)
    (hm : Later R st st') : Hit ops R cand st' ev := by
  obtain ⟨l1, h1, hx⟩ := h
  obtain ⟨l2, h2, i2⟩ := hm _ _ h1
  exact ⟨l2, h2, fun x hxs => improves_trans hR i2 (hx x hxs)⟩

theorem hit_of_better {cand cs : Line W} {st : States W} {ev : Nat × List (PEntry W)} (h : Hit ops R cand st ev)
    (hc : R cand cs) (he : lineEnd cand = lineEnd cs) : Hit ops R cs st ev := by
  obtain ⟨l, hl, hx⟩ := h
  exact ⟨l, hl, fun x hxs => improves_trans hR (hx x hxs) (fun _ => ⟨extend_ne_nil _ _ _ _, hR.ext _ _ x ev.1 he hc⟩)⟩

theorem processStart_hit (total : Nat) (st : States W) (sv : Nat × List (Nat × List (PEntry W))) (cand : Line W)
    (hc : stFind st sv.1 = some cand) (ev : Nat × List (PEntry W)) (hev : ev ∈ sv.2) (hx : ¬ (sv.1 = 0 ∧ ev.1 = total)) :
    Hit ops R cand (processStart ops cmp total st sv) ev := by
  -- the edge leaves its mark when it is processed, and the edges after it only improve the slot
  obtain ⟨pre, post, hsp⟩ := List.append_of_mem hev
  unfold processStart
  rw [hc, hsp]
  dsimp only
  rw [List.foldl_append, List.foldl_cons]
  refine hit_later hR ?_ (foldl_invariant (Later R _) _ post _ (later_refl hR _)
    (fun st' h ev' _ => later_trans hR h (processEdge_later hR total sv.1 cand st' ev')))
  unfold processEdge
  rw [if_neg (fun h => hx (by simpa using h))]
  exact ⟨_, stFind_stSet_self _ _ _, (relax_fold hR cand ev.1 ev.2 _).2.2⟩

end order

/-- a slot no edge of this start position ends at is not touched -/
theorem processStart_untouched (ops : WOps W) (cmp : Line W → Line W → Bool) (total : Nat) (sv : Nat × List (Nat × List (PEntry W)))
    (q : Nat) (hq : ∀ ev ∈ sv.2, ev.1 ≠ q) (st : States W) : stFind (processStart ops cmp total st sv) q = stFind st q := by
  unfold processStart
  split
  · rfl
  · refine foldl_invariant (fun st' => stFind st' q = stFind st q) _ sv.2 st rfl (fun st' h ev hev => ?_)
    rw [← h]
    unfold processEdge
    split
    · rfl
    · exact stFind_stSet_ne _ _ _ _ (fun e => hq ev hev e.symm)

/-! ## the order of the loop: positions are final when they are read -/

section marked
variable (ops : WOps W) (cmp : Line W → Line W → Bool) (g : PGraph W) (total : Nat) (R : Line W → Line W → Prop)

/-- after the start positions of `pre`: every edge of `pre` from a visited position has left its mark, and the mark is
at least as good as the extension of every path from 0 to the edge's start.  `Hit` with the trivial order and the empty
line says just: the edge's end has a slot, non-empty if the edge carries an entry -/
def Marked (pre : PGraph W) (st : States W) : Prop :=
  stFind st 0 = some [] ∧
  ∀ sv ∈ pre, ∀ ev ∈ sv.2, ¬ (sv.1 = 0 ∧ ev.1 = total) →
    (Visited g total sv.1 → Hit ops (fun _ _ => True) [] st ev) ∧
    ∀ cs, RPath ops g total 0 cs sv.1 → Hit ops R cs st ev

theorem poetStates_marked (hR : PoetOrder ops cmp R) (hs : g.Sorted) (hf : g.Forward) :
    Marked ops g total R g (poetStates ops cmp g total) := by
  refine prefix_induction (fun pre => Marked ops g total R pre (poetStates ops cmp pre total)) g
    ⟨find_init _ 0, nofun⟩ ?_
  intro pre sv post hg ⟨ih0, ih⟩
  have hsnoc : poetStates ops cmp (pre ++ [sv]) total = processStart ops cmp total (poetStates ops cmp pre total) sv := by
    rw [poetStates, List.foldl_append]; rfl
  rw [hsnoc]
  generalize hst : poetStates ops cmp pre total = st at ih0 ih
  have hsv : sv ∈ g := by rw [hg]; exact List.mem_append_right _ List.mem_cons_self
  have hT := poetOrder_true ops cmp
  -- an edge into `sv`'s position starts in `pre`, and a slot there knows where it ends
  have hpre : ∀ s evs es, (s, evs) ∈ g → (sv.1, es) ∈ evs → (s, evs) ∈ pre := by
    intro s evs es h1 h2
    rw [hg] at h1 hs
    rcases List.mem_append.mp h1 with h | h
    · exact h
    · have hp := List.pairwise_cons.mp (List.pairwise_append.mp hs).2.1
      have hlt : s < sv.1 := hf _ (hg ▸ h1) _ h2
      rcases List.mem_cons.mp h with rfl | h
      · exact absurd hlt (Nat.lt_irrefl _)
      · exact absurd (hp.1 _ h) (Nat.lt_asymm hlt)
  have hend : ∀ l, stFind st sv.1 = some l → l ≠ [] → lineEnd l = sv.1 := fun l hl hne =>
    let ⟨o, _, hp⟩ := poetStates_allSlots cmp (slotInv_rpath ops pre total) ⟨0, Or.inl rfl, rfl⟩ sv.1 l (hst ▸ hl)
    rpath_end ops pre total o l sv.1 hp hne
  refine ⟨?_, ?_⟩
  · rw [processStart_untouched ops cmp total sv 0 (fun ev hev e => Nat.not_lt_zero _ (e ▸ hf sv hsv ev hev))]
    exact ih0
  · intro sv' hsv' ev hev hx
    rcases List.mem_append.mp hsv' with hin | hin
    · exact ⟨fun hv => hit_later hT ((ih sv' hin ev hev hx).1 hv) (processStart_later hT total st sv),
        fun cs hcs => hit_later hR ((ih sv' hin ev hev hx).2 cs hcs) (processStart_later hR total st sv)⟩
    · cases List.mem_singleton.mp hin
      refine ⟨fun hv => ?_, fun cs hcs => ?_⟩
      · have hcand : ∃ cand, stFind st sv.1 = some cand := by
          generalize hq : sv.1 = q at hv
          cases hv with
          | zero => exact ⟨[], ih0⟩
          | @step s' e evs' es' hv' hs' he' hx' =>
            obtain ⟨l, hl, _⟩ := (ih _ (hpre s' evs' es' hs' (hq ▸ he')) (q, es') he' hx').1 hv'
            exact ⟨l, hl⟩
        obtain ⟨cand, hc⟩ := hcand
        obtain ⟨l, hl, hl'⟩ := processStart_hit hT total st sv cand hc ev hev hx
        exact ⟨l, hl, fun x hxs _ => ⟨(hl' x hxs (extend_ne_nil _ _ _ _)).1, trivial⟩⟩
      · -- the slot of the start position is at least as good as the path
        have hcand : ∃ cand, stFind st sv.1 = some cand ∧ R cand cs ∧ lineEnd cand = lineEnd cs := by
          cases cs with
          | nil => exact ⟨[], (hcs : sv.1 = 0) ▸ ih0, hR.refl _, rfl⟩
          | cons d ds =>
            obtain ⟨h1, _, s', h3, ⟨evs', es', ha, hb, hc⟩, h5⟩ := id hcs
            obtain ⟨l, hl, hbest⟩ := (ih _ (hpre s' evs' es' ha hb) (sv.1, es') hb h5).2 ds h3
            obtain ⟨hn, hr⟩ := hbest d.entry hc (extend_ne_nil _ _ _ _)
            exact ⟨l, hl, rpath_cons hcs ▸ hr, (hend l hl hn).trans h1.symm⟩
        obtain ⟨cand, hc1, hc2, hc3⟩ := hcand
        exact hit_of_better hR (processStart_hit hR total st sv cand hc1 ev hev hx) hc2 hc3

end marked

/-! ## what the results say -/

section results
variable (ops : WOps W) (cmp : Line W → Line W → Bool) (g : PGraph W) (total : Nat)

/-- the sentence the poet returns is at least as good (`R`) as every path from 0 to `total` -/
theorem poetComponents_unbeaten (R : Line W → Line W → Prop)
    (hR : PoetOrder ops cmp R) (hs : g.Sorted) (hf : g.Forward) (cs : List (Comp W)) (hne : cs ≠ [])
    (hp : IsPath ops g total ops.zero 0 cs) (he : pathEnd 0 cs = total) :
    ∃ best, poetComponents ops cmp g total = some best ∧ R best.reverse cs.reverse := by
  have h1 := isPath_rpath ops g total 0 cs [] 0 rfl hp
  rw [he, List.append_nil] at h1
  cases hcs : cs.reverse with
  | nil => exact absurd (List.reverse_eq_nil_iff.mp hcs) hne
  | cons c rest =>
    rw [hcs] at h1
    obtain ⟨_, _, s, h3, ⟨evs, es, ha, hb, hc⟩, h5⟩ := id h1
    obtain ⟨l, hl, hr⟩ := ((poetStates_marked ops cmp g total R hR hs hf).2 (s, evs) ha (total, es) hb h5).2 rest h3
    obtain ⟨hn, hr⟩ := hr c.entry hc (extend_ne_nil _ _ _ _)
    refine ⟨l.reverse, ?_, ?_⟩
    · rw [poetComponents_some, List.reverse_reverse, poetLine_some]
      exact ⟨hl, hn⟩
    · rw [List.reverse_reverse, rpath_cons h1]
      exact hr

theorem poetLine_isSome_iff (hs : g.Sorted) (hf : g.Forward) : (∃ l, poetLine ops cmp g total = some l) ↔ Live g total total := by
  constructor
  · intro ⟨l, hl⟩
    rw [poetLine_some] at hl
    exact (poetStates_allSlots cmp (slotInv_visited ops g total) ⟨Visited.zero, fun h => absurd rfl h⟩ total l hl.1).2 hl.2
  · intro ⟨s, evs, es, hv, hsv, he, hx, hes⟩
    obtain ⟨l, hl, hl'⟩ :=
      ((poetStates_marked ops cmp g total _ (poetOrder_true ops cmp) hs hf).2 (s, evs) hsv (total, es) he hx).1 hv
    obtain ⟨x, hxs⟩ := List.exists_mem_of_ne_nil es hes
    exact ⟨l, (poetLine_some ops cmp g total l).mpr ⟨hl, (hl' x hxs (extend_ne_nil _ _ _ _)).1⟩⟩

/-- what `Extend` accumulates -/
theorem foldl_extend (cs : List (Comp W)) : ∀ (s : Sentence W), cs.foldl Sentence.extend s =
    { text := s.text ++ cs.flatMap (·.entry.text), code := s.code ++ cs.flatMap (·.entry.code),
      weight := pathWeight s.weight cs, components := s.components ++ cs.map (·.entry),
      wordLengths := s.wordLengths ++ wordLengthsFrom s.endPos cs, endPos := pathEnd s.endPos cs } := by
  induction cs with
  | nil => intro s; simp [wordLengthsFrom, pathEnd, pathWeight]
  | cons c cs ih =>
    intro s
    rw [List.foldl_cons, ih]
    simp [Sentence.extend, wordLengthsFrom, pathEnd, pathWeight]

theorem makeSentence_some (sen : Sentence W) : makeSentence ops cmp g total = some sen ↔
    ∃ cs, poetComponents ops cmp g total = some cs ∧ cs.foldl Sentence.extend (Sentence.init ops) = sen := by
  unfold makeSentence
  cases poetComponents ops cmp g total <;> simp

theorem origin_zero_of_noEmptyEdge (h : NoEmptyEdge g) (o : Nat) (ho : Origin g o) : o = 0 := by
  rcases ho with h0 | ⟨s, evs, hs, he⟩
  · exact h0
  · exact absurd rfl (h (s, evs) hs (o, []) he)

/-- a path whose edges all stand for accepted pieces spells a concatenation -/
theorem isPath_concat (Ok : Nat → Nat → Bytes → Prop)
    (hok : ∀ s e x, EdgeHas g s e x → Ok s e x.text) : ∀ (cs : List (Comp W)) (w : W) (p : Nat), IsPath ops g total w p cs →
    Concat Ok p (pathEnd p cs) (cs.flatMap (·.entry.text)) := by
  intro cs
  induction cs with
  | nil => exact fun _ p _ => Concat.nil p
  | cons c cs ih =>
    intro _ p h
    rw [List.flatMap_cons, pathEnd]
    exact Concat.cons (hok _ _ _ h.1) (ih c.weight c.endPos h.2.2.2)

theorem makeSentence_concat (Ok : Nat → Nat → Bytes → Prop) (hne : NoEmptyEdge g) (hok : ∀ s e x, EdgeHas g s e x → Ok s e x.text)
    (sen : Sentence W) (h : makeSentence ops cmp g total = some sen) : sen.endPos = total ∧ Concat Ok 0 total sen.text := by
  obtain ⟨cs, hc, rfl⟩ := (makeSentence_some ops cmp g total sen).mp h
  obtain ⟨_, o, ho, hp, he⟩ := poetComponents_sound ops cmp g total cs hc
  cases origin_zero_of_noEmptyEdge g hne o ho
  rw [foldl_extend]
  exact ⟨he, he ▸ isPath_concat ops g total Ok hok cs ops.zero 0 hp⟩

end results

end RimeModel.C07
