import RimeModel.C07.PoetLemmas
import RimeModel.C07.LexLemmas
/-! C07: the two comparison functions of the poet are orders the loop maintains -/
namespace RimeModel.C07
open RimeModel.C06

variable {W : Type}

/-- what `CompareWeight` needs from the weights: `<` is a strict weak order and adding the same number on the right
never reverses it (true of IEEE doubles without NaN, of integers, of exact dyadic numbers) -/
structure WLaws (ops : WOps W) : Prop where
  irrefl : ∀ a, ops.lt a a = false
  asymm : ∀ a b, ops.lt a b = true → ops.lt b a = false
  negtrans : ∀ a b c, ops.lt a b = false → ops.lt b c = false → ops.lt a c = false
  add_mono : ∀ a b k, ops.lt a b = false → ops.lt (ops.add a k) (ops.add b k) = false

theorem poetOrder_compareWeight (ops : WOps W) (h : WLaws ops) :
    PoetOrder ops (compareWeight ops) (fun a b => compareWeight ops a b = false) where
  refl := fun l => h.irrefl _
  trans := fun a b c hab hbc => h.negtrans _ _ _ hab hbc
  yes := fun a b hab => h.asymm _ _ hab
  no := fun _ _ h => h
  ext := fun a b x e _ hab => by
    unfold compareWeight at *
    rw [lineWeight_extend, lineWeight_extend]
    exact h.add_mono _ _ _ hab

theorem wlaws_int (k : Int) : WLaws (intOps k) := by
  constructor <;> simp only [intOps, decide_eq_true_eq, decide_eq_false_iff_not] <;> omega

/-! ## `LeftAssociateCompare` with integer weights -/

theorem lexLt_iff : ∀ a b : List Nat, lexLt a b = true ↔ a < b
  | a, [] => by cases a <;> simp [lexLt]
  | [], _ :: _ => by simp [lexLt]
  | a :: as, b :: bs => by
    rw [lexLt, List.cons_lt_cons_iff, ← lexLt_iff as bs]
    by_cases h1 : a < b
    · simp [h1]
    · by_cases h2 : b < a
      · have : a ≠ b := Nat.ne_of_gt h2
        simp [h1, h2, this]
      · have : a = b := Nat.le_antisymm (Nat.not_lt.mp h2) (Nat.not_lt.mp h1)
        simp [this]

theorem lt_append_same : ∀ (a b t : List Nat), a.length = b.length → (a ++ t < b ++ t ↔ a < b)
  | [], [], _, _ => iff_of_false (List.lt_irrefl _) (List.lt_irrefl _)
  | [], _ :: _, _, h => (Nat.succ_ne_zero _ h.symm).elim
  | _ :: _, [], _, h => (Nat.succ_ne_zero _ h).elim
  | a :: as, b :: bs, t, h => by
    rw [List.cons_append, List.cons_append, List.cons_lt_cons_iff, List.cons_lt_cons_iff,
      lt_append_same as bs t (Nat.succ.inj h)]

theorem wordLengthsFrom_snoc (p : Nat) (cs : List (Comp W)) (c : Comp W) :
    wordLengthsFrom p (cs ++ [c]) = wordLengthsFrom p cs ++ [c.endPos - pathEnd p cs] := by
  induction cs generalizing p with
  | nil => rfl
  | cons d ds ih => simp [wordLengthsFrom, pathEnd, ih]

theorem pathEnd_reverse (l : Line W) : pathEnd 0 l.reverse = lineEnd l := by
  cases l with
  | nil => rfl
  | cons c cs => simp [pathEnd_append, pathEnd, lineEnd]

theorem wordLengths_cons (c : Comp W) (l : Line W) : wordLengths (c :: l) = wordLengths l ++ [c.endPos - lineEnd l] := by
  unfold wordLengths
  rw [List.reverse_cons, wordLengthsFrom_snoc, pathEnd_reverse]

/-- what `LeftAssociateCompare` looks at: the weight (heavier is better), the number of words (fewer is better), the
word lengths (lexicographically larger is better) -/
def laKey (k : Int) (l : Line Int) : Int × Nat × List Nat :=
  (lineWeight (intOps k) l, (wordLengths l).length, wordLengths l)

theorem leftAssociate_iff (k : Int) (a b : Line Int) : leftAssociateCompare (intOps k) a b = true ↔
    Prod.Lex (· < ·) (Prod.Lex (· > ·) (· < ·)) (laKey k a) (laKey k b) := by
  simp only [leftAssociateCompare, tieLess, laKey, Prod.lex_def, ← lexLt_iff]
  generalize lineWeight (intOps k) a = wa
  generalize lineWeight (intOps k) b = wb
  simp only [intOps, decide_eq_true_eq, beq_iff_eq]
  by_cases h1 : wa < wb
  · simp [h1]
  · by_cases h2 : wa = wb
    · by_cases h3 : (wordLengths b).length < (wordLengths a).length
      · simp [h2, h3]
      · by_cases h4 : (wordLengths a).length = (wordLengths b).length
        · simp [h2, h4]
        · simp [h2, h3, h4]
    · simp [h1, h2]

theorem leftAssociate_false (k : Int) (a b : Line Int) : leftAssociateCompare (intOps k) a b = false ↔
    ¬ Prod.Lex (· < ·) (Prod.Lex (· > ·) (· < ·)) (laKey k a) (laKey k b) := by
  rw [← leftAssociate_iff, Bool.not_eq_true]

theorem poetOrder_leftAssociate (k : Int) :
    PoetOrder (intOps k) (leftAssociateCompare (intOps k)) (fun a b => leftAssociateCompare (intOps k) a b = false) where
  refl := fun l => by
    rw [leftAssociate_false]
    exact lex_irrefl _ Int.lt_irrefl (fun p => lex_irrefl p Nat.lt_irrefl List.lt_irrefl)
  trans := fun a b c hab hbc => by
    rw [leftAssociate_false] at *
    refine lex_negtrans hab hbc (fun _ _ _ h1 h2 => Int.not_lt.mpr (Int.le_trans (Int.not_lt.mp h2) (Int.not_lt.mp h1)))
      (fun _ _ h1 h2 => Int.le_antisymm (Int.not_lt.mp h2) (Int.not_lt.mp h1))
      (fun _ _ _ h1 h2 => lex_negtrans h1 h2 ?_ (fun _ _ h1 h2 => Nat.le_antisymm (Nat.not_lt.mp h1) (Nat.not_lt.mp h2)) ?_)
    · exact fun _ _ _ h1 h2 => Nat.not_lt.mpr (Nat.le_trans (Nat.not_lt.mp h1) (Nat.not_lt.mp h2))
    · exact fun _ _ _ h1 h2 => List.le_trans h2 h1
  yes := fun a b hab => by
    rw [leftAssociate_false]
    rw [leftAssociate_iff] at hab
    exact lex_asymm hab (fun _ _ => Int.lt_asymm) (fun _ _ h => lex_asymm h (fun _ _ => Nat.lt_asymm) (fun _ _ => List.lt_asymm))
  no := fun _ _ h => h
  ext := fun a b x e hend hab => by
    -- one more word of the same length at the end of both lines changes none of the three comparisons
    rw [leftAssociate_false] at *
    intro h
    refine hab (lex_imp h Int.lt_of_add_lt_add_right (Int.add_left_inj _).mp fun _ h => lex_imp h ?_ ?_ ?_)
    all_goals simp only [laKey, extendLine, wordLengths_cons, List.length_append, hend]
    · exact Nat.lt_of_add_lt_add_right
    · exact Nat.add_right_cancel
    · exact fun hn => (lt_append_same _ _ _ (Nat.add_right_cancel hn)).mp

theorem leftAssociate_unbeaten (k : Int) (a b : Line Int) (h : leftAssociateCompare (intOps k) a b = false) :
    lineWeight (intOps k) b ≤ lineWeight (intOps k) a ∧
      (lineWeight (intOps k) b = lineWeight (intOps k) a →
        (wordLengths a).length ≤ (wordLengths b).length ∧
        ((wordLengths a).length = (wordLengths b).length → lexLt (wordLengths a) (wordLengths b) = false)) := by
  rw [leftAssociate_false] at h
  simp only [laKey, Prod.lex_def, ← lexLt_iff] at h
  refine ⟨by omega, fun hw => ⟨by omega, fun hn => ?_⟩⟩
  cases hl : lexLt (wordLengths a) (wordLengths b)
  · rfl
  · exact absurd (Or.inr ⟨hw.symm, Or.inr ⟨hn, hl⟩⟩) h

end RimeModel.C07
