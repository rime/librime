import RimeModel.C07.PoetOrders
import RimeModel.C07.SentenceLemmas
import RimeModel.C07.QueryLemmas
/-!
# C07 — the word graphs the two translators hand to the poet, and the sentences they show

* `ScriptTranslation::MakeSentence` (script_translator.cc:568-591, `EnrollEntries` 551-566): for every start position
  of the syllable graph the dictionary's `Lookup(graph, start)` (no word completion, initial credibility 0); per end
  position the first entry of its iterator (`max_homophones` = 1, the default).  `Poet` with `CompareWeight`.
* `TableTranslator::MakeSentence` (table_translator.cc:547-690, static-dictionary branch): the edges of `wordGraph`;
  per edge the first entry (`max_homographs` = 1) of the iterator `LookupWords` filled for the first key (longest
  first) that ends there and has words — NOT sorted (`collect_entries` peeks the iterator as `LookupWords` left it).
  `Poet` with `LeftAssociateCompare`.  Edges the code creates without entries (`same_start_pos[end_pos]` touched, lookup
  empty) are left out here: every start position of this graph other than 0 is the end of an edge WITH entries from an
  earlier start position, so its slot is never empty when it is read and the empty edges change nothing.
* a `DictEntry` the iterator builds has weight `e.weight - kS + chunk.credibility` (dictionary.cc:155).
-/
namespace RimeModel.C07
open RimeModel.C06

/-- the `DictEntry` `DictEntryIterator::Peek` builds -/
def peekEntry (ce : Chunk × Entry Dy) : PEntry Dy :=
  { text := ce.2.text, code := ce.1.code, weight := Dy.add (Dy.add ce.2.weight poetPenaltyDy) ce.1.cred }

def sentenceCand {W : Type} (start : Nat) (s : Sentence W) : Cand :=
  { type := "sentence", start := start, endPos := start + s.endPos, text := s.text }

theorem sentenceCand_concat {W : Type} (ops : WOps W) (cmp : Line W → Line W → Bool) (pg : PGraph W) (total start : Nat)
    (Ok : Nat → Nat → Bytes → Prop) (hne : NoEmptyEdge pg) (hok : ∀ s e x, EdgeHas pg s e x → Ok s e x.text) (c : Cand)
    (h : (makeSentence ops cmp pg total).map (sentenceCand start) = some c) :
    c.type = "sentence" ∧ c.start = start ∧ c.endPos = start + total ∧ Concat Ok 0 total c.text := by
  obtain ⟨sen, hm, rfl⟩ := Option.map_eq_some_iff.mp h
  obtain ⟨hend, hcat⟩ := makeSentence_concat ops cmp pg total Ok hne hok sen hm
  exact ⟨rfl, rfl, by rw [sentenceCand, hend], hcat⟩

/-! ## script translator -/

/-- the word graph with the entries' weights computed by `pk` (the model: `peekEntry`, exact; the driver also runs it
with IEEE doubles) -/
def scriptPoetGraphW {W : Type} (pk : Chunk × Entry Dy → PEntry W) (t : Table) (g : Graph) : PGraph W :=
  g.indices.map fun sv =>
    (sv.1, (lookup t g sv.1 false Dy.zero).map fun kv => (kv.1, kv.2.peek.toList.map pk))

def scriptPoetGraph (t : Table) (g : Graph) : PGraph Dy := scriptPoetGraphW peekEntry t g

/-- `ScriptTranslation::MakeSentence` (then `Offset(start_)`) -/
def scriptSentence (t : Table) (g : Graph) (start : Nat) : Option Cand :=
  (makeSentence dyOps (compareWeight dyOps) (scriptPoetGraph t g) g.interpLen).map (sentenceCand start)

/-- `scriptTranslation` with the sentence computed by the port of the poet instead of being given -/
def scriptTranslationP (t : Table) (g : Graph) (start endOfInput : Nat) (wordCompletion : Bool) : List Cand :=
  scriptTranslation t g start endOfInput wordCompletion (scriptSentence t g start)

/-- a word of a script-style sentence: an entry of a chunk the dictionary's lookup from `s` files under `e`; its code is
spelled by the syllable graph from `s` to `e` -/
def ScriptWord (t : Table) (g : Graph) (s e : Nat) (txt : Bytes) : Prop :=
  ∃ ch en, (e, ch) ∈ lookupTable t g s false Dy.zero ∧ en ∈ ch.entries ∧ en.text = txt ∧ Spells g ch.code s e

theorem mem_scriptPoetGraph {t : Table} {g : Graph} {s e : Nat} {evs : List (Nat × List (PEntry Dy))} {es : List (PEntry Dy)}
    (h1 : (s, evs) ∈ scriptPoetGraph t g) (h2 : (e, es) ∈ evs) :
    e ∈ keysOf (lookupTable t g s false Dy.zero) ∧
    es = (Iter.sort { done := [], rest := valuesAt (lookupTable t g s false Dy.zero) e }).peek.toList.map peekEntry := by
  simp only [scriptPoetGraph, scriptPoetGraphW, List.mem_map, Prod.mk.injEq] at h1
  obtain ⟨sv, _, rfl, rfl⟩ := h1
  simp only [lookup, List.map_map, List.mem_map, Function.comp_apply, Prod.mk.injEq] at h2
  obtain ⟨k, hk, rfl, rfl⟩ := h2
  exact ⟨hk, rfl⟩

theorem lookupTable_noEmpty (t : Table) (g : Graph) (start : Nat) (ic : Dy) :
    ∀ kc ∈ lookupTable t g start false ic, kc.2.entries ≠ [] := by
  intro kc hkc
  obtain ⟨ems, hq, e, a, hem, hc⟩ := mem_lookupTable.mp hkc
  have hx : a.exhausted = false :=
    query_forall hq _ (fun _ => True) (fun _ => trivial)
      (fun st _ => ⟨fun em hem => let ⟨_, _, hx, _⟩ := expand_fst t g hem; hx, fun _ _ => trivial⟩) (e, a) hem
  rcases mem_chunksOf.mp hc with ⟨es, hs, rfl⟩ | ⟨es, _, le, _, m, _, rfl⟩
  · intro (h0 : es = [])
    rw [Accessor.exhausted, hs, h0] at hx
    exact absurd hx (by decide)
  · exact List.cons_ne_nil _ _

theorem scriptPoetGraph_noEmptyEdge (t : Table) (g : Graph) : NoEmptyEdge (scriptPoetGraph t g) := by
  intro ⟨s, evs⟩ hsv ⟨e, es⟩ hev
  obtain ⟨hk, rfl⟩ := mem_scriptPoetGraph hsv hev
  obtain ⟨kc, hkc, rfl⟩ := List.mem_map.mp ((mem_sortDedup natLt_strict _ _).mp hk)
  have hin : kc.2 ∈ valuesAt (lookupTable t g s false Dy.zero) kc.1 := (mem_valuesAt_iff _ _ _).mpr hkc
  have hne : NoEmpty (valuesAt (lookupTable t g s false Dy.zero) kc.1) :=
    fun c hc => lookupTable_noEmpty t g s Dy.zero (kc.1, c) ((mem_valuesAt_iff _ _ _).mp hc)
  generalize valuesAt (lookupTable t g s false Dy.zero) kc.1 = cs at hin hne ⊢
  have hp := sort_rest_perm { done := [], rest := cs }
  have := peek_ne_none (noEmpty_perm hp hne) (List.ne_nil_of_mem (hp.mem_iff.mpr hin))
  cases hpk : (Iter.sort { done := [], rest := cs }).peek with
  | none => exact absurd hpk this
  | some ce => exact List.cons_ne_nil _ _

theorem scriptPoetGraph_word (t : Table) (g : Graph) (hk : g.KeysNodup) (s e : Nat) (x : PEntry Dy)
    (h : EdgeHas (scriptPoetGraph t g) s e x) : ScriptWord t g s e x.text := by
  obtain ⟨evs, es, h1, h2, h3⟩ := h
  obtain ⟨_, rfl⟩ := mem_scriptPoetGraph h1 h2
  simp only [List.mem_map, Option.mem_toList] at h3
  obtain ⟨ce, hce, rfl⟩ := h3
  obtain ⟨hc, hen⟩ := peek_some hce
  have hc' := (mem_valuesAt_iff _ _ _).mp ((sort_rest_perm _).mem_iff.mp hc)
  exact ⟨ce.1, ce.2, hc', hen, rfl, lookupTable_sound t g hk s Dy.zero (e, ce.1) hc'⟩

/-! ## table translator -/

/-- the entry `collect_entries` puts on the edge `[s, e)`: the first key (longest first) that ends at `e` with its
delimiters and has words; the head of the iterator as `LookupWords` left it -/
def edgeWord (t : Table) (syl : List Bytes) (delims input : Bytes) (cps : Nat → List PrismKey) (s e : Nat) : Option (Chunk × Entry Dy) :=
  ((cps s).reverse.filterMap fun m =>
    if m.length == 0 then none
    else if s + consumeDelims delims (input.drop s) m.length == e then Iter.peek { done := [], rest := lookupWords t syl m.length [m] }
    else none).head?

def tablePoetGraphW {W : Type} (pk : Chunk × Entry Dy → PEntry W) (t : Table) (syl : List Bytes) (delims input : Bytes)
    (cps : Nat → List PrismKey) : PGraph W :=
  (sortDedup natLt ((wordGraph t syl delims input cps).edges.map (·.1))).map fun s =>
    (s, (sortDedup natLt (((wordGraph t syl delims input cps).edges.filter (fun e => e.1 == s)).map (·.2))).filterMap fun e =>
      (edgeWord t syl delims input cps s e).map fun ce => (e, [pk ce]))

def tablePoetGraph (t : Table) (syl : List Bytes) (delims input : Bytes) (cps : Nat → List PrismKey) : PGraph Dy :=
  tablePoetGraphW peekEntry t syl delims input cps

/-- `TableTranslator::MakeSentence`'s sentence (then `Offset(start)`) -/
def tableSentence (t : Table) (syl : List Bytes) (delims input : Bytes) (cps : Nat → List PrismKey) (start : Nat) : Option Cand :=
  (makeSentence dyOps (leftAssociateCompare dyOps) (tablePoetGraph t syl delims input cps) input.length).map (sentenceCand start)

/-- `tableQuery` with the sentence computed by the port of the poet instead of being given -/
def tableQueryP (t : Table) (syl : List Bytes) (delims input : Bytes) (start : Nat) (completion enableSentence : Bool)
    (exactKey : Option PrismKey) (expansion : List PrismKey) (cps : Nat → List PrismKey) : List Cand :=
  tableQuery t syl delims input start completion enableSentence exactKey expansion cps (tableSentence t syl delims input cps start)

/-- `TableTranslator::Query` with `sentence_over_completion` too (table_translator.cc:297-304): when the plain translation
is not replaced by the sentence translation and begins with a completion, `MakeSentence(input, start)` — without the prefix
phrases, so the sentence alone — is put in front of it -/
def tableQueryS (t : Table) (syl : List Bytes) (delims input : Bytes) (start : Nat) (completion enableSentence soc : Bool)
    (exactKey : Option PrismKey) (expansion : List PrismKey) (cps : Nat → List PrismKey) (sentence : Option Cand) : List Cand :=
  let plain := tableTranslation t syl delims input start completion exactKey expansion
  if plain.isEmpty && enableSentence then
    sentenceTranslation (wordGraph t syl delims input cps) start input.length sentence
  else if soc && (match plain.head? with | some c => c.type == "completion" | none => false) then
    sentence.toList ++ plain
  else plain

/-- without `sentence_over_completion` it is `tableQuery` -/
theorem tableQueryS_false (t : Table) (syl : List Bytes) (delims input : Bytes) (start : Nat) (completion enableSentence : Bool)
    (exactKey : Option PrismKey) (expansion : List PrismKey) (cps : Nat → List PrismKey) (sentence : Option Cand) :
    tableQueryS t syl delims input start completion enableSentence false exactKey expansion cps sentence
      = tableQuery t syl delims input start completion enableSentence exactKey expansion cps sentence := by
  unfold tableQueryS tableQuery
  cases h1 : (tableTranslation t syl delims input start completion exactKey expansion).isEmpty <;> cases enableSentence <;> simp [h1]

section
variable (t : Table) (syl : List Bytes) (delims input : Bytes) (cps : Nat → List PrismKey)

/-- a word of a table-style sentence: `[s, e)` is an edge of the word graph, i.e. a key `m` the prism finds at `s`
followed by exactly the delimiters that come after it, and `txt` is the text of a word entry stored for that key -/
def TableWord (t : Table) (syl : List Bytes) (delims input : Bytes) (cps : Nat → List PrismKey) (s e : Nat) (txt : Bytes) : Prop :=
  (s, e) ∈ (wordGraph t syl delims input cps).edges ∧
  ∃ m ∈ cps s, m.length ≠ 0 ∧ e = s + consumeDelims delims (input.drop s) m.length ∧
    ∃ ch ∈ lookupWords t syl m.length [m], ∃ en ∈ ch.entries, en.text = txt

theorem edgeWord_some (s e : Nat)
    (ce : Chunk × Entry Dy) (h : edgeWord t syl delims input cps s e = some ce) :
    ∃ m ∈ cps s, m.length ≠ 0 ∧ e = s + consumeDelims delims (input.drop s) m.length ∧
      ce.1 ∈ lookupWords t syl m.length [m] ∧ ce.2 ∈ ce.1.entries := by
  have hm := List.mem_of_mem_head? h
  simp only [List.mem_filterMap, List.mem_reverse] at hm
  obtain ⟨m, hm1, hm2⟩ := hm
  split at hm2
  · exact absurd hm2 nofun
  · rename_i h0
    split at hm2
    · rename_i he
      exact ⟨m, hm1, by simpa using h0, (beq_iff_eq.mp he).symm, peek_some hm2⟩
    · exact absurd hm2 nofun

theorem mem_tablePoetGraph {t : Table} {syl : List Bytes} {delims input : Bytes} {cps : Nat → List PrismKey} {s e : Nat}
    {evs : List (Nat × List (PEntry Dy))} {es : List (PEntry Dy)} (h1 : (s, evs) ∈ tablePoetGraph t syl delims input cps)
    (h2 : (e, es) ∈ evs) :
    (s, e) ∈ (wordGraph t syl delims input cps).edges ∧ ∃ ce, edgeWord t syl delims input cps s e = some ce ∧ es = [peekEntry ce] := by
  simp only [tablePoetGraph, tablePoetGraphW, List.mem_map, Prod.mk.injEq] at h1
  obtain ⟨s', _, rfl, rfl⟩ := h1
  simp only [List.mem_filterMap, Option.map_eq_some_iff, Prod.mk.injEq] at h2
  obtain ⟨e', he', ce, hce, rfl, rfl⟩ := h2
  rw [mem_sortDedup natLt_strict] at he'
  simp only [List.mem_map, List.mem_filter, beq_iff_eq] at he'
  obtain ⟨p, ⟨hp1, rfl⟩, rfl⟩ := he'
  exact ⟨hp1, ce, hce, rfl⟩

theorem tablePoetGraph_noEmptyEdge :
    NoEmptyEdge (tablePoetGraph t syl delims input cps) := by
  intro ⟨s, evs⟩ hsv ⟨e, es⟩ hev
  obtain ⟨_, ce, _, rfl⟩ := mem_tablePoetGraph hsv hev
  exact List.cons_ne_nil _ _

theorem tablePoetGraph_sorted (t : Table) (syl : List Bytes) (delims input : Bytes) (cps : Nat → List PrismKey) :
    (tablePoetGraph t syl delims input cps).Sorted := by
  unfold PGraph.Sorted tablePoetGraph tablePoetGraphW
  rw [List.pairwise_map]
  exact sortDedup_lt _

theorem tablePoetGraph_word (s e : Nat)
    (x : PEntry Dy) (h : EdgeHas (tablePoetGraph t syl delims input cps) s e x) :
    TableWord t syl delims input cps s e x.text ∧ EdgeOk t syl delims input cps (s, e) := by
  obtain ⟨evs, es, h1, h2, h3⟩ := h
  obtain ⟨hedge, ce, hce, rfl⟩ := mem_tablePoetGraph h1 h2
  cases List.mem_singleton.mp h3
  obtain ⟨m, hm1, hm2, hm3, hm4, hm5⟩ := edgeWord_some t syl delims input cps s e ce hce
  exact ⟨⟨hedge, m, hm1, hm2, hm3, ce.1, hm4, ce.2, hm5, rfl⟩, wordGraph_edges_ok t syl delims input cps (s, e) hedge⟩

end

end RimeModel.C07
