import RimeModel.C07.QueryLemmas
/-! C07: `Table::Query` reports every code the graph spells and the table can follow -/
namespace RimeModel.C07
open RimeModel.C06

variable (t : Table) (g : Graph)

/-- the table has a next level along every step of `c` (`TableQuery::Advance` succeeds) -/
def Followable (t : Table) (c : List Nat) : Prop := ∀ k, k < c.length → canAdvance t (c.take k) (c.getD k 0) = true

theorem spells_snoc_inv {g : Graph} (c : List Nat) : ∀ (y s e : Nat), Spells g (c ++ [y]) s e →
    ∃ m, Spells g c s m ∧ m < g.interpLen ∧ g.hasEdge m y e := by
  induction c with
  | nil =>
    intro y s e h
    cases h with
    | cons h1 h2 h3 => cases h3; exact ⟨s, Spells.nil _, h1, h2⟩
  | cons x c ih =>
    intro y s e h
    cases h with
    | cons h1 h2 h3 =>
      obtain ⟨m, hm, hl, he⟩ := ih y _ e h3
      exact ⟨m, Spells.cons h1 h2 hm, hl, he⟩

theorem mem_of_lookupSyll {idx : List (Nat × List Edge)} {y : Nat} {props : List Edge} (h : lookupSyll idx y = some props) :
    (y, props) ∈ idx := by
  obtain ⟨kv, hf, rfl⟩ := Option.map_eq_some_iff.mp h
  have hk := List.find?_some (p := fun kv : Nat × List Edge => kv.1 == y) hf
  exact beq_iff_eq.mp hk ▸ List.mem_of_find?_eq_some hf

theorem followable_snoc (t : Table) (c : List Nat) (z : Nat) (h : Followable t (c ++ [z])) :
    Followable t c ∧ canAdvance t c z = true := by
  constructor
  · intro k hk
    have := h k (List.length_append ▸ Nat.lt_add_right _ hk)
    rw [List.take_append_of_le_length (Nat.le_of_lt hk)] at this
    simpa [List.getD, List.getElem?_append_left hk] using this
  · have := h c.length (by simp)
    simpa [List.getD] using this

theorem expand_edge (st : Nat × TQ) (y e : Nat) (hlev : st.2.indexCode.length < indexDepth) (he : g.hasEdge st.1 y e) :
    (∀ acc, access t st.2 y = some acc → acc.exhausted = false → (e, acc) ∈ (expand t g st).1) ∧
    (e < g.interpLen → canAdvance t st.2.indexCode y = true →
      ∃ q', (e, q') ∈ (expand t g st).2 ∧ q'.indexCode = st.2.indexCode ++ [y]) := by
  obtain ⟨idx, props, p, hi, hl, hp, rfl⟩ := he
  unfold expand
  have hne : (st.2.level == indexDepth) = false := beq_eq_false_iff_ne.mpr (Nat.ne_of_lt hlev)
  simp only [hi, hne, Bool.false_eq_true, if_false, List.flatMap_map, List.mem_flatMap]
  constructor
  · intro acc ha hx
    refine ⟨(y, props), mem_of_lookupSyll hl, ?_⟩
    simp only [ha, hx, Bool.false_eq_true, if_false, List.mem_map]
    exact ⟨p, hp, rfl⟩
  · intro hm hc
    refine ⟨advance st.2 y p.cred, ⟨(y, props), mem_of_lookupSyll hl, ?_⟩, rfl⟩
    simp only [List.mem_filterMap]
    exact ⟨p, hp, by simp [hm, hc]⟩

theorem reach (start : Nat) (c : List Nat) : ∀ (m : Nat),
    Spells g c start m → m < g.interpLen → c.length ≤ indexDepth → Followable t c →
    ∃ q, (m, q) ∈ roundInput t g start c.length ∧ q.indexCode = c := by
  refine prefix_induction (fun c => ∀ m, Spells g c start m → m < g.interpLen → c.length ≤ indexDepth → Followable t c →
    ∃ q, (m, q) ∈ roundInput t g start c.length ∧ q.indexCode = c) c ?_ ?_
  · intro m hs _ _ _
    cases hs
    exact ⟨TQ.init, List.mem_singleton.mpr rfl, rfl⟩
  · intro c0 z _ _ ih m hs hm hlen hf
    rw [List.length_append] at hlen ⊢
    obtain ⟨m0, hs0, hm0, he⟩ := spells_snoc_inv c0 z start m hs
    obtain ⟨hf0, hcz⟩ := followable_snoc t c0 z hf
    obtain ⟨q0, hq0, hc0⟩ := ih m0 hs0 hm0 (Nat.le_of_succ_le hlen) hf0
    obtain ⟨q', hq', hcq⟩ := (expand_edge t g (m0, q0) z m (hc0 ▸ hlen) he).2 hm (hc0 ▸ hcz)
    exact ⟨q', (mem_round _ (·.2) _ t g).mpr ⟨(m0, q0), hq0, hq'⟩, hcq.trans (by rw [hc0])⟩

end RimeModel.C07
