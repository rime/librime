/-! C07: facts about lists and association lists that several of the models' loops share -/
namespace RimeModel.C07

theorem foldl_invariant {α β : Type} (I : β → Prop) (f : β → α → β) : ∀ (l : List α) (b : β), I b →
    (∀ b, I b → ∀ a ∈ l, I (f b a)) → I (l.foldl f b)
  | [], _, hb, _ => hb
  | a :: l, b, hb, h => foldl_invariant I f l (f b a) (h b hb a List.mem_cons_self)
      (fun b hb x hx => h b hb x (List.mem_cons_of_mem _ hx))

/-- two folds over the same list whose steps keep `Rel` end in `Rel` -/
theorem foldl_sim {α β γ : Type} (Rel : β → γ → Prop) (f : β → α → β) (g : γ → α → γ) (l : List α)
    (h : ∀ a ∈ l, ∀ b c, Rel b c → Rel (f b a) (g c a)) : ∀ b c, Rel b c → Rel (l.foldl f b) (l.foldl g c) := by
  induction l with
  | nil => exact fun _ _ h => h
  | cons a l ih =>
    exact fun b c hbc => ih (fun x hx => h x (List.mem_cons_of_mem _ hx)) _ _ (h a List.mem_cons_self b c hbc)

theorem prefix_induction {α : Type} (I : List α → Prop) (g : List α) (h0 : I [])
    (step : ∀ pre x post, g = pre ++ x :: post → I pre → I (pre ++ [x])) : I g := by
  have : ∀ post pre, g = pre ++ post → I pre → I g := by
    intro post
    induction post with
    | nil => intro pre hg h; rwa [hg, List.append_nil]
    | cons x post ih =>
      intro pre hg h
      exact ih (pre ++ [x]) (by rw [hg, List.append_assoc]; rfl) (step pre x post hg h)
  exact this g [] rfl h0

/-- looking up a key after `m[p] = v`, for any function with the two equations of `stSet` -/
theorem find_set {α : Type} (set : List (Nat × α) → Nat → α → List (Nat × α)) (hnil : ∀ p v, set [] p v = [(p, v)])
    (hcons : ∀ kv rest p v, set (kv :: rest) p v = if kv.1 == p then (p, v) :: rest else kv :: set rest p v)
    (m : List (Nat × α)) (p q : Nat) (v : α) :
    ((set m p v).find? (fun kv => kv.1 == q)).map (·.2)
      = if q = p then some v else (m.find? (fun kv => kv.1 == q)).map (·.2) := by
  induction m with
  | nil =>
    rw [hnil]
    by_cases h : q = p
    · simp [h]
    · have : ¬ p = q := fun e => h e.symm
      simp [h, this]
  | cons kv rest ih =>
    rw [hcons]
    by_cases hk : kv.1 = p
    · by_cases h : q = p
      · simp [hk, h]
      · have : ¬ p = q := fun e => h e.symm
        simp [hk, h, this]
    · by_cases hq : kv.1 = q
      · have : ¬ q = p := fun e => hk (hq.trans e)
        simp [hq, this]
      · simp [hk, hq, ih]

end RimeModel.C07
