import RimeModel.C07.TransLemmas
/-! C07: the word graph and the sentence translation of a table-style schema -/
namespace RimeModel.C07
open RimeModel.C06

theorem consumeDelims_delims (delims input : Bytes) (pos i : Nat) (h1 : pos ≤ i) (h2 : i < consumeDelims delims input pos) :
    ∃ b, input[i]? = some b ∧ delims.contains b = true := by
  unfold consumeDelims at h2
  have hlt := Nat.sub_lt_left_of_lt_add h1 h2
  have hpre := List.takeWhile_prefix (fun b => delims.contains b) (l := input.drop pos)
  refine ⟨_, ?_, List.all_eq_true.mp List.all_takeWhile _ (List.getElem_mem hlt)⟩
  rw [hpre.getElem hlt, ← List.getElem?_eq_getElem (Nat.lt_of_lt_of_le hlt hpre.length_le), List.getElem?_drop,
    Nat.add_sub_cancel' h1]

section
variable (t : Table) (syl : List Bytes) (delims input : Bytes) (cps : Nat → List PrismKey)

/-- what every edge of the word graph stands for: a key the prism found at its start, with words, followed by the
delimiters that come after it in the input -/
def EdgeOk (t : Table) (syl : List Bytes) (delims input : Bytes) (cps : Nat → List PrismKey) (e : Nat × Nat) : Prop :=
  ∃ m ∈ cps e.1, m.length ≠ 0 ∧ e.2 = e.1 + consumeDelims delims (input.drop e.1) m.length ∧
    (lookupWords t syl m.length [m]).isEmpty = false

theorem addMatch_edges (t : Table) (syl : List Bytes) (delims input : Bytes) (start : Nat) (w : WordGraph) (m : PrismKey) :
    (addMatch t syl delims input start w m).edges = w.edges ∨
    (m.length ≠ 0 ∧ (lookupWords t syl m.length [m]).isEmpty = false ∧
      (addMatch t syl delims input start w m).edges
        = w.edges ++ [(start, start + consumeDelims delims (input.drop start) m.length)]) := by
  rw [addMatch]
  by_cases h0 : (m.length == 0) = true
  · rw [if_pos h0]; exact Or.inl rfl
  · rw [if_neg h0]
    by_cases hc : (w.edges.contains (start, start + consumeDelims delims (input.drop start) m.length)) = true
    · exact Or.inl (by rw [if_pos hc])
    · by_cases he : (lookupWords t syl m.length [m]).isEmpty = true
      · exact Or.inl (by rw [if_neg hc, if_pos he])
      · exact Or.inr ⟨by simpa using h0, by simpa using he, by rw [if_neg hc, if_neg he]⟩

theorem wordGraph_edges_ok :
    ∀ e ∈ (wordGraph t syl delims input cps).edges, EdgeOk t syl delims input cps e := by
  refine foldl_invariant (fun w : WordGraph => ∀ e ∈ w.edges, EdgeOk t syl delims input cps e) _ _ _
    (fun _ h => absurd h List.not_mem_nil) (fun w hw s _ => ?_)
  unfold wordGraphStep
  split
  · refine foldl_invariant (fun w : WordGraph => ∀ e ∈ w.edges, EdgeOk t syl delims input cps e) _ _ w hw
      (fun w hw m hm e he => ?_)
    rcases addMatch_edges t syl delims input s w m with h | ⟨h0, hne, h⟩
    · exact hw e (h ▸ he)
    · rcases List.mem_append.mp (h ▸ he) with he | he
      · exact hw e he
      · cases List.mem_singleton.mp he
        exact ⟨m, List.mem_reverse.mp hm, h0, rfl, hne⟩
  · exact hw

/-- the words after the sentence -/
def sentenceWords (w : WordGraph) (start : Nat) : List Cand :=
  (keysOf w.collector).reverse.flatMap fun k =>
    (valuesAt w.collector k).flatMap fun chunks =>
      (drainAll { done := [], rest := chunks }).map fun ce =>
        { type := "table", start := start, endPos := start + k, text := ce.2.text }

theorem sentenceWords_shape (w : WordGraph) (start : Nat) :
    (sentenceWords w start).Pairwise (fun a b => b.endPos ≤ a.endPos) ∧
    ∀ c ∈ sentenceWords w start, c.type = "table" ∧ c.start = start := by
  constructor
  · refine descending_blocks id _ start _ (fun k c hc => ?_) ((List.map_id _).symm ▸ sortDedup_lt _)
    simp only [List.mem_flatMap, List.mem_map] at hc
    obtain ⟨_, _, _, _, rfl⟩ := hc
    rfl
  · intro c hc
    simp only [sentenceWords, List.mem_flatMap, List.mem_map] at hc
    obtain ⟨_, _, _, _, _, _, rfl⟩ := hc
    exact ⟨rfl, rfl⟩

end

end RimeModel.C07
