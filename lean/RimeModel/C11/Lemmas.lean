import RimeModel.C11.Model
/-! C11 — lemmas: the accounting of flushed units on raw op traces, what each group of ops the protocol emits
does to the commits the db stands for, the refinement relation and a kill inside an event, the store as a map. -/
namespace RimeModel.C11

theorem applyCommits_append (s : Store) (us vs : List (List Write)) :
    applyCommits s (us ++ vs) = applyCommits (applyCommits s us) vs :=
  List.foldl_append ..

theorem applyCommits_snoc (s : Store) (us : List (List Write)) (u : List Write) :
    applyCommits s (us ++ [u]) = applyWrites (applyCommits s us) u :=
  applyCommits_append s us [u]

theorem applyWrites_single (s : Store) (w : Write) : applyWrites s [w] = applyWrite s w := rfl

theorem Kv.run_nil (s : Kv) : s.run [] = s := rfl
theorem Kv.run_single (s : Kv) (o : Op) : s.run [o] = s.step o := rfl
theorem Kv.run_cons (s : Kv) (o : Op) (r : List Op) : s.run (o :: r) = (s.step o).run r := rfl
theorem Kv.run_append (s : Kv) (a b : List Op) : s.run (a ++ b) = (s.run a).run b :=
  List.foldl_append ..

theorem Acc.run_append (s : Acc) (a b : List Op) : s.run (a ++ b) = (s.run a).run b :=
  List.foldl_append ..

theorem Acc.step_kv (a : Acc) (o : Op) : (a.step o).kv = a.kv.step o := rfl

theorem Acc.run_kv (a : Acc) (ops : List Op) : (a.run ops).kv = a.kv.run ops := by
  induction ops generalizing a with
  | nil => rfl
  | cons o r ih => exact ih (a.step o)

theorem Acc.step_units (a : Acc) (o : Op) :
    ∃ us, (a.step o).flushed = a.flushed ++ us ∧ (a.step o).kv.durable = applyCommits a.kv.durable us := by
  obtain ⟨⟨durable, batch, inTxn⟩, flushed⟩ := a
  cases o with
  | begin | close | reopen | crash => exact ⟨[], (List.append_nil _).symm, rfl⟩
  | abort => cases inTxn <;> exact ⟨[], (List.append_nil _).symm, rfl⟩
  | commit =>
    cases inTxn
    · exact ⟨[], (List.append_nil _).symm, rfl⟩
    · exact ⟨[batch], rfl, rfl⟩
  | update k v =>
    cases inTxn
    · exact ⟨[[.put k v]], rfl, rfl⟩
    · exact ⟨[], (List.append_nil _).symm, rfl⟩
  | erase k =>
    cases inTxn
    · exact ⟨[[.del k]], rfl, rfl⟩
    · exact ⟨[], (List.append_nil _).symm, rfl⟩

theorem Acc.run_units (a : Acc) (ops : List Op) :
    ∃ us, (a.run ops).flushed = a.flushed ++ us ∧ (a.run ops).kv.durable = applyCommits a.kv.durable us := by
  induction ops generalizing a with
  | nil => exact ⟨[], (List.append_nil _).symm, rfl⟩
  | cons o r ih =>
    obtain ⟨us, h1, h2⟩ := a.step_units o
    obtain ⟨vs, h3, h4⟩ := ih (a.step o)
    exact ⟨us ++ vs, by rw [← List.append_assoc, ← h1]; exact h3, by rw [applyCommits_append, ← h2]; exact h4⟩

theorem Kv.step_toOp_inTxn {s : Kv} (h : s.inTxn = true) (w : Write) :
    s.step w.toOp = { s with batch := s.batch ++ [w] } := by
  cases w <;> simp only [Write.toOp, Kv.step, h, if_true]

theorem Kv.run_writes_inTxn (s : Kv) (ws : List Write) (h : s.inTxn = true) :
    s.run (ws.map Write.toOp) = { s with batch := s.batch ++ ws } := by
  induction ws generalizing s with
  | nil => rw [List.append_nil]; rfl
  | cons w r ih =>
    rw [List.map_cons, Kv.run_cons, Kv.step_toOp_inTxn h, ih { s with batch := s.batch ++ [w] } h, List.append_assoc]
    rfl

theorem Kv.inTxn_run_writes (s : Kv) (ws : List Write) : (s.run (ws.map Write.toOp)).inTxn = s.inTxn := by
  induction ws generalizing s with
  | nil => rfl
  | cons w r ih =>
    refine (ih (s.step w.toOp)).trans ?_
    cases w <;> simp only [Write.toOp, Kv.step] <;> split <;> rfl

theorem wfFrom_writes (t : Bool) (ws : List Write) (r : List Op) :
    wfFrom t (ws.map Write.toOp ++ r) = wfFrom t r := by
  induction ws with
  | nil => rfl
  | cons w ws ih => cases w <;> exact ih

theorem PState.step_kv (p : PState) (e : Event) : (p.step e).kv = p.kv.run (emitOne p e) := rfl

theorem PState.run_nil (p : PState) : p.run [] = p := rfl
theorem PState.run_cons (p : PState) (e : Event) (es : List Event) : p.run (e :: es) = (p.step e).run es := rfl
theorem PState.run_append (p : PState) (a b : List Event) : p.run (a ++ b) = (p.run a).run b := by
  simp [PState.run, List.foldl_append]
theorem Spec.run_nil (p : Spec) : p.run [] = p := rfl
theorem Spec.run_cons (p : Spec) (e : Event) (es : List Event) : p.run (e :: es) = (p.step e).run es := rfl
theorem Spec.run_append (p : Spec) (a b : List Event) : p.run (a ++ b) = (p.run a).run b := by
  simp [Spec.run, List.foldl_append]

theorem emit_append (p : PState) (a b : List Event) : emit p (a ++ b) = emit p a ++ emit (p.run a) b := by
  induction a generalizing p with
  | nil => rfl
  | cons e r ih => simp [emit, ih, PState.run_cons, List.append_assoc]

theorem emit_single (p : PState) (e : Event) : emit p [e] = emitOne p e := by simp [emit]

theorem run_kv_emit (p : PState) (es : List Event) : (p.run es).kv = p.kv.run (emit p es) := by
  induction es generalizing p with
  | nil => rfl
  | cons e r ih => rw [PState.run_cons, ih, emit, Kv.run_append, PState.step_kv]

theorem wfFrom_emitOne (p : PState) (e : Event) (r : List Op) :
    wfFrom p.kv.inTxn (emitOne p e ++ r) = wfFrom (p.step e).kv.inTxn r := by
  obtain ⟨⟨durable, batch, inTxn⟩, now, ttime⟩ := p
  cases e with
  | tick d => rfl
  | onCommit u ws =>
    have h (s : Kv) : wfFrom false (Op.begin :: ws.map Write.toOp ++ r) =
        wfFrom (s.run (Op.begin :: ws.map Write.toOp)).inTxn r :=
      (wfFrom_writes true ws r).trans (congrArg (wfFrom · r) (Kv.inTxn_run_writes (s.step .begin) ws).symm)
    cases inTxn
    · exact h _
    · exact h _
  | backspace u =>
    cases inTxn
    · rfl
    · show wfFrom true ((if withinWindow now (ttime u) then [Op.abort] else [Op.commit]) ++ r) =
        wfFrom (Kv.run _ (if withinWindow now (ttime u) then [Op.abort] else [Op.commit])).inTxn r
      by_cases hw : withinWindow now (ttime u) = true
      · rw [if_pos hw]; rfl
      · rw [if_neg hw]; rfl
  | write w => cases w <;> cases inTxn <;> rfl
  | finish | closeDb | openDb => cases inTxn <;> rfl

theorem Spec.done_prefix_step (s : Spec) (e : Event) : s.done <+: (s.step e).done := by
  obtain ⟨done, pending, now, ttime⟩ := s
  cases e with
  | tick | openDb => exact List.prefix_refl _
  | onCommit | finish | closeDb => exact List.prefix_append _ _
  | backspace u =>
    cases pending with
    | none => exact List.prefix_refl _
    | some b =>
      show done <+: (if withinWindow now (ttime u) then (⟨done, none, now, ttime⟩ : Spec)
        else ⟨done ++ [b], none, now, ttime⟩).done
      split
      · exact List.prefix_refl _
      · exact List.prefix_append _ _
  | write w =>
    cases pending with
    | none => exact List.prefix_append _ _
    | some b => exact List.prefix_refl _

theorem Spec.done_prefix_run (s : Spec) (es : List Event) : s.done <+: (s.run es).done := by
  induction es generalizing s with
  | nil => exact List.prefix_refl _
  | cons e r ih => exact (s.done_prefix_step e).trans (ih (s.step e))

theorem Spec.made_take_done (s : Spec) : s.made.take s.done.length = s.done :=
  List.take_left' rfl

theorem Kv.crash_durable (kv : Kv) (ops : List Op) :
    (kv.run (ops ++ [.crash])).durable = (kv.run ops).durable := by
  rw [Kv.run_append]; rfl

structure Rel (init : Store) (p : PState) (s : Spec) : Prop where
  txn : p.kv.inTxn = s.pending.isSome
  batch : ∀ b, s.pending = some b → p.kv.batch = b
  dur : p.kv.durable = applyCommits init s.done
  now : p.now = s.now
  ttime : p.ttime = s.ttime

theorem Rel.init (init : Store) (now : Nat) : Rel init (PState.init init now) (Spec.init now) :=
  ⟨rfl, nofun, rfl, rfl, rfl⟩

/-- the part of `Rel` that speaks of the db: `kv` stands for the commits `done` and the open commit `pending` -/
structure KvRel (init : Store) (kv : Kv) (done : List (List Write)) (pending : Option (List Write)) : Prop where
  txn : kv.inTxn = pending.isSome
  batch : ∀ b, pending = some b → kv.batch = b
  dur : kv.durable = applyCommits init done

theorem Rel.kvRel {init : Store} {p : PState} {s : Spec} (h : Rel init p s) : KvRel init p.kv s.done s.pending :=
  ⟨h.txn, h.batch, h.dur⟩

theorem Rel.of_kvRel {init : Store} {kv : Kv} {done : List (List Write)} {pending : Option (List Write)} {now : Nat}
    {ttime : Nat → Nat} (k : KvRel init kv done pending) : Rel init ⟨kv, now, ttime⟩ ⟨done, pending, now, ttime⟩ :=
  ⟨k.txn, k.batch, k.dur, rfl, rfl⟩

namespace KvRel
variable {init : Store} {kv : Kv} {done : List (List Write)} {pending : Option (List Write)} {b : List Write}

/-- `CommitPendingTransaction` is `Spec.flush` -/
theorem flush (h : KvRel init kv done pending) :
    KvRel init (kv.run (commitPending kv.inTxn)) (done ++ pending.toList) none := by
  obtain ⟨htx, hb, hd⟩ := h
  rw [htx]
  cases pending with
  | none => exact ⟨htx, nofun, (List.append_nil done).symm ▸ hd⟩
  | some b =>
    refine ⟨?_, nofun, ?_⟩
    · simp only [commitPending, Option.isSome_some, if_true, Kv.run_single, Kv.step, htx]; rfl
    · simp only [commitPending, Option.isSome_some, if_true, Kv.run_single, Kv.step, htx, hd, hb b rfl,
        Option.toList_some, applyCommits_snoc]

theorem begin (h : KvRel init kv done none) : KvRel init (kv.step .begin) done (some []) :=
  ⟨rfl, fun _ hb => Option.some.inj hb, h.dur⟩

theorem writes (h : KvRel init kv done (some b)) (ws : List Write) :
    KvRel init (kv.run (ws.map Write.toOp)) done (some (b ++ ws)) := by
  rw [Kv.run_writes_inTxn kv ws h.txn, h.batch b rfl]
  exact ⟨h.txn, fun _ hb => Option.some.inj hb, h.dur⟩

theorem abort (h : KvRel init kv done (some b)) : KvRel init (kv.step .abort) done none := by
  simp only [Kv.step, h.txn, Option.isSome_some, if_true]
  exact ⟨rfl, nofun, h.dur⟩

/-- an update outside a transaction is a commit of its own -/
theorem write (h : KvRel init kv done none) (w : Write) : KvRel init (kv.step w.toOp) (done ++ [[w]]) none := by
  have hi : kv.inTxn = false := h.txn
  refine ⟨?_, nofun, ?_⟩
  · cases w <;> simp only [Write.toOp, Kv.step, hi] <;> rfl
  · rw [applyCommits_snoc, ← h.dur]
    cases w <;> simp only [Write.toOp, Kv.step, hi] <;> rfl

theorem close (h : KvRel init kv done none) : KvRel init (kv.step .close) done none :=
  ⟨rfl, nofun, h.dur⟩

theorem reopen (h : KvRel init kv done none) : KvRel init (kv.step .reopen) done none :=
  ⟨h.txn, nofun, h.dur⟩

end KvRel

theorem Rel.step {init : Store} {p : PState} {s : Spec} (h : Rel init p s) (e : Event) :
    Rel init (p.step e) (s.step e) := by
  obtain ⟨⟨durable, batch, inTxn⟩, now, ttime⟩ := p
  obtain ⟨done, pending, _, _⟩ := s
  obtain ⟨htx, hb, hd, hn, ht⟩ := h
  cases hn
  cases ht
  cases htx
  have hk : KvRel init ⟨durable, batch, pending.isSome⟩ done pending := ⟨rfl, hb, hd⟩
  cases e with
  | tick d => exact .of_kvRel hk
  | onCommit u ws =>
    refine .of_kvRel ?_
    show KvRel init (Kv.run _ (commitPending pending.isSome ++ [.begin] ++ ws.map Write.toOp)) _ _
    rw [Kv.run_append, Kv.run_append]
    exact hk.flush.begin.writes ws
  | finish => exact .of_kvRel hk.flush
  | closeDb =>
    refine .of_kvRel ?_
    show KvRel init (Kv.run _ (commitPending pending.isSome ++ [.close])) _ _
    rw [Kv.run_append]
    exact hk.flush.close
  | backspace u =>
    cases pending with
    | none => exact .of_kvRel hk
    | some b =>
      show Rel init ⟨Kv.run _ (if withinWindow now (ttime u) then [.abort] else [.commit]), now, ttime⟩
        (if withinWindow now (ttime u) then ⟨done, none, now, ttime⟩ else ⟨done ++ [b], none, now, ttime⟩)
      by_cases hw : withinWindow now (ttime u) = true
      · rw [if_pos hw, if_pos hw]; exact .of_kvRel hk.abort
      · rw [if_neg hw, if_neg hw]; exact .of_kvRel hk.flush
  | write w =>
    cases pending with
    | none => exact .of_kvRel (hk.write w)
    | some b => exact .of_kvRel (hk.writes [w])
  | openDb =>
    cases pending with
    | none => exact .of_kvRel hk.reopen
    | some b => exact .of_kvRel hk

/-- an op list is quiet when no prefix of it moves `durable`; what an event emits after `commitPending` is quiet -/
theorem Kv.quiet_begin_writes (s : Kv) (ws : List Write) (m : Nat) :
    (s.run ((Op.begin :: ws.map Write.toOp).take m)).durable = s.durable := by
  cases m with
  | zero => rfl
  | succ m => rw [List.take_succ_cons, Kv.run_cons, ← List.map_take, Kv.run_writes_inTxn _ _ rfl]; rfl

theorem Kv.quiet_close (s : Kv) (m : Nat) : (s.run ([Op.close].take m)).durable = s.durable := by
  cases m with
  | zero => rfl
  | succ m => rw [List.take_succ_cons, List.take_nil]; rfl

theorem Kv.durable_flush_quiet (kv : Kv) {q : List Op} (hq : ∀ (s : Kv) m, (s.run (q.take m)).durable = s.durable)
    (m : Nat) :
    (kv.run ((commitPending kv.inTxn ++ q).take (m + 1))).durable = (kv.run (commitPending kv.inTxn)).durable := by
  cases kv.inTxn with
  | false => exact hq kv (m + 1)
  | true => exact hq (kv.step .commit) m

/-- a kill after at least one op of an event finds on disk exactly what the specification calls `done` after
that event: every event changes `durable` with its first op or not at all -/
theorem Rel.partial {init : Store} {p : PState} {s : Spec} (h : Rel init p s) (e : Event) (m : Nat) :
    (p.kv.run ((emitOne p e).take (m + 1))).durable = applyCommits init (s.step e).done := by
  have whole (hl : (emitOne p e).length ≤ 1) :
      (p.kv.run ((emitOne p e).take (m + 1))).durable = applyCommits init (s.step e).done := by
    rw [List.take_of_length_le (Nat.le_trans hl (Nat.le_add_left 1 m))]; exact (h.step e).dur
  cases e with
  | tick d => exact whole (Nat.zero_le 1)
  | onCommit u ws =>
    show (p.kv.run ((commitPending p.kv.inTxn ++ [Op.begin] ++ ws.map Write.toOp).take (m + 1))).durable = _
    rw [List.append_assoc, List.singleton_append, Kv.durable_flush_quiet p.kv (Kv.quiet_begin_writes · ws)]
    exact h.kvRel.flush.dur
  | finish => exact whole (by show (commitPending p.kv.inTxn).length ≤ 1; cases p.kv.inTxn <;> decide)
  | backspace u =>
    refine whole ?_
    show (if p.kv.inTxn then (if withinWindow p.now (p.ttime u) then [Op.abort] else [Op.commit]) else []).length ≤ 1
    split
    · split <;> exact Nat.le_refl 1
    · exact Nat.zero_le 1
  | write w => exact whole (Nat.le_refl 1)
  | closeDb =>
    show (p.kv.run ((commitPending p.kv.inTxn ++ [Op.close]).take (m + 1))).durable = _
    rw [Kv.durable_flush_quiet p.kv Kv.quiet_close]
    exact h.kvRel.flush.dur
  | openDb =>
    refine whole ?_
    show (if p.kv.inTxn then [] else [Op.reopen]).length ≤ 1
    split
    · exact Nat.zero_le 1
    · exact Nat.le_refl 1

theorem Rel.run {init : Store} {p : PState} {s : Spec} (h : Rel init p s) (es : List Event) :
    Rel init (p.run es) (s.run es) := by
  induction es generalizing p s with
  | nil => exact h
  | cons e r ih => exact ih (h.step e)

/-- a kill after `k` ops of the trace emitted for `es` from related states: `n` events have started by then, and
what is durable is what the specification calls done after them -/
theorem Rel.crash {init : Store} {p : PState} {s : Spec} (h : Rel init p s) (es : List Event) (k : Nat)
    (hk : k ≤ (emit p es).length) :
    ∃ n, n ≤ es.length ∧ (emit p (es.take (n - 1))).length ≤ k ∧ k ≤ (emit p (es.take n)).length ∧
      (p.kv.run ((emit p es).take k)).durable = applyCommits init (s.run (es.take n)).done := by
  induction es generalizing p s k with
  | nil =>
    cases Nat.le_zero.mp hk
    exact ⟨0, Nat.le_refl _, Nat.le_refl _, Nat.le_refl _, h.dur⟩
  | cons e r ih =>
    rw [emit, List.length_append] at hk
    rcases Nat.lt_or_ge (emitOne p e).length k with hgt | hle
    · -- the kill comes after the ops of `e`: count on from the state after `e`
      obtain ⟨n, hn, hlo, hhi, hd⟩ := ih (h.step e) (k - (emitOne p e).length) (Nat.sub_le_iff_le_add'.mpr hk)
      cases n with
      | zero => exact absurd hhi (Nat.not_le_of_gt (Nat.sub_pos_of_lt hgt))
      | succ n =>
        refine ⟨n + 2, Nat.succ_le_succ hn, ?_, ?_, ?_⟩
        · show (emitOne p e ++ emit (p.step e) (r.take n)).length ≤ k
          rw [List.length_append, Nat.add_comm]
          exact Nat.add_le_of_le_sub (Nat.le_of_lt hgt) hlo
        · show k ≤ (emitOne p e ++ emit (p.step e) (r.take (n + 1))).length
          rw [List.length_append]; exact Nat.sub_le_iff_le_add'.mp hhi
        · rw [emit, List.take_append, List.take_of_length_le (Nat.le_of_lt hgt), Kv.run_append]; exact hd
    · cases k with
      | zero => exact ⟨0, Nat.zero_le _, Nat.zero_le _, Nat.zero_le _, h.dur⟩
      | succ m =>
        refine ⟨1, Nat.succ_le_succ (Nat.zero_le _), Nat.zero_le _, ?_, ?_⟩
        · show m + 1 ≤ (emitOne p e ++ []).length
          rw [List.append_nil]; exact hle
        · rw [emit, List.take_append_of_le_length hle]; exact h.partial e m

theorem cmpBytes_eq_iff (a b : Bytes) : cmpBytes a b = .eq ↔ a = b := by
  induction a generalizing b with
  | nil => cases b <;> simp [cmpBytes]
  | cons x xs ih =>
    cases b with
    | nil => simp [cmpBytes]
    | cons y ys =>
      simp only [cmpBytes]
      by_cases h1 : x < y
      · simp [h1]
        intro h
        exact absurd (h ▸ h1) (UInt8.lt_irrefl _)
      · by_cases h2 : y < x
        · simp [h1, h2]
          intro h
          exact absurd (h ▸ h2) (UInt8.lt_irrefl _)
        · have : x = y := UInt8.le_antisymm (UInt8.not_lt.mp h2) (UInt8.not_lt.mp h1)
          simp [ih, this]

theorem cmpBytes_lt_ne (a b : Bytes) (h : cmpBytes a b = .lt) : a ≠ b := by
  intro e
  rw [(cmpBytes_eq_iff a b).mpr e] at h
  cases h
theorem cmpBytes_gt_ne (a b : Bytes) (h : cmpBytes a b = .gt) : a ≠ b := by
  intro e
  rw [(cmpBytes_eq_iff a b).mpr e] at h
  cases h

theorem Store.get_cons (a b : Bytes) (r : Store) (k : Bytes) :
    Store.get ((a, b) :: r) k = if a = k then some b else Store.get r k := by
  unfold Store.get
  rw [List.find?_cons]
  by_cases h : a = k
  · rw [if_pos h, beq_iff_eq.mpr h]; rfl
  · rw [if_neg h, beq_eq_false_iff_ne.mpr h]

theorem Store.get_put (s : Store) (k v k2 : Bytes) : (s.put k v).get k2 = if k2 = k then some v else s.get k2 := by
  induction s with
  | nil => simp only [Store.put, Store.get_cons, eq_comm]
  | cons e r ih =>
    obtain ⟨k', v'⟩ := e
    rw [Store.put]
    split <;> rename_i h
    · simp only [Store.get_cons, eq_comm]
    · cases (cmpBytes_eq_iff k k').mp h
      by_cases hk : k = k2 <;> simp [Store.get_cons, hk, eq_comm (a := k2)]
    · have : k' ≠ k := (cmpBytes_gt_ne k k' h).symm
      rw [Store.get_cons, Store.get_cons, ih]
      by_cases hk : k2 = k <;> simp [hk, this]

theorem Store.get_erase (s : Store) (k k2 : Bytes) : (s.erase k).get k2 = if k2 = k then none else s.get k2 := by
  unfold Store.get Store.erase
  rw [List.find?_filter]
  by_cases hk : k2 = k
  · rw [if_pos hk, List.find?_eq_none.mpr (fun e _ => by simp [hk])]; rfl
  · rw [if_neg hk]
    congr; funext e
    by_cases he : e.1 = k2 <;> simp [he, hk]

theorem lastWrite_append_single (b : List Write) (w : Write) (k : Bytes) :
    lastWrite (b ++ [w]) k = if w.key = k then some w else lastWrite b k := by
  induction b with
  | nil => simp [lastWrite]
  | cons x r ih =>
    simp only [List.cons_append, lastWrite, ih]
    by_cases h : w.key = k
    · simp [h]
    · simp [h]

/-- applying a batch and then reading the db is reading through the overlay -/
theorem get_applyWrites (d : Store) (b : List Write) (k : Bytes) :
    (applyWrites d b).get k =
      match lastWrite b k with
      | some (.put _ v) => some v
      | some (.del _) => none
      | none => d.get k := by
  induction b generalizing d with
  | nil => simp [applyWrites, lastWrite]
  | cons w r ih =>
    have ih' := ih (applyWrite d w)
    simp only [applyWrites, List.foldl_cons] at ih' ⊢
    rw [ih']
    simp only [lastWrite]
    cases hl : lastWrite r k with
    | some x => cases x <;> rfl
    | none =>
      cases w with
      | put k' v =>
        by_cases h : k' = k
        · subst h; simp [Write.key, applyWrite, Store.get_put]
        · simp [Write.key, h, applyWrite, Store.get_put, Ne.symm h]
      | del k' =>
        by_cases h : k' = k
        · subst h; simp [Write.key, applyWrite, Store.get_erase]
        · simp [Write.key, h, applyWrite, Store.get_erase, Ne.symm h]

/-! ### a concrete history for the non-vacuity examples in `Props/C11.lean` -/
namespace Example
def k1 : Bytes := [106, 97, 32, 9, 65]
def k2 : Bytes := [98, 105, 32, 9, 66]
def tickKey : Bytes := metaKey [47, 116, 105, 99, 107]
def c1 : List Write := [.put tickKey [49], .put k1 [49]]
def c2 : List Write := [.put tickKey [50], .put k2 [49]]
/-- open, initialise the tick, a commit flushed by the next key, a commit taken back with BackSpace one second
later, the same commit again and BackSpace after five seconds (flush), a commit by a second session, close -/
def hist : List Event :=
  [.openDb, .write (.put tickKey [48]), .onCommit 0 c1, .finish, .onCommit 0 c2, .tick 1, .backspace 0,
   .onCommit 0 c2, .tick 5, .backspace 0, .onCommit 1 c1, .closeDb]
end Example

end RimeModel.C11
