import RimeModel.C10.Lemmas
/-! C10 — the ranking law: the assumed order law of the weight function (`Gain`), lists sorted by weight (ties in any
order; `sortByWeight` yields one), the entries in front of a key, the bridge from two states of the user db to the
candidate lists, and the shape of `scriptTop` for exact matches. -/
namespace RimeModel.C10

variable {D : Type}

/-- the order law the ranking theorem needs of the weight function: if the committed record (`vT` before,
`vT'` after; present tick `P` before, `P'` after) was not outweighed by a record `v` that the commit leaves
alone, it outweighs `v` strictly afterwards.  For the real formulas: the committed entry's decayed `dee`
gains 1 while every other entry only decays, uniformly (dynamics.h); sampled numerically by the harness. -/
def Gain (ops : DeeOps D) (P P' : Nat) (vT vT' : Value D) : Prop :=
  ∀ v : Value D, ops.weight v P ≤ ops.weight vT P → ops.weight v P' < ops.weight vT' P'

/-- sorted by weight, descending; the order among equal weights is left open -/
def SortedDesc (l : List UCand) : Prop := l.Pairwise (fun a b => b.weight ≤ a.weight)

theorem insertByWeight_sorted (x : UCand) (l : List UCand) (h : SortedDesc l) : SortedDesc (insertByWeight x l) := by
  fun_induction insertByWeight x l with
  | case1 => exact List.pairwise_singleton _ _
  | case2 y ys hle =>
    refine List.pairwise_cons.2 ⟨fun b hb => ?_, h⟩
    rcases List.mem_cons.1 hb with e | e
    · rw [e]; exact hle
    · exact Int.le_trans ((List.pairwise_cons.1 h).1 b e) hle
  | case3 y ys hnle ih =>
    have h' := List.pairwise_cons.1 h
    refine List.pairwise_cons.2 ⟨fun b hb => ?_, ih h'.2⟩
    rcases List.mem_cons.1 ((insertByWeight_perm x ys).mem_iff.1 hb) with e | e
    · rw [e]; exact Int.le_of_lt (Int.not_le.1 hnle)
    · exact h'.1 b e

theorem sortByWeight_sorted (l : List UCand) : SortedDesc (sortByWeight l) := by
  induction l with
  | nil => exact List.Pairwise.nil
  | cons x xs ih => exact insertByWeight_sorted x _ ih

/-- the entries in front of the first one with key `T` -/
def ahead (l : List UCand) (T : Key) : List UCand := l.takeWhile (fun c => decide (c.key ≠ T))

theorem ahead_cons (x : UCand) (xs : List UCand) (T : Key) :
    ahead (x :: xs) T = if x.key = T then [] else x :: ahead xs T := by
  unfold ahead
  rw [List.takeWhile_cons]
  by_cases h : x.key = T <;> simp [h]

theorem mem_ahead (l : List UCand) (T : Key) (y : UCand) (hy : y ∈ ahead l T) : y ∈ l ∧ y.key ≠ T :=
  ⟨List.takeWhile_subset _ hy, of_decide_eq_true (List.all_eq_true.1 List.all_takeWhile y hy)⟩

theorem le_of_mem_ahead (l : List UCand) (T : Key) (t y : UCand) (hs : SortedDesc l) (ht : t ∈ l) (hk : t.key = T)
    (hy : y ∈ ahead l T) : t.weight ≤ y.weight := by
  have e : ahead l T ++ l.dropWhile (fun c => decide (c.key ≠ T)) = l := List.takeWhile_append_dropWhile
  rw [← e] at hs ht
  -- `t` is not in front of `T`, so it comes after `y`
  exact (List.pairwise_append.1 hs).2.2 y hy t ((List.mem_append.1 ht).resolve_left (fun h => (mem_ahead l T t h).2 hk))

theorem mem_ahead_or_le (l : List UCand) (T : Key) (y : UCand) (hs : SortedDesc l) (hy : y ∈ l) :
    y ∈ ahead l T ∨ ∃ t ∈ l, t.key = T ∧ y.weight ≤ t.weight := by
  induction l with
  | nil => cases hy
  | cons x xs ih =>
    rw [SortedDesc, List.pairwise_cons] at hs
    rw [ahead_cons]
    by_cases h : x.key = T
    · refine Or.inr ⟨x, List.mem_cons_self, h, ?_⟩
      rcases List.mem_cons.1 hy with e | e
      · rw [e]; exact Int.le_refl _
      · exact hs.1 y e
    · rw [if_neg h]
      rcases List.mem_cons.1 hy with e | e
      · rw [e]; exact Or.inl List.mem_cons_self
      · rcases ih hs.2 e with h1 | ⟨t, ht, hk, hw⟩
        · exact Or.inl (List.mem_cons_of_mem _ h1)
        · exact Or.inr ⟨t, List.mem_cons_of_mem _ ht, hk, hw⟩

theorem Key.eq_iff_text (a b : Key) (h : a.code = b.code) : a = b ↔ a.text = b.text := by
  cases a
  cases b
  simp_all

/-- within one code, the position of a text among the user candidates is the position of its key -/
theorem findIdx_text_eq_key (U : List UCand) (T : Key) (hcode : ∀ c ∈ U, c.key.code = T.code) :
    (U.map UCand.toCand).findIdx (fun c => decide (c.text = T.text)) = (ahead U T).length := by
  induction U with
  | nil => rfl
  | cons x xs ih =>
    have hx := Key.eq_iff_text x.key T (hcode x List.mem_cons_self)
    rw [List.map_cons, List.findIdx_cons, ahead_cons, ih (fun c hc => hcode c (List.mem_cons_of_mem _ hc))]
    by_cases h : x.key = T
    · simp [UCand.toCand, h]
    · simp [UCand.toCand, h, ← hx]

/-- **ranking core.**  `Ub`/`Ua`: the user candidates of the whole-input code before / after the commit of `T`
(each sorted by weight, any order among equal weights); `pre`: a sentence in front (only possible when there
was no user candidate); `Rb`/`Ra`: whatever follows (system phrases, completions).  Then the first candidate
with `T`'s text comes no later after the commit than before (a list without the text counts as position =
length). -/
theorem rank_core (Ub Ua : List UCand) (T : Key) (t : UCand) (pre Rb Ra : List Cand)
    (hsb : SortedDesc Ub) (hsa : SortedDesc Ua) (hna : (Ua.map (·.key)).Nodup)
    (hcodeb : ∀ c ∈ Ub, c.key.code = T.code) (hcodea : ∀ c ∈ Ua, c.key.code = T.code)
    (ht : t ∈ Ua) (hk : t.key = T)
    (hkeep : ∀ c ∈ Ua, c.key ≠ T → ∃ c0 ∈ Ub, c0.key = c.key)
    (hgain : ∀ t0 ∈ Ub, t0.key = T → ∀ c ∈ Ua, c.key ≠ T → ∀ c0 ∈ Ub, c0.key = c.key →
      c0.weight ≤ t0.weight → c.weight < t.weight)
    (hpre : pre = [] ∨ Ub = []) :
    (Ua.map UCand.toCand ++ Ra).findIdx (fun c => decide (c.text = T.text)) ≤
      (pre ++ (Ub.map UCand.toCand ++ Rb)).findIdx (fun c => decide (c.text = T.text)) := by
  -- left side: found among the user candidates, at |ahead Ua T|
  have hfa : (Ua.map UCand.toCand).findIdx (fun c => decide (c.text = T.text)) < (Ua.map UCand.toCand).length :=
    List.findIdx_lt_length_of_exists ⟨t.toCand, List.mem_map.2 ⟨t, ht, rfl⟩, decide_eq_true (congrArg Key.text hk)⟩
  rw [List.findIdx_append, if_pos hfa, findIdx_text_eq_key Ua T hcodea]
  -- the core: every entry in front of `T` afterwards was in front of `T` before
  have hsub : (ahead Ua T).map (·.key) ⊆ (ahead Ub T).map (·.key) := by
    intro k hkm
    obtain ⟨y, hy, rfl⟩ := List.mem_map.1 hkm
    obtain ⟨hyU, hyne⟩ := mem_ahead Ua T y hy
    obtain ⟨y0, hy0, hky0⟩ := hkeep y hyU hyne
    -- `y0` is in front of `T`, otherwise the gain law contradicts `t.weight ≤ y.weight`
    rcases mem_ahead_or_le Ub T y0 hsb hy0 with h1 | ⟨t0, ht0, hk0, hw⟩
    · exact List.mem_map.2 ⟨y0, h1, hky0⟩
    · exact absurd (le_of_mem_ahead Ua T t y hsa ht hk hy) (Int.not_le.2 (hgain t0 ht0 hk0 y hyU hyne y0 hy0 hky0 hw))
  have hlen := List.Nodup.length_le_of_subset
    (List.Nodup.sublist (List.Sublist.map _ (List.takeWhile_sublist _)) hna) hsub
  rw [List.length_map, List.length_map] at hlen
  rcases hpre with h | h
  · -- right side: at |ahead Ub T| among the user candidates, or behind all of them
    rw [← findIdx_text_eq_key Ub T hcodeb] at hlen
    rw [h, List.nil_append, List.findIdx_append]
    split
    · exact hlen
    · exact Nat.le_trans hlen (Nat.le_trans List.findIdx_le_length (Nat.le_add_left _ _))
  · rw [h] at hlen
    exact Nat.le_trans hlen (Nat.zero_le _)

theorem userExact_keys_nodup (ops : DeeOps D) (db : Db D) (hn : db.keys.Nodup) (present : Nat) (code : Code) :
    ((userExact ops db present code).map (·.key)).Nodup := by
  have hp : db.Pairwise (fun a b => a.1 ≠ b.1) := List.pairwise_map.1 hn
  refine List.pairwise_map.2 ((hp.filter _).filterMap _ ?_)
  intro a a' hne c hc c' hc'
  rw [((createDictEntry_eq_some ops present true a c).1 hc).2, ((createDictEntry_eq_some ops present true a' c').1 hc').2]
  exact hne

theorem mem_userExact (ops : DeeOps D) (db : Db D) (hn : db.keys.Nodup) (present : Nat) (code : Code) (c : UCand) :
    c ∈ userExact ops db present code ↔
      ∃ v, db.get? c.key = some v ∧ c.key.code = code ∧ 0 ≤ v.commits ∧ c.weight = ops.weight v present ∧ c.exact = true := by
  constructor
  · intro hc
    obtain ⟨p, hp, hc⟩ := List.mem_filterMap.1 hc
    rw [List.mem_filter, decide_eq_true_eq] at hp
    obtain ⟨hv, rfl⟩ := (createDictEntry_eq_some ops present true p c).1 hc
    exact ⟨p.2, Db.get?_of_mem db hn p.1 p.2 hp.1, hp.2, hv, rfl, rfl⟩
  · rintro ⟨v, hg, rfl, hv, hw, he⟩
    have hm := mem_userExact_of_get? ops db present c.key v hg hv
    rwa [← hw, ← he] at hm

/-- the hypotheses of `rank_core`, derived from two states of the user db that differ, within `T`'s code, only
in `T`'s record -/
theorem rank_bridge (ops : DeeOps D) (db db' : Db D) (hn : db.keys.Nodup) (hn' : db'.keys.Nodup)
    (P P' : Nat) (T : Key) (vT' : Value D) (hT' : db'.get? T = some vT') (hvis : 0 ≤ vT'.commits)
    (hframe : ∀ k, k.code = T.code → k ≠ T → db'.get? k = db.get? k)
    (hgain : ∀ vT, db.get? T = some vT → Gain ops P P' vT vT')
    (Ub Ua : List UCand) (hpb : Ub.Perm (userExact ops db P T.code)) (hpa : Ua.Perm (userExact ops db' P' T.code)) :
    (Ub.map (·.key)).Nodup ∧ (Ua.map (·.key)).Nodup ∧
    (∀ c ∈ Ub, c.key.code = T.code ∧ c.exact = true) ∧ (∀ c ∈ Ua, c.key.code = T.code ∧ c.exact = true) ∧
    (∃ t ∈ Ua, t.key = T ∧
      (∀ c ∈ Ua, c.key ≠ T → ∃ c0 ∈ Ub, c0.key = c.key) ∧
      (∀ t0 ∈ Ub, t0.key = T → ∀ c ∈ Ua, c.key ≠ T → ∀ c0 ∈ Ub, c0.key = c.key →
        c0.weight ≤ t0.weight → c.weight < t.weight)) := by
  have mb : ∀ c, c ∈ Ub ↔ _ := fun c => hpb.mem_iff.trans (mem_userExact ops db hn P T.code c)
  have ma : ∀ c, c ∈ Ua ↔ _ := fun c => hpa.mem_iff.trans (mem_userExact ops db' hn' P' T.code c)
  refine ⟨(List.Perm.nodup_iff (hpb.map _)).2 (userExact_keys_nodup ops db hn P T.code),
    (List.Perm.nodup_iff (hpa.map _)).2 (userExact_keys_nodup ops db' hn' P' T.code), ?_, ?_,
    { key := T, weight := ops.weight vT' P', exact := true }, (ma _).2 ⟨vT', hT', rfl, hvis, rfl, rfl⟩, rfl, ?_, ?_⟩
  · intro c hc
    obtain ⟨v, _, h, _, _, he⟩ := (mb c).1 hc
    exact ⟨h, he⟩
  · intro c hc
    obtain ⟨v, _, h, _, _, he⟩ := (ma c).1 hc
    exact ⟨h, he⟩
  · intro c hc hne
    obtain ⟨v, hg, hcode, hv, _, _⟩ := (ma c).1 hc
    rw [hframe c.key hcode hne] at hg
    exact ⟨{ key := c.key, weight := ops.weight v P, exact := true }, (mb _).2 ⟨v, hg, hcode, hv, rfl, rfl⟩, rfl⟩
  · intro t0 ht0 hk0 c hc hne c0 hc0 hkc hle
    obtain ⟨vT, hgT, _, _, hwT, _⟩ := (mb t0).1 ht0
    obtain ⟨v, hg, hcode, _, hw, _⟩ := (ma c).1 hc
    obtain ⟨v0, hg0, _, _, hw0, _⟩ := (mb c0).1 hc0
    -- `c` and `c0` are made of one and the same record
    rw [hframe c.key hcode hne, ← hkc, hg0] at hg
    rw [hk0] at hgT
    rw [hw0, hwT] at hle
    rw [hw, ← Option.some.inj hg]
    exact hgain vT hgT v0 hle

/-- with exact matches only, the top of a script translation is `sentence? ++ user ++ system`, and a sentence
is there only when there is no user candidate -/
theorem scriptTop_exact (sentence : Option Bytes) (U : List UCand) (S : List Cand) (sfe : Bool)
    (hex : ∀ c ∈ U, c.exact = true) :
    ∃ pre, scriptTop true sentence U S sfe = pre ++ (U.map UCand.toCand ++ S) ∧ (pre = [] ∨ U = []) := by
  cases U with
  | nil => exact ⟨_, rfl, Or.inr rfl⟩
  | cons x xs =>
    have hx : x.exact = true := hex x List.mem_cons_self
    refine ⟨[], ?_, Or.inl rfl⟩
    cases S <;> simp [scriptTop, scriptGroup, hx]

end RimeModel.C10
