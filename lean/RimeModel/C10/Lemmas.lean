import RimeModel.C10.Model
/-! C10 — the key → value map; the write batch seen as the db it stands for (`UD.pending`): where nothing is pending outside
a transaction (`UD.Closed`, kept by every operation) `Fetch`, the writes and `CommitPendingTransaction` all act on that one
db, so `UpdateEntry` and a whole commit are sequences of `Db.put`; lookup; commit-entry grouping. -/
namespace RimeModel.C10

variable {D : Type}

theorem Db.get?_cons (p : Key × Value D) (db : Db D) (k : Key) :
    Db.get? (p :: db) k = if p.1 = k then some p.2 else Db.get? db k := rfl

theorem Db.get?_filter_ne (db : Db D) (k k' : Key) (h : k' ≠ k) :
    Db.get? (db.filter (fun p => p.1 ≠ k)) k' = Db.get? db k' := by
  induction db with
  | nil => rfl
  | cons p rest ih =>
    rw [List.filter_cons]
    split
    · rw [Db.get?_cons, Db.get?_cons, ih]
    · rename_i hp
      have hpk : p.1 = k := by simpa using hp
      rw [Db.get?_cons, if_neg (fun e => h (e.symm.trans hpk)), ih]

theorem Db.get?_put (db : Db D) (k k' : Key) (v : Value D) :
    (db.put k v).get? k' = if k = k' then some v else db.get? k' := by
  unfold Db.put
  rw [Db.get?_cons]
  split
  · rfl
  · rename_i h
    exact Db.get?_filter_ne db k k' (fun e => h e.symm)

theorem Db.count_put (db : Db D) (k k' : Key) (v : Value D) :
    (db.put k v).count k' = if k = k' then v.commits else db.count k' := by
  unfold Db.count
  rw [Db.get?_put]
  by_cases h : k = k'
  · rw [if_pos h, if_pos h]
  · rw [if_neg h, if_neg h]

theorem Db.count_put_ne (db : Db D) (k k' : Key) (v : Value D) (h : k' ≠ k) :
    (db.put k v).count k' = db.count k' := by
  rw [Db.count_put, if_neg (fun e => h e.symm)]

theorem Db.get?_of_mem (db : Db D) (hn : db.keys.Nodup) (k : Key) (v : Value D) (h : (k, v) ∈ db) :
    db.get? k = some v := by
  induction db with
  | nil => cases h
  | cons p rest ih =>
    rw [Db.keys, List.map_cons, List.nodup_cons] at hn
    rw [Db.get?_cons]
    rcases List.mem_cons.1 h with e | hm
    · rw [← e, if_pos rfl]
    · rw [if_neg (fun e : p.1 = k => hn.1 (by rw [e]; exact List.mem_map.2 ⟨(k, v), hm, rfl⟩)), ih hn.2 hm]

theorem Db.mem_of_get? (db : Db D) (k : Key) (v : Value D) (h : db.get? k = some v) : (k, v) ∈ db := by
  revert h
  fun_induction Db.get? db k with
  | case1 => exact (nomatch ·)
  | case2 p rest hp => exact fun h => hp ▸ Option.some.inj h ▸ List.mem_cons_self
  | case3 p rest hp ih => exact fun h => List.mem_cons_of_mem _ (ih h)

theorem Db.keys_put_nodup (db : Db D) (hn : db.keys.Nodup) (k : Key) (v : Value D) : (db.put k v).keys.Nodup := by
  rw [Db.put, Db.keys, List.map_cons, List.nodup_cons]
  constructor
  · intro hm
    rcases List.mem_map.1 hm with ⟨p, hp, e⟩
    simpa [e] using (List.mem_filter.1 hp).2
  · exact List.Nodup.sublist (List.Sublist.map _ List.filter_sublist) hn

theorem get?_of_count_pos (db : Db D) (k : Key) (h : 0 < db.count k) : ∃ v, db.get? k = some v ∧ 0 < v.commits := by
  unfold Db.count at h
  cases hg : db.get? k with
  | none => rw [hg] at h; cases h
  | some v => rw [hg] at h; exact ⟨v, rfl, h⟩

theorem lastEntry_append (b1 b2 : List (Put D)) (k : Key) :
    lastEntry (b1 ++ b2) k = match lastEntry b2 k with
      | some v => some v
      | none => lastEntry b1 k := by
  induction b1 with
  | nil => cases h : lastEntry b2 k <;> simp [lastEntry, h]
  | cons p rest ih =>
    simp only [List.cons_append, lastEntry, ih]
    cases lastEntry b2 k <;> rfl

theorem applyBatch_get? (b : List (Put D)) (s : Db D × Nat) (k : Key) :
    (applyBatch s b).1.get? k = match lastEntry b k with
      | some v => some v
      | none => s.1.get? k := by
  fun_induction lastEntry b k generalizing s with
  | case1 => rfl
  | case2 p rest v hv ih =>
    rw [hv] at ih
    exact ih _
  | case3 rest hn v ih =>
    rw [hn] at ih
    exact (ih _).trans ((Db.get?_put s.1 k k v).trans (if_pos rfl))
  | case4 rest hn k' v hk ih =>
    rw [hn] at ih
    exact (ih _).trans ((Db.get?_put s.1 k' k v).trans (if_neg hk))
  | case5 rest hn n ih =>
    rw [hn] at ih
    exact ih _

theorem applyBatch_keys_nodup (b : List (Put D)) (s : Db D × Nat) (hn : s.1.keys.Nodup) :
    (applyBatch s b).1.keys.Nodup := by
  induction b generalizing s with
  | nil => exact hn
  | cons p rest ih =>
    apply ih (applyPut s p)
    cases p with
    | entry k v => exact Db.keys_put_nodup s.1 hn k v
    | tick n => exact hn

/-- outside a transaction nothing is pending -/
def UD.Closed (u : UD D) : Prop := u.inTxn = false → u.batch = []

/-- the durable state with the write batch applied: what `CommitPendingTransaction` would store -/
def UD.pending (u : UD D) : Db D × Nat := applyBatch (u.durable, u.metaTick) u.batch

/-- stored count as `Fetch` sees it: 0 for an absent record -/
def UD.fetchCount (u : UD D) (k : Key) : Int :=
  match u.fetch k with
  | some v => v.commits
  | none => 0

theorem fetch_eq_pending (u : UD D) (k : Key) : u.fetch k = u.pending.1.get? k :=
  (applyBatch_get? u.batch (u.durable, u.metaTick) k).symm

theorem fetchCount_eq_pending (u : UD D) (k : Key) : u.fetchCount k = u.pending.1.count k := by
  unfold UD.fetchCount Db.count
  rw [fetch_eq_pending]
  rfl

theorem pending_of_not_inTxn (u : UD D) (hc : u.Closed) (h : u.inTxn = false) : u.pending = (u.durable, u.metaTick) := by
  unfold UD.pending
  rw [hc h]
  rfl

theorem UD.write_inTxn (u : UD D) (p : Put D) (h : u.inTxn = true) :
    u.write p = { u with batch := u.batch ++ [p] } := by
  unfold UD.write
  rw [if_pos h]

theorem write_inTxn_eq (u : UD D) (p : Put D) : (u.write p).inTxn = u.inTxn := by
  fun_cases UD.write u p with
  | _ => rfl

theorem closed_of_inTxn (u : UD D) (h : u.inTxn = true) : u.Closed :=
  fun hf => Bool.noConfusion (h.symm.trans hf)

theorem closed_write (u : UD D) (p : Put D) (h : u.Closed) : (u.write p).Closed := by
  fun_cases UD.write u p with
  | case1 ht => exact closed_of_inTxn _ ht
  | case2 => exact h

theorem pending_write (u : UD D) (p : Put D) (hc : u.Closed) : (u.write p).pending = applyPut u.pending p := by
  fun_cases UD.write u p with
  | case1 ht => exact List.foldl_append
  | case2 hf =>
    unfold UD.pending
    rw [hc (Bool.eq_false_iff.2 hf)]
    rfl

theorem commitPending_durable (u : UD D) (hc : u.Closed) : u.commitPending.durable = u.pending.1 := by
  fun_cases UD.commitPending u with
  | case1 => rfl
  | case2 h => rw [pending_of_not_inTxn u hc (Bool.eq_false_iff.2 h)]

theorem commitPending_keys_nodup (u : UD D) (hn : u.durable.keys.Nodup) : u.commitPending.durable.keys.Nodup := by
  fun_cases UD.commitPending u with
  | case1 => exact applyBatch_keys_nodup _ _ hn
  | case2 => exact hn

theorem closed_empty : (UD.empty : UD D).Closed := fun _ => rfl

theorem closed_ite {c : Prop} [Decidable c] {a b : UD D} (ha : a.Closed) (hb : b.Closed) :
    (if c then a else b).Closed := by
  split <;> assumption

theorem closed_commitPending (u : UD D) (h : u.Closed) : u.commitPending.Closed :=
  closed_ite (fun _ => rfl) h

theorem closed_newTransaction (u : UD D) (now : Int) : (u.newTransaction now).Closed :=
  closed_of_inTxn _ rfl

theorem closed_revert (u : UD D) (now : Int) (h : u.Closed) : (u.revert now).1.Closed := by
  fun_cases UD.revert u now with
  | case3 => exact fun _ => rfl
  | _ => exact h

/-- the stored count `UpdateEntry(entry, n)` writes, as a function of the fetched count -/
def newCount (c n : Int) : Int :=
  if n > 0 then (if c < 0 then -c else c) + n
  else if n = 0 then c
  else min (-1) (-c)

theorem newCount_zero (c : Int) : newCount c 0 = c := rfl

theorem newCount_one (c : Int) : newCount c 1 = ((c.natAbs + 1 : Nat) : Int) := by
  show (if c < 0 then -c else c) + 1 = _
  rw [Int.natCast_add]
  split
  · next h =>
    rw [Int.ofNat_natAbs_of_nonpos (Int.le_of_lt h)]
    rfl
  · next h =>
    rw [Int.natAbs_of_nonneg (Int.not_lt.1 h)]
    rfl

theorem baseValue_commits (ops : DeeOps D) (tick : Nat) (old : Option (Value D)) :
    (baseValue ops tick old).commits = match old with
      | some v => v.commits
      | none => 0 := by
  cases old with
  | none => rfl
  | some v => exact (apply_ite Value.commits _ _ _).trans (ite_self _)

theorem updateValue_commits (ops : DeeOps D) (tick : Nat) (old : Option (Value D)) (n : Int) :
    (updateValue ops tick old n).1.commits =
      newCount (match old with
        | some v => v.commits
        | none => 0) n := by
  rw [← baseValue_commits ops tick old]
  unfold updateValue newCount
  rw [apply_ite Prod.fst, apply_ite Prod.fst, apply_ite Value.commits, apply_ite Value.commits]
  rfl

/-- the two writes `UpdateEntry` ends with: the bumped tick count (for a commit), then the record -/
def UD.store (u : UD D) (k : Key) (r : Value D × Nat) (n : Int) : UD D :=
  (if n > 0 then ({ u with tick := r.2 } : UD D).write (Put.tick r.2) else u).write (Put.entry k r.1)

theorem store_inTxn (u : UD D) (k : Key) (r : Value D × Nat) (n : Int) : (u.store k r n).inTxn = u.inTxn := by
  unfold UD.store
  rw [write_inTxn_eq, apply_ite UD.inTxn, write_inTxn_eq]
  exact ite_self _

theorem pending_store (u : UD D) (k : Key) (r : Value D × Nat) (n : Int) (h : u.Closed) :
    (u.store k r n).pending.1 = u.pending.1.put k r.1 := by
  unfold UD.store
  split
  · rw [pending_write _ _ (closed_write { u with tick := r.2 } _ h), pending_write { u with tick := r.2 } _ h]
    rfl
  · rw [pending_write _ _ h]
    rfl

theorem fetch_store (u : UD D) (k : Key) (r : Value D × Nat) (n : Int) (h : u.Closed) (k' : Key) :
    (u.store k r n).fetch k' = if k = k' then some r.1 else u.fetch k' := by
  rw [fetch_eq_pending, pending_store u k r n h, Db.get?_put, fetch_eq_pending]

theorem store_durable (u : UD D) (k : Key) (r : Value D × Nat) (n : Int) (h : u.inTxn = true) :
    (u.store k r n).durable = u.durable := by
  unfold UD.store
  split <;> simp [UD.write, h]

theorem closed_updateEntry (ops : DeeOps D) (u : UD D) (k : Key) (n : Int) (h : u.Closed) :
    (u.updateEntry ops k n).Closed :=
  closed_write _ _ (closed_ite (closed_write { u with tick := _ } _ h) h)

theorem pending_updateEntry (ops : DeeOps D) (u : UD D) (k : Key) (n : Int) (h : u.Closed) :
    (u.updateEntry ops k n).pending.1 = u.pending.1.put k (updateValue ops u.tick (u.fetch k) n).1 :=
  pending_store u k _ n h

theorem count_updateEntry (ops : DeeOps D) (u : UD D) (k : Key) (n : Int) (h : u.Closed) (k' : Key) :
    (u.updateEntry ops k n).pending.1.count k' =
      if k = k' then newCount (u.pending.1.count k) n else u.pending.1.count k' := by
  rw [pending_updateEntry ops u k n h, Db.count_put, updateValue_commits, ← fetchCount_eq_pending u k]
  rfl

theorem updateEntry_durable (ops : DeeOps D) (u : UD D) (k : Key) (n : Int) (hc : u.Closed) (h : u.inTxn = false) :
    (u.updateEntry ops k n).durable = u.durable.put k (updateValue ops u.tick (u.durable.get? k) n).1 := by
  have hp := pending_updateEntry ops u k n hc
  rw [pending_of_not_inTxn _ (closed_updateEntry ops u k n hc) ((store_inTxn u _ _ _).trans h),
    fetch_eq_pending, pending_of_not_inTxn u hc h] at hp
  exact hp

/-- the `commits` arguments of the `UpdateEntry` calls for key `k`, in order -/
def updatesOf (ups : List (Key × Int)) (k : Key) : List Int :=
  (ups.filter (fun p => p.1 = k)).map (·.2)

theorem updatesOf_cons (p : Key × Int) (rest : List (Key × Int)) (k : Key) :
    updatesOf (p :: rest) k = if p.1 = k then p.2 :: updatesOf rest k else updatesOf rest k := by
  unfold updatesOf
  rw [List.filter_cons]
  by_cases h : p.1 = k <;> simp [h]

theorem updatesOf_append (a b : List (Key × Int)) (k : Key) : updatesOf (a ++ b) k = updatesOf a k ++ updatesOf b k := by
  simp [updatesOf]

theorem updatesOf_nil_of_not_mem (ups : List (Key × Int)) (k : Key) (h : k ∉ ups.map (·.1)) :
    updatesOf ups k = [] := by
  induction ups with
  | nil => rfl
  | cons p rest ih =>
    rw [List.map_cons, List.mem_cons, not_or] at h
    rw [updatesOf_cons, if_neg (fun e => h.1 e.symm), ih h.2]

theorem closed_applyUpdates (ops : DeeOps D) (ups : List (Key × Int)) (u : UD D) (h : u.Closed) :
    (u.applyUpdates ops ups).Closed := by
  induction ups generalizing u with
  | nil => exact h
  | cons p rest ih => exact ih _ (closed_updateEntry ops u p.1 p.2 h)

theorem count_applyUpdates (ops : DeeOps D) (ups : List (Key × Int)) (u : UD D) (h : u.Closed) (k : Key) :
    (u.applyUpdates ops ups).pending.1.count k = (updatesOf ups k).foldl newCount (u.pending.1.count k) := by
  induction ups generalizing u with
  | nil => rfl
  | cons p rest ih =>
    show ((u.updateEntry ops p.1 p.2).applyUpdates ops rest).pending.1.count k = _
    rw [ih _ (closed_updateEntry ops u p.1 p.2 h), updatesOf_cons, count_updateEntry ops u p.1 p.2 h]
    by_cases hp : p.1 = k
    · rw [if_pos hp, if_pos hp, hp]
      rfl
    · rw [if_neg hp, if_neg hp]

theorem get?_applyUpdates (ops : DeeOps D) (ups : List (Key × Int)) (u : UD D) (h : u.Closed) (k : Key)
    (hk : k ∉ ups.map (·.1)) :
    (u.applyUpdates ops ups).pending.1.get? k = u.pending.1.get? k := by
  induction ups generalizing u with
  | nil => rfl
  | cons p rest ih =>
    rw [List.map_cons, List.mem_cons, not_or] at hk
    show ((u.updateEntry ops p.1 p.2).applyUpdates ops rest).pending.1.get? k = _
    rw [ih _ (closed_updateEntry ops u p.1 p.2 h) hk.2, pending_updateEntry ops u p.1 p.2 h, Db.get?_put,
      if_neg (fun e => hk.1 e.symm)]

theorem keys_applyUpdates_nodup (ops : DeeOps D) (ups : List (Key × Int)) (u : UD D) (h : u.Closed)
    (hn : u.pending.1.keys.Nodup) : (u.applyUpdates ops ups).pending.1.keys.Nodup := by
  induction ups generalizing u with
  | nil => exact hn
  | cons p rest ih =>
    apply ih _ (closed_updateEntry ops u p.1 p.2 h)
    rw [pending_updateEntry ops u p.1 p.2 h]
    exact Db.keys_put_nodup _ hn _ _

theorem closed_onCommit (ops : DeeOps D) (st : Style) (u : UD D) (segs : List Seg) (now : Int) :
    (u.onCommit ops st segs now).Closed :=
  closed_applyUpdates ops _ _ (closed_newTransaction u now)

theorem closed_onDelete (ops : DeeOps D) (u : UD D) (e : Entry) (h : u.Closed) : (u.onDelete ops e).Closed :=
  closed_updateEntry ops u e.key (-1) h

theorem closed_onQuery (st : Style) (u : UD D) (lookup : Bool) (h : u.Closed) : (u.onQuery st lookup).Closed := by
  fun_cases UD.onQuery st u lookup with
  | _ => exact closed_commitPending u h

theorem closed_unhandledKey (u : UD D) (kc md : Nat) (now : Int) (h : u.Closed) : (u.unhandledKey kc md now).Closed := by
  fun_cases UD.unhandledKey u kc md now with
  | case1 => exact h
  | case2 => exact closed_revert u now h
  | _ => exact closed_commitPending u h

theorem afterCommit_eq (ops : DeeOps D) (st : Style) (u : UD D) (segs : List Seg) (now : Int) :
    afterCommit ops st u segs now = ((u.newTransaction now).applyUpdates ops (commitUpdates st segs)).pending.1 :=
  commitPending_durable _ (closed_onCommit ops st u segs now)

theorem newTransaction_pending (u : UD D) (now : Int) : (u.newTransaction now).pending.1 = beforeCommit u := rfl

theorem afterCommit_keys_nodup (ops : DeeOps D) (st : Style) (u : UD D) (segs : List Seg) (now : Int)
    (hn : u.durable.keys.Nodup) : (afterCommit ops st u segs now).keys.Nodup := by
  rw [afterCommit_eq]
  exact keys_applyUpdates_nodup ops _ _ (closed_newTransaction u now) (commitPending_keys_nodup u hn)

/-- number of `+1` updates in a list of update arguments -/
def ones (ns : List Int) : Nat := (ns.filter (· = 1)).length

/-- number of `+1` updates the commit issues for key `k` -/
def commitTimes (st : Style) (segs : List Seg) (k : Key) : Nat := ones (updatesOf (commitUpdates st segs) k)

theorem ones_cons (n : Int) (ns : List Int) : ones (n :: ns) = ones ns + if n = 1 then 1 else 0 := by
  unfold ones
  rw [List.filter_cons]
  by_cases h : n = 1 <;> simp [h]

theorem ones_append (a b : List Int) : ones (a ++ b) = ones a + ones b := by
  simp [ones]

theorem fold_newCount (ns : List Int) (h : ∀ n ∈ ns, n = 0 ∨ n = 1) (c : Int) :
    ns.foldl newCount c = if ones ns = 0 then c else (c.natAbs : Int) + ones ns := by
  induction ns generalizing c with
  | nil => rfl
  | cons n rest ih =>
    rw [List.foldl_cons, ih (fun m hm => h m (List.mem_cons_of_mem _ hm)), ones_cons]
    rcases h n List.mem_cons_self with e | e
    · rw [e, newCount_zero]
      rfl
    · rw [e, newCount_one, if_pos rfl, if_neg (Nat.succ_ne_zero _), Int.natAbs_natCast]
      split
      · rename_i h0
        rw [h0]
        rfl
      · rw [← Int.natCast_add, ← Int.natCast_add, Nat.add_right_comm]
        rfl

theorem commitUpdates_table_all_one (segs : List Seg) : ∀ p ∈ commitUpdates Style.table segs, p.2 = 1 := by
  intro p hp
  obtain ⟨c, _, hc⟩ := List.mem_flatMap.1 hp
  obtain ⟨e, _, rfl⟩ := List.mem_map.1 hc
  rfl

/-- `ScriptTranslator::Memorize` touches elements and commits the entry itself -/
theorem mem_memorizeScript (c : CommitEntry) (p : Key × Int) (h : p ∈ memorizeScript c) :
    p = (c.key, 1) ∨ ∃ e ∈ c.elements, p = (e.key, 0) := by
  rcases List.mem_append.1 h with h | h
  · split at h
    · obtain ⟨e, he, rfl⟩ := List.mem_map.1 h
      exact Or.inr ⟨e, he, rfl⟩
    · cases h
  · exact Or.inl (List.mem_singleton.1 h)

theorem commitUpdates_values (st : Style) (segs : List Seg) : ∀ p ∈ commitUpdates st segs, p.2 = 0 ∨ p.2 = 1 := by
  intro p hp
  cases st with
  | table => exact Or.inr (commitUpdates_table_all_one segs p hp)
  | script =>
    obtain ⟨c, _, hc⟩ := List.mem_flatMap.1 hp
    rcases mem_memorizeScript c p hc with rfl | ⟨e, _, rfl⟩
    · exact Or.inr rfl
    · exact Or.inl rfl

theorem updatesOf_commitUpdates (st : Style) (segs : List Seg) (k : Key) :
    ∀ n ∈ updatesOf (commitUpdates st segs) k, n = 0 ∨ n = 1 := by
  intro n hn
  obtain ⟨p, hp, rfl⟩ := List.mem_map.1 hn
  exact commitUpdates_values st segs p (List.mem_filter.1 hp).1

theorem afterCommit_count_pos (ops : DeeOps D) (st : Style) (u : UD D) (segs : List Seg) (now : Int) (k : Key)
    (h : commitTimes st segs k ≠ 0) : 0 < (afterCommit ops st u segs now).count k := by
  unfold commitTimes at h
  rw [afterCommit_eq, count_applyUpdates ops _ _ (closed_newTransaction u now),
    fold_newCount _ (updatesOf_commitUpdates st segs k), if_neg h]
  exact Int.add_pos_of_nonneg_of_pos (Int.natCast_nonneg _) (Int.natCast_pos.2 (Nat.pos_of_ne_zero h))

theorem ones_updatesOf (ups : List (Key × Int)) (k : Key) :
    ones (updatesOf ups k) = (ups.filter (fun p => p.1 = k && p.2 = 1)).length := by
  unfold ones updatesOf
  rw [List.filter_map, List.length_map, List.filter_filter]
  congr 2
  funext p
  simp [Bool.and_comm]

theorem ones_updatesOf_map (es : List Entry) (n : Int) (k : Key) :
    ones (updatesOf (es.map (fun e => (e.key, n))) k) = if n = 1 then (es.filter (fun e => e.key = k)).length else 0 := by
  rw [ones_updatesOf, List.filter_map, List.length_map]
  by_cases h : n = 1 <;> simp [h, Function.comp_def]

theorem ones_updatesOf_memorizeScript (c : CommitEntry) (k : Key) :
    ones (updatesOf (memorizeScript c) k) = if c.key = k then 1 else 0 := by
  unfold memorizeScript
  rw [updatesOf_append, ones_append, updatesOf_cons]
  have h1 : ∀ b : Bool, ones (updatesOf (if b = true then c.elements.map (fun e => (e.key, (0 : Int))) else []) k) = 0 := by
    intro b
    cases b
    · rfl
    · exact ones_updatesOf_map _ 0 k
  rw [h1]
  split <;> rfl

theorem createDictEntry_deleted (ops : DeeOps D) (present : Nat) (exact : Bool) (p : Key × Value D)
    (h : p.2.commits < 0) : createDictEntry ops present exact p = none := by
  exact if_neg fun hv => Int.not_le.2 h (of_decide_eq_true hv)

theorem createDictEntry_eq_some (ops : DeeOps D) (present : Nat) (ex : Bool) (p : Key × Value D) (c : UCand) :
    createDictEntry ops present ex p = some c ↔
      0 ≤ p.2.commits ∧ c = { key := p.1, weight := ops.weight p.2 present, exact := ex } := by
  unfold createDictEntry visible
  by_cases h : 0 ≤ p.2.commits <;> simp [h, eq_comm]

theorem mem_userExact_of_get? (ops : DeeOps D) (db : Db D) (present : Nat) (k : Key) (v : Value D)
    (hg : db.get? k = some v) (hv : 0 ≤ v.commits) :
    { key := k, weight := ops.weight v present, exact := true } ∈ userExact ops db present k.code :=
  List.mem_filterMap.2 ⟨(k, v), List.mem_filter.2 ⟨Db.mem_of_get? db k v hg, decide_eq_true rfl⟩,
    (createDictEntry_eq_some ops present true (k, v) _).2 ⟨hv, rfl⟩⟩

theorem insertByWeight_perm (x : UCand) (l : List UCand) : (insertByWeight x l).Perm (x :: l) := by
  fun_induction insertByWeight x l with
  | case1 => exact List.Perm.refl _
  | case2 => exact List.Perm.refl _
  | case3 y ys h ih => exact (List.Perm.cons y ih).trans (List.Perm.swap x y ys)

theorem sortByWeight_perm (l : List UCand) : (sortByWeight l).Perm l := by
  induction l with
  | nil => exact List.Perm.refl _
  | cons x xs ih => exact (insertByWeight_perm x _).trans (List.Perm.cons x ih)

theorem rotateExact_perm (l : List UCand) : (rotateExact l).Perm l := by
  unfold rotateExact
  split
  · exact List.Perm.refl _
  · split
    · exact List.Perm.refl _
    · split
      · rename_i e he
        exact (List.perm_cons_erase (List.mem_of_find?_eq_some he)).symm
      · exact List.Perm.refl _

theorem mem_lookup (c : UCand) (l : List UCand) : c ∈ rotateExact (sortByWeight l) ↔ c ∈ l :=
  ((rotateExact_perm _).trans (sortByWeight_perm l)).mem_iff

theorem offered_of_count_pos (ops : DeeOps D) (db : Db D) (present : Nat) (k : Key) (h : 0 < db.count k) :
    ∃ c ∈ rotateExact (sortByWeight (userExact ops db present k.code)), c.key = k := by
  obtain ⟨v, hg, hv⟩ := get?_of_count_pos db k h
  exact ⟨_, (mem_lookup _ _).2 (mem_userExact_of_get? ops db present k v hg (Int.le_of_lt hv)), rfl⟩

theorem foldl_append_key (sels : List Sel) (c : CommitEntry) :
    (sels.foldl CommitEntry.append c).key =
      { code := c.code ++ sels.flatMap (·.entry.code), text := c.text ++ sels.flatMap (·.entry.text) } := by
  induction sels generalizing c with
  | nil => simp [CommitEntry.key]
  | cons s rest ih =>
    rw [List.foldl_cons, ih]
    simp [CommitEntry.append, List.append_assoc]

theorem assemble_key (sels : List Sel) :
    (assemble sels).key = { code := sels.flatMap (·.entry.code), text := sels.flatMap (·.entry.text) } :=
  foldl_append_key sels CommitEntry.empty

theorem foldl_groupStep_selected (init : List Sel) (last : Sel) (hrec : ∀ s ∈ init, s.recognized = true)
    (hlast : last.recognized = true) (cur : CommitEntry) (saved : List CommitEntry)
    (hne : ((init ++ [last]).foldl CommitEntry.append cur).text ≠ []) :
    (selectedSegs init last).foldl groupStep (cur, saved) =
      (CommitEntry.empty, saved ++ [(init ++ [last]).foldl CommitEntry.append cur]) := by
  induction init generalizing cur with
  | nil =>
    have h : (cur.append last).text ≠ [] := hne
    simp [selectedSegs, groupStep, Seg.recognized, hlast, h]
  | cons s rest ih =>
    have step : groupStep (cur, saved) { status := 2, sel := some s } = (cur.append s, saved) := by
      simp [groupStep, Seg.recognized, hrec s List.mem_cons_self]
    show (selectedSegs rest last).foldl groupStep (groupStep (cur, saved) _) = _
    rw [step]
    exact ih (fun x hx => hrec x (List.mem_cons_of_mem _ hx)) _ hne

theorem groupCommit_selected (init : List Sel) (last : Sel) (hrec : ∀ s ∈ init, s.recognized = true)
    (hlast : last.recognized = true) (hne : (assemble (init ++ [last])).key.text ≠ []) :
    groupCommit (selectedSegs init last) = [assemble (init ++ [last])] := by
  unfold groupCommit
  rw [foldl_groupStep_selected init last hrec hlast _ _ hne]
  rfl

theorem commitUpdates_selected (init : List Sel) (last : Sel) (hrec : ∀ s ∈ init, s.recognized = true)
    (hlast : last.recognized = true) (hne : (assemble (init ++ [last])).key.text ≠ []) :
    commitUpdates Style.script (selectedSegs init last) = memorizeScript (assemble (init ++ [last])) := by
  unfold commitUpdates
  rw [groupCommit_selected init last hrec hlast hne]
  exact List.flatMap_singleton _ _

end RimeModel.C10
