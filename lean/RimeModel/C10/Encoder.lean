import RimeModel.C10.Model
import RimeModel.C10.Lemmas
/-!
C10 — the table translator with `translator/enable_encoder: true` (and `encode_commit_history`, `max_phrase_length`).

Ported from
  src/rime/gear/table_translator.cc   `TableTranslator::Memorize` (lines 315-360): a constructed element is "blessed"
                                      (its encoder prefix removed) before `UpdateEntry(…, 1)`; a commit entry of several
                                      elements is encoded as one phrase (value "1"); with `encode_commit_history` the tail
                                      of the commit history is encoded too (value "0"), longest phrase `max_phrase_length`
  src/rime/gear/unity_table_encoder.cc `CreateEntry` → `UserDictionary::UpdateEntry(entry, commits, kEncodedPrefix)`,
                                      `LookupPhrases` (the same `LookupWords` under the prefixed key), `Has/Add/RemovePrefix`
  src/rime/dict/user_dictionary.cc    `UpdateEntry(entry, commits, new_entry_prefix)` (lines 416-448): the record is fetched
                                      under the PLAIN key; only when there is none the prefix is put in front of the key —
                                      and the value written there starts from a fresh record, whatever the prefixed key held.

The rule-based encoder itself (src/rime/algo/encoder.cc, reverse lookup of every character) is an oracle: a function from
a phrase to the codes `CreateEntry` is called with, read off the implementation's own calls.  *Which* phrases are encoded,
with which value, in which order, and what that does to the user db is the model's.
-/
namespace RimeModel.C10

/-- `kEncodedPrefix` = `"\x7f" "enc" "\x1f"` -/
def encPrefix : Bytes := [0x7f, 0x65, 0x6e, 0x63, 0x1f]

/-- `stripPrefix p s` = `some rest` when `s = p ++ rest` -/
def stripPrefix : Bytes → Bytes → Option Bytes
  | [], s => some s
  | _ :: _, [] => none
  | p :: ps, c :: cs => if p = c then stripPrefix ps cs else none

/-- `UnityTableEncoder::HasPrefix(custom_code)`: the code string starts with the prefix, i.e. its first spelling does -/
def Key.constructed (k : Key) : Bool :=
  match k.code with
  | c :: _ => (stripPrefix encPrefix c).isSome
  | [] => false

/-- `UnityTableEncoder::AddPrefix` / `key.insert(0, new_entry_prefix)` -/
def Key.addPrefix (k : Key) : Key :=
  { k with code := match k.code with
                   | c :: r => (encPrefix ++ c) :: r
                   | [] => [encPrefix] }

/-- `UnityTableEncoder::RemovePrefix` on a copy of the entry (`blessed`); a plain key is left alone -/
def Key.bless (k : Key) : Key :=
  match k.code with
  | c :: r =>
    match stripPrefix encPrefix c with
    | some c' => { k with code := c' :: r }
    | none => k
  | [] => k

theorem stripPrefix_append (p s : Bytes) : stripPrefix p (p ++ s) = some s := by
  induction p with
  | nil => rfl
  | cons a as ih => simp [stripPrefix, ih]

theorem bless_plain (k : Key) (h : k.constructed = false) : k.bless = k := by
  unfold Key.constructed at h
  unfold Key.bless
  cases hc : k.code with
  | nil => rfl
  | cons c r =>
    rw [hc] at h
    cases hs : stripPrefix encPrefix c with
    | none => simp [hs]
    | some c' => simp [hs] at h

variable {D : Type}

/-- `UserDictionary::UpdateEntry(entry, commits, kEncodedPrefix)`; returns the key actually written -/
def UD.updateEntryPrefixed (ops : DeeOps D) (u : UD D) (k : Key) (n : Int) : UD D × Key :=
  match u.fetch k with
  | some _ => (u.updateEntry ops k n, k)
  | none =>
    -- `v` stays default-constructed; the key gets the prefix; the prefixed key is never fetched
    let r := updateValue ops u.tick none n
    let u1 := if n > 0 then ({ u with tick := r.2 } : UD D).write (Put.tick r.2) else u
    (u1.write (Put.entry k.addPrefix r.1), k.addPrefix)

theorem updateEntryPrefixed_of_some (ops : DeeOps D) (u : UD D) (k : Key) (n : Int) (v : Value D) (hf : u.fetch k = some v) :
    u.updateEntryPrefixed ops k n = (u.updateEntry ops k n, k) := by
  unfold UD.updateEntryPrefixed
  rw [hf]

theorem updateEntryPrefixed_of_none (ops : DeeOps D) (u : UD D) (k : Key) (n : Int) (hf : u.fetch k = none) :
    u.updateEntryPrefixed ops k n = (u.store k.addPrefix (updateValue ops u.tick none n) n, k.addPrefix) := by
  unfold UD.updateEntryPrefixed
  rw [hf]
  rfl

structure EncCfg where
  /-- `translator/encode_commit_history` -/
  commitHistory : Bool
  /-- `translator/max_phrase_length` -/
  maxPhraseLength : Int
deriving Repr

/-- `utf8::unchecked::distance`: the number of bytes that are not continuation bytes -/
def utf8Length (b : Bytes) : Nat := (b.filter fun c => c &&& 0xC0 ≠ 0x80).length

/-- commit-record types the history loop walks over -/
def isTableType (t : String) : Bool := t == "table" || t == "user_table" || t == "sentence" || t == "uniquified"

/-- the loop of table_translator.cc:340-355 over the records newest first; `phrase` = what has been joined so far -/
def historyLoop (maxLen : Int) : List (String × Bytes) → Bytes → List Bytes
  | [], _ => []
  | (ty, tx) :: rest, phrase =>
    if !isTableType ty then []
    else if phrase.isEmpty then historyLoop maxLen rest tx
    else
      let p := tx ++ phrase
      if (utf8Length p : Int) > maxLen then [] else p :: historyLoop maxLen rest p

/-- the phrases of the commit history that get encoded (value "0"), in order; a trailing punctuation record is skipped -/
def historyPhrases (maxLen : Int) (newestFirst : List (String × Bytes)) : List Bytes :=
  match newestFirst with
  | [] => []
  | (ty, _) :: rest => historyLoop maxLen (if ty == "punct" then rest else newestFirst) []

/-- the `EncodePhrase(phrase, value)` calls of one `Memorize` (with the encoder loaded): `true` = value "1" -/
def encodeCalls (cfg : EncCfg) (hist : List (String × Bytes)) (c : CommitEntry) : List (Bytes × Bool) :=
  (if c.elements.length > 1 then [(c.text, true)] else []) ++
  (if cfg.commitHistory then (historyPhrases cfg.maxPhraseLength hist).map (fun p => (p, false)) else [])

/-- an `UpdateEntry` call of `Memorize` with the encoder: directly (2 arguments) or through `CreateEntry` (with the prefix) -/
inductive Upd where
  | plain (k : Key) (n : Int)
  | enc (k : Key) (n : Int)
deriving Repr

/-- `TableTranslator::Memorize` with a loaded encoder; `oracle phrase` = the codes the encoder derives for the phrase -/
def memorizeTableEnc (cfg : EncCfg) (oracle : Bytes → List Bytes) (hist : List (String × Bytes)) (c : CommitEntry) : List Upd :=
  c.elements.map (fun e => Upd.plain e.key.bless 1) ++
  (encodeCalls cfg hist c).flatMap (fun pc =>
    (oracle pc.1).map fun code => Upd.enc { code := [code], text := pc.1 } (if pc.2 then 1 else 0))

/-- one update; the second component collects the keys written, with the count passed -/
def UD.applyUpd (ops : DeeOps D) (s : UD D × List (Key × Int)) (x : Upd) : UD D × List (Key × Int) :=
  match x with
  | Upd.plain k n => (s.1.updateEntry ops k n, s.2 ++ [(k, n)])
  | Upd.enc k n =>
    let r := s.1.updateEntryPrefixed ops k n
    (r.1, s.2 ++ [(r.2, n)])

/-- `Memory::OnCommit` for a table translator with a loaded encoder: the new state and the keys written in order -/
def UD.onCommitEnc (ops : DeeOps D) (cfg : EncCfg) (oracle : Bytes → List Bytes) (hist : List (String × Bytes))
    (u : UD D) (segs : List Seg) (now : Int) : UD D × List (Key × Int) :=
  ((groupCommit segs).flatMap (memorizeTableEnc cfg oracle hist)).foldl (UD.applyUpd ops) (u.newTransaction now, [])

end RimeModel.C10
