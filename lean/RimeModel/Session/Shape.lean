import RimeModel.Session.InvProc
import RimeModel.Session.GeoProc
import RimeModel.Session.Sites
import RimeModel.Session.WellFormed
/-!
The API layer of a schema with the `full_shape` option (gear/shape.cc, engine.cc): `ShapeFormatter` (applied to every
committed composition: `Env.format`; `shapeFormat`, Session/Processors.lean), `ShapeProcessor` (the engine's
post-processor: an unhandled printable key is delivered as its full-width form; `shapePost`, ibid.), and the fact that
`PunctConfig::LoadConfig` re-reads the option before every use, so the recomposition function of a schema with
punctuation depends on it.  Three layers, each with the lemma that a `Closed` predicate survives it: `apiStepS`
(punctuation), `apiStepK` (key binder, ascii composer), `runOpsT` (histories with delays).  Last: in a state with `Inv`
every partial operation of Session/Sites.lean whose guard holds meets its precondition (`Site.pre_of_inv`).

`Env.recompose` has no access to the options; a schema is therefore a *pair* of environments `envOf false`,
`envOf true` (half / full shape) and each API call runs in the environment of the value `full_shape` has once the
call has stored its own change (`set_option` stores the value first and recomposes afterwards; no modelled
component changes the option on its own).
-/
namespace RimeModel.Session

/-- the value of `full_shape` the components of this call see -/
def shapeAfter (c : Ctx) (op : Op) : Bool :=
  match op with
  | .setOption name v => if name = "full_shape" then v else c.getOption "full_shape"
  | _ => c.getOption "full_shape"

/-- one API call on a schema given as its two environments -/
def apiStepS (envOf : Bool → Env) (c : Ctx) (op : Op) : Ctx × Ret :=
  let r := apiStep (envOf (shapeAfter c op)) c op
  match op with
  | .key code mask =>
    if r.2.ok then r
    else let p := shapePost ⟨code, mask⟩ r.1; (p.1, ⟨p.2, []⟩)
  | _ => r

def runOpsS (envOf : Bool → Env) (c : Ctx) (ops : List Op) : Ctx := ops.foldl (fun c op => (apiStepS envOf c op).1) c

theorem apiStepS_closed {envOf : Bool → Env} {P : Ctx → Prop} (hP : ∀ b, Closed (envOf b) P) (op : Op) {c : Ctx}
    (h : P c) : P (apiStepS envOf c op).1 := by
  have h1 := apiStep_closed (hP (shapeAfter c op)) op h
  unfold apiStepS
  cases op
  case key code mask => exact fst_ite h1 (shapePost_closed (hP false).toCtxClosed _ h1)
  all_goals exact h1

theorem runOpsS_closed {envOf : Bool → Env} {P : Ctx → Prop} (hP : ∀ b, Closed (envOf b) P) (ops : List Op) {c : Ctx}
    (h : P c) : P (runOpsS envOf c ops) :=
  foldl_closed P _ (fun _ op hc => apiStepS_closed hP op hc) ops h

theorem runOpsS_inv {envOf : Bool → Env} (hrc : ∀ b, ComposeSpec (envOf b).recompose) (ops : List Op) {c : Ctx} (h : Inv c) :
    Inv (runOpsS envOf c ops) :=
  runOpsS_closed (fun b => inv_closed (hrc b)) ops h

theorem runOpsS_geo {envOf : Bool → Env} (hrc : ∀ b, ComposeGeoSpec (envOf b).recompose) (hnp : ∀ b, NoPrevMatch (envOf b))
    (ops : List Op) {c : Ctx} (h : GeoInv c) : GeoInv (runOpsS envOf c ops) :=
  runOpsS_closed (fun b => geo_closed (hrc b) (hnp b)) ops h

/-! ### the key binder and `full_shape`

A binding of the key binder may change `full_shape` itself (`toggle: full_shape` on Shift+space in the stock
configuration).  The option is stored before the engine recomposes (Context::set_option → OnOptionUpdate →
RefreshNonConfirmedComposition), so the call has to run in the environment of the NEW value, exactly as for the API's
`set_option`.  Which binding fires is decided by the key binder on the state it is handed; when it is the first
processor of the list that is the state at the start of the call, and the decision does not depend on the environment's
shape (the binding list, the switches and the conditions are the same in both).  `shapeAfterK` runs that decision (with a
do-nothing stand-in for the nested ProcessKey: no modelled processor other than the key binder writes an option) and
reads the option off the result.  For every other call it is `shapeAfter`.  When the key binder is not the first
processor the prediction is not attempted (the driver refuses such a schema if a binding can change `full_shape`). -/

def shapeAfterK (envOf : Bool → Env) (c : Ctx) (op : Op) : Bool :=
  match op with
  | .key code mask =>
    let env := envOf (c.getOption "full_shape")
    match env.processors with
    | .keyBinder :: _ => (kbProcess (fun _ c => (c, false)) env ⟨code, mask⟩ c).1.getOption "full_shape"
    | _ => c.getOption "full_shape"
  | _ => shapeAfter c op

/-- the call itself, as in `apiStepS` but in the environment `shapeAfterK` chooses -/
def apiStepK0 (envOf : Bool → Env) (c : Ctx) (op : Op) : Ctx × Ret :=
  let r := apiStep (envOf (shapeAfterK envOf c op)) c op
  match op with
  | .key code mask =>
    if r.2.ok then r
    else let p := shapePost ⟨code, mask⟩ r.1; (p.1, ⟨p.2, []⟩)
  | _ => r

/-- one API call on a schema with a key binder and / or an ascii composer, given as its two environments; the ascii
composer's context-update listener (temporary inline mode ends when the composition does) is applied at the end of the
call (`acSettle`, Session/Processors.lean) -/
def apiStepK (envOf : Bool → Env) (c : Ctx) (op : Op) : Ctx × Ret :=
  let r := apiStepK0 envOf c op
  (acSettle r.1, r.2)

def runOpsK (envOf : Bool → Env) (c : Ctx) (ops : List Op) : Ctx := ops.foldl (fun c op => (apiStepK envOf c op).1) c

/-- without a key binder at the head of the processor list the two layers coincide (up to the ascii composer's listener,
which does nothing unless the ascii composer has switched its inline mode on) -/
theorem apiStepK0_eq_apiStepS (envOf : Bool → Env) (h : ∀ b ps, (envOf b).processors ≠ .keyBinder :: ps) (c : Ctx) (op : Op) :
    apiStepK0 envOf c op = apiStepS envOf c op := by
  have hs : shapeAfterK envOf c op = shapeAfter c op := by
    unfold shapeAfterK
    cases op <;> try rfl
    case key code mask =>
      dsimp only
      split
      · rename_i ps hps
        exact absurd hps (h _ ps)
      · rfl
  unfold apiStepK0 apiStepS
  rw [hs]

theorem apiStepK_closed {envOf : Bool → Env} {P : Ctx → Prop} (hP : ∀ b, Closed (envOf b) P) (op : Op) {c : Ctx}
    (h : P c) : P (apiStepK envOf c op).1 := by
  have h1 := apiStep_closed (hP (shapeAfterK envOf c op)) op h
  refine acSettle_closed (hP false).toCtxClosed ?_
  unfold apiStepK0
  cases op
  case key code mask => exact fst_ite h1 (shapePost_closed (hP false).toCtxClosed _ h1)
  all_goals exact h1

theorem runOpsK_closed {envOf : Bool → Env} {P : Ctx → Prop} (hP : ∀ b, Closed (envOf b) P) (ops : List Op) {c : Ctx}
    (h : P c) : P (runOpsK envOf c ops) :=
  foldl_closed P _ (fun _ op hc => apiStepK_closed hP op hc) ops h

theorem runOpsK_inv {envOf : Bool → Env} (hrc : ∀ b, ComposeSpec (envOf b).recompose) (ops : List Op) {c : Ctx} (h : Inv c) :
    Inv (runOpsK envOf c ops) :=
  runOpsK_closed (fun b => inv_closed (hrc b)) ops h

theorem runOpsK_geo {envOf : Bool → Env} (hrc : ∀ b, ComposeGeoSpec (envOf b).recompose) (hnp : ∀ b, NoPrevMatch (envOf b))
    (ops : List Op) {c : Ctx} (h : GeoInv c) : GeoInv (runOpsK envOf c ops) :=
  runOpsK_closed (fun b => geo_closed (hrc b) (hnp b)) ops h

/-! ### time

The ascii composer reads `std::chrono::steady_clock` (a Shift / Control tap switches ascii_mode only when the release comes
within 500 ms of the press).  The clock is `Ctx.clock`; no API call moves it.  A timed history gives, for each
call, the time that passes before it. -/

/-- the environment lets `ms` milliseconds pass -/
def tick (c : Ctx) (ms : Nat) : Ctx := { c with clock := c.clock + ms }

def runOpsT (envOf : Bool → Env) (c : Ctx) (ops : List (Nat × Op)) : Ctx :=
  ops.foldl (fun c e => (apiStepK envOf (tick c e.1) e.2).1) c

theorem runOpsT_closed {envOf : Bool → Env} {P : Ctx → Prop} (hP : ∀ b, Closed (envOf b) P) (ops : List (Nat × Op))
    {c : Ctx} (h : P c) : P (runOpsT envOf c ops) :=
  foldl_closed P _ (fun c e hc => apiStepK_closed hP e.2 ((hP false).same (c' := tick c e.1) hc)) ops h

theorem runOpsT_inv {envOf : Bool → Env} (hrc : ∀ b, ComposeSpec (envOf b).recompose) (ops : List (Nat × Op)) {c : Ctx} (h : Inv c) :
    Inv (runOpsT envOf c ops) :=
  runOpsT_closed (fun b => inv_closed (hrc b)) ops h

theorem runOpsT_geo {envOf : Bool → Env} (hrc : ∀ b, ComposeGeoSpec (envOf b).recompose) (hnp : ∀ b, NoPrevMatch (envOf b))
    (ops : List (Nat × Op)) {c : Ctx} (h : GeoInv c) : GeoInv (runOpsT envOf c ops) :=
  runOpsT_closed (fun b => geo_closed (hrc b) (hnp b)) ops h

/-- a history without delays is an untimed history -/
theorem runOpsT_zero (envOf : Bool → Env) (c : Ctx) (ops : List Op) :
    runOpsT envOf c (ops.map (fun op => (0, op))) = runOpsK envOf c ops := by
  unfold runOpsT runOpsK
  rw [List.foldl_map]
  rfl

/-! ### the partial operations of Session/Sites.lean: in a state with the invariant, a guard that holds gives the precondition -/

theorem Site.pre_of_inv {env : Env} (hps : 0 < env.pageSize) {c : Ctx} (hinv : Inv c) (site : Site)
    (hg : site.guard env c) : site.pre env c := by
  have hc := hinv.caret_le
  cases site with
  | pushInputInsert => exact hc
  | popInputErase len => exact Nat.le_trans (Nat.sub_le _ _) hc
  | deleteInputErase len => exact hc
  | spellerPrevChar =>
    have hpos : 0 < c.caret := Nat.pos_of_ne_zero fun h => hg (Or.inl h)
    exact Nat.lt_of_lt_of_le (Nat.sub_lt hpos Nat.one_pos) hc
  | uniqueCandidateDeref =>
    obtain ⟨hm, g, hg1, _⟩ := hg
    unfold Ctx.hasMenu at hm
    rw [hg1] at hm
    cases hl : g.menu with
    | none => simp [hl] at hm
    | some l =>
      simp only [hl] at hm
      exact ⟨g, _, hg1, (hinv.segs_ok.getLast hg1).selected hl (by simpa using hm)⟩
  | pageDivision => exact Nat.ne_of_gt hps
  | highlightedOnPage =>
    intro m hm
    have hwf := (view_wf hps hinv).menu_wf m hm
    exact ⟨m.cands[m.highlighted]'hwf.2.1, List.getElem?_eq_getElem hwf.2.1⟩

end RimeModel.Session
