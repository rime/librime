import RimeModel.Session.Inv
import RimeModel.Session.Compose
/-!
The *geometric* invariant of the session model: the segments of a composition tile a prefix of the
composition's input — the first starts at 0, each starts where the previous one ends, `start ≤ end`
for every segment, and (at API boundaries) every `end` is within the composition's input.

Every mutator of the model changes the segment list at its back, so the list lemmas are stated for `l ++ [g]`;
`RGeo` is the same invariant read from the back, for the mutators written over `segs.reverse`.
-/
namespace RimeModel.Session

/-- every candidate of the segment's menu ends at or after the segment's start.  This is what
`Segment::Close` needs: it sets `end := cand->end()` and must keep `start ≤ end`. -/
def CandGeo (g : Seg) : Prop := ∀ l, g.menu = some l → ∀ cd ∈ l, g.start ≤ cd.stop

/-- one segment: `start ≤ end` and its candidates end after its start -/
def SegGeo (g : Seg) : Prop := g.start ≤ g.stop ∧ CandGeo g

/-- adjacent contiguity: each segment starts where the previous one ends -/
def Chain : List Seg → Prop
  | [] => True
  | [_] => True
  | a :: b :: rest => b.start = a.stop ∧ Chain (b :: rest)

/-- the segments tile `[0, end of the last one)` -/
def GeoOK (l : List Seg) : Prop :=
  Chain l ∧ (∀ g, l.head? = some g → g.start = 0) ∧ ∀ g ∈ l, SegGeo g

/-- every segment ends within the composition's own copy of the input -/
def Bounded (c : Comp) : Prop := ∀ g ∈ c.segs, g.stop ≤ c.input.length

/-- `GetCurrentEndPosition` of a bare list -/
def endOf (l : List Seg) : Nat := match l.getLast? with | none => 0 | some b => b.stop

theorem snoc_cases (l : List Seg) : l = [] ∨ ∃ l' b, l = l' ++ [b] := by
  rcases List.eq_nil_or_concat l with h | ⟨l', b, h⟩
  · exact Or.inl h
  · exact Or.inr ⟨l', b, h.trans List.concat_eq_append⟩

theorem snoc_induction {P : List Seg → Prop} (h0 : P []) (h1 : ∀ l b, P l → P (l ++ [b])) : ∀ l, P l := by
  intro l
  rw [← List.reverse_reverse l]
  induction l.reverse with
  | nil => exact h0
  | cons b r ih =>
    rw [List.reverse_cons]
    exact h1 _ b ih

theorem endOf_nil : endOf [] = 0 := rfl

theorem endOf_snoc (l : List Seg) (g : Seg) : endOf (l ++ [g]) = g.stop := by
  unfold endOf; rw [List.getLast?_concat]

theorem chain_cons_iff (a : Seg) (l : List Seg) :
    Chain (a :: l) ↔ (∀ b, l.head? = some b → b.start = a.stop) ∧ Chain l := by
  cases l <;> simp [Chain]

theorem chain_snoc (l : List Seg) (g : Seg) :
    Chain (l ++ [g]) ↔ Chain l ∧ g.start = (match l.getLast? with | none => g.start | some b => b.stop) := by
  induction l with
  | nil => simp [Chain]
  | cons a t ih =>
    rw [List.cons_append, chain_cons_iff, chain_cons_iff, ih]
    cases t with
    | nil => simp [Chain, and_comm]
    | cons b t' =>
      simp only [List.cons_append, List.head?_cons, Option.some.injEq, forall_eq', List.getLast?_cons_cons]
      exact and_assoc.symm

theorem geoOK_nil : GeoOK [] := ⟨trivial, fun _ h => (nomatch h), fun _ h => (nomatch h)⟩

theorem geoOK_snoc (l : List Seg) (g : Seg) :
    GeoOK (l ++ [g]) ↔ GeoOK l ∧ SegGeo g ∧ g.start = endOf l := by
  unfold GeoOK endOf
  rw [chain_snoc, List.forall_mem_append, List.forall_mem_singleton]
  cases l with
  | nil => simp [Chain, and_comm]
  | cons a t =>
    obtain ⟨b, hb⟩ : ∃ b, (a :: t).getLast? = some b := ⟨_, List.getLast?_eq_some_getLast (List.cons_ne_nil a t)⟩
    rw [hb]
    constructor
    · rintro ⟨⟨h1, h2⟩, h3, h4, h5⟩
      exact ⟨⟨h1, h3, h4⟩, h5, h2⟩
    · rintro ⟨⟨h1, h3, h4⟩, h5, h2⟩
      exact ⟨⟨h1, h2⟩, h3, h4, h5⟩

theorem GeoOK.init {l : List Seg} {g : Seg} (h : GeoOK (l ++ [g])) : GeoOK l := ((geoOK_snoc l g).mp h).1

theorem GeoOK.last {l : List Seg} {g : Seg} (h : GeoOK (l ++ [g])) : SegGeo g := ((geoOK_snoc l g).mp h).2.1

theorem GeoOK.last_start {l : List Seg} {g : Seg} (h : GeoOK (l ++ [g])) : g.start = endOf l :=
  ((geoOK_snoc l g).mp h).2.2

theorem GeoOK.seg {l : List Seg} (h : GeoOK l) {g : Seg} (hg : g ∈ l) : SegGeo g := h.2.2 g hg

/-- ends are non-decreasing along the list: every segment ends at or before the last one's end -/
theorem GeoOK.stop_le_endOf : ∀ {l : List Seg}, GeoOK l → ∀ g ∈ l, g.stop ≤ endOf l := by
  intro l
  induction l using snoc_induction with
  | h0 => exact fun _ _ hg => nomatch hg
  | h1 l b ih =>
    intro h g hg
    rw [endOf_snoc]
    rcases List.mem_append.mp hg with hg | hg
    · exact Nat.le_trans (ih h.init g hg) (by rw [← h.last_start]; exact h.last.1)
    · rw [List.mem_singleton.mp hg]
      exact Nat.le_refl _

theorem GeoOK.dropLast {l : List Seg} (h : GeoOK l) : GeoOK l.dropLast := by
  rcases snoc_cases l with rfl | ⟨l', b, rfl⟩
  · exact geoOK_nil
  · rw [List.dropLast_concat]; exact h.init

theorem eq_snoc_of_getLast? {l : List Seg} {b : Seg} (h : l.getLast? = some b) : l = l.dropLast ++ [b] := by
  obtain ⟨l', rfl⟩ := List.getLast?_eq_some_iff.mp h
  rw [List.dropLast_concat]

theorem GeoOK.getLast {l : List Seg} {b : Seg} (h : GeoOK l) (hb : l.getLast? = some b) : SegGeo b :=
  h.seg (List.mem_of_getLast? hb)

theorem geoOK_replace_last {l : List Seg} {b g : Seg} (h : GeoOK (l ++ [b])) (hg : SegGeo g)
    (hs : g.start = b.start) : GeoOK (l ++ [g]) :=
  (geoOK_snoc l g).mpr ⟨h.init, hg, by rw [hs]; exact h.last_start⟩

theorem setLast_concat (l : List Seg) (b g : Seg) : setLast (l ++ [b]) g = l ++ [g] := by
  unfold setLast
  split
  · exact absurd ‹l ++ [b] = []› (List.append_ne_nil_of_right_ne_nil l (List.cons_ne_nil b []))
  · rw [List.dropLast_concat]

theorem modLast_concat (l : List Seg) (b : Seg) (f : Seg → Seg) : modLast (l ++ [b]) f = l ++ [f b] := by
  unfold modLast
  rw [List.getLast?_concat, List.dropLast_concat]

theorem getLast?_modLast {l : List Seg} {g : Seg} (h : l.getLast? = some g) (f : Seg → Seg) :
    (modLast l f).getLast? = some (f g) := by
  rw [eq_snoc_of_getLast? h, modLast_concat, List.getLast?_concat]

theorem modLast_nil (f : Seg → Seg) : modLast [] f = [] := rfl

theorem geoOK_modLast {l : List Seg} {f : Seg → Seg} (h : GeoOK l)
    (hf : ∀ g, l.getLast? = some g → SegGeo g → SegGeo (f g) ∧ (f g).start = g.start) : GeoOK (modLast l f) := by
  rcases snoc_cases l with rfl | ⟨l', b, rfl⟩
  · exact geoOK_nil
  · rw [modLast_concat]
    have := hf b List.getLast?_concat h.last
    exact geoOK_replace_last h this.1 this.2

theorem geoOK_setLast {l : List Seg} {b g : Seg} (h : GeoOK l) (hb : l.getLast? = some b) (hg : SegGeo g)
    (hs : g.start = b.start) : GeoOK (setLast l g) := by
  rw [eq_snoc_of_getLast? hb] at h ⊢
  rw [setLast_concat]
  exact geoOK_replace_last h hg hs

theorem mem_setLast {l : List Seg} {g x : Seg} (hx : x ∈ setLast l g) : x ∈ l ∨ x = g := by
  unfold setLast at hx
  split at hx
  · exact nomatch hx
  · rcases List.mem_append.mp hx with h | h
    · exact Or.inl (List.dropLast_subset _ h)
    · exact Or.inr (List.mem_singleton.mp h)

theorem mem_modLast {l : List Seg} {f : Seg → Seg} {x : Seg} (hx : x ∈ modLast l f) :
    x ∈ l ∨ ∃ g, l.getLast? = some g ∧ x = f g := by
  unfold modLast at hx
  split at hx
  · exact Or.inl hx
  · rename_i g hg
    rcases List.mem_append.mp hx with h | h
    · exact Or.inl (List.dropLast_subset _ h)
    · exact Or.inr ⟨g, hg, List.mem_singleton.mp h⟩

/-! ### bounds: with `GeoOK`, "every end ≤ n" is "the last end ≤ n" -/

theorem currentEnd_eq (c : Comp) : c.currentEnd = endOf c.segs := rfl

theorem bounded_iff_end {c : Comp} (h : GeoOK c.segs) : Bounded c ↔ endOf c.segs ≤ c.input.length := by
  constructor
  · intro hb
    unfold endOf
    split
    · exact Nat.zero_le _
    · rename_i b hb'; exact hb b (List.mem_of_getLast? hb')
  · intro he g hg
    exact Nat.le_trans (h.stop_le_endOf g hg) he

theorem endOf_of_getLast? {l : List Seg} {b : Seg} (h : l.getLast? = some b) : endOf l = b.stop := by
  unfold endOf; rw [h]

theorem endOf_dropLast_le {l : List Seg} (h : GeoOK l) : endOf l.dropLast ≤ endOf l := by
  rcases snoc_cases l with rfl | ⟨l', b, rfl⟩
  · exact Nat.le_refl _
  · rw [List.dropLast_concat, endOf_snoc, ← h.last_start]; exact h.last.1

theorem candGeo_of_menu_none {g : Seg} (h : g.menu = none) : CandGeo g := by
  intro l hl
  rw [h] at hl
  exact nomatch hl

theorem candGeo_of_menu {g : Seg} {l : List Cand} (hl : g.menu = some l) (h : ∀ cd ∈ l, g.start ≤ cd.stop) :
    CandGeo g := by
  intro l' hl' cd hcd
  rw [hl] at hl'
  cases hl'
  exact h cd hcd

theorem segGeo_mk' {s e : Nat} (h : s ≤ e) : SegGeo (Seg.mk' s e) := ⟨h, candGeo_of_menu_none rfl⟩

/-- a segment that differs only in status / tags / selected index / prompt / length -/
theorem SegGeo.same {g g' : Seg} (h : SegGeo g) (h1 : g'.start = g.start) (h2 : g'.stop = g.stop)
    (h3 : g'.menu = g.menu) : SegGeo g' := by
  refine ⟨by rw [h1, h2]; exact h.1, ?_⟩
  intro l hl cd hcd
  rw [h1]
  exact h.2 l (by rw [← h3]; exact hl) cd hcd

/-- `Segment::Close` keeps `start ≤ end` because the selected candidate ends at or after the segment's start -/
theorem segGeo_close {g : Seg} (h : SegGeo g) :
    SegGeo g.close ∧ g.close.start = g.start ∧ g.close.stop ≤ g.stop := by
  have hf := close_fields g
  refine ⟨⟨?_, ?_⟩, hf.1, hf.2.2.2.1⟩
  · rw [hf.1]
    rcases hf.2.2.2.2 with he | ⟨cd, hcd, he⟩
    · rw [he]
      exact h.1
    · obtain ⟨l, hl, hmem⟩ := Seg.selected_mem hcd
      rw [he]
      exact h.2 l hl cd hmem
  · unfold CandGeo
    rw [hf.1, hf.2.1]
    exact h.2

/-- `Segment::Reopen` keeps the start and `start ≤ end` (it may move the end to the right, up to
`start + length`, only when that is the caret) -/
theorem segGeo_reopen {g : Seg} (h : SegGeo g) (caret : Nat) :
    SegGeo (g.reopen caret).1 ∧ (g.reopen caret).1.start = g.start := by
  have hf := reopen_fields g caret
  refine ⟨⟨by rw [hf.1]; exact Nat.le_trans h.1 hf.2.2.2, ?_⟩, hf.1⟩
  unfold CandGeo
  rw [hf.1, hf.2.1]
  exact h.2

/-! ### `Segmentation::Forward`, `Trim`, `AddSegment` -/

theorem forward_geo {c : Comp} (h : GeoOK c.segs) :
    GeoOK c.forward.1.segs ∧ endOf c.forward.1.segs = endOf c.segs := by
  unfold Comp.forward
  split
  · exact ⟨h, rfl⟩
  · rename_i b hb
    split
    · exact ⟨h, rfl⟩
    · refine ⟨(geoOK_snoc _ _).mpr ⟨h, segGeo_mk' (Nat.le_refl _), ?_⟩, ?_⟩
      · rw [endOf_of_getLast? hb]; rfl
      · rw [endOf_snoc, endOf_of_getLast? hb]; rfl

theorem trim_geo {c : Comp} (h : GeoOK c.segs) :
    GeoOK c.trim.1.segs ∧ endOf c.trim.1.segs ≤ endOf c.segs := by
  unfold Comp.trim
  split
  · exact ⟨h, Nat.le_refl _⟩
  · split
    · exact ⟨h.dropLast, endOf_dropLast_le h⟩
    · exact ⟨h, Nat.le_refl _⟩

theorem currentStart_snoc (i : Bytes) (l : List Seg) (b : Seg) {a : Bool} :
    ({ input := i, segs := l ++ [b], ascii := a } : Comp).currentStart = b.start := by
  unfold Comp.currentStart; simp only [List.getLast?_concat]

theorem currentStart_of_getLast? {c : Comp} {b : Seg} (h : c.segs.getLast? = some b) : c.currentStart = b.start := by
  unfold Comp.currentStart; rw [h]

theorem currentStart_le_end {c : Comp} (h : GeoOK c.segs) : c.currentStart ≤ endOf c.segs := by
  rcases hl : c.segs.getLast? with _ | b
  · unfold Comp.currentStart; rw [hl]; exact Nat.zero_le _
  · rw [currentStart_of_getLast? hl, endOf_of_getLast? hl]; exact (h.getLast hl).1

/-- `AddSegment` of a well-shaped segment: the list stays contiguous (the new segment is accepted only
when it starts at the current start, and then replaces the last segment or merges its tags into it) and
the end becomes at most the larger of the two ends -/
theorem addSegment_geo {c : Comp} (h : GeoOK c.segs) {g : Seg} (hg : SegGeo g) :
    GeoOK (c.addSegment g).1.segs ∧
      (endOf (c.addSegment g).1.segs = endOf c.segs ∨ endOf (c.addSegment g).1.segs = g.stop) := by
  let Q : Comp × Bool → Prop := fun r => GeoOK r.1.segs ∧ (endOf r.1.segs = endOf c.segs ∨ endOf r.1.segs = g.stop)
  have hsame : ∀ b, Q (c, b) := fun _ => ⟨h, Or.inl rfl⟩
  show Q (c.addSegment g)
  unfold Comp.addSegment
  refine ite_cases Q (fun _ => hsame _) fun hst => ?_
  have hst : g.start = c.currentStart := Classical.byContradiction hst
  split
  · rename_i hnone
    have : c.currentStart = 0 := by unfold Comp.currentStart; rw [hnone]
    exact ⟨(geoOK_snoc [] g).mpr ⟨geoOK_nil, hg, by rw [hst, this]; rfl⟩, Or.inr (endOf_snoc [] g)⟩
  · rename_i last hlast
    have hs : g.start = last.start := by rw [hst, currentStart_of_getLast? hlast]
    have hend : ∀ x : Seg, endOf (setLast c.segs x) = x.stop := fun x => by
      rw [eq_snoc_of_getLast? hlast, setLast_concat, endOf_snoc]
    refine ite_cases Q (fun _ => hsame _) fun _ => ite_cases Q (fun _ => ?_) fun _ => ?_
    · exact ⟨geoOK_setLast h hlast hg hs, Or.inr (hend g)⟩
    · exact ⟨geoOK_setLast h hlast ((h.getLast hlast).same rfl rfl rfl) rfl,
        Or.inl ((hend _).trans (endOf_of_getLast? hlast).symm)⟩

/-! ### the reversed form (head = back), for the mutators written over `segs.reverse` -/

def rend : List Seg → Nat
  | [] => 0
  | b :: _ => b.stop

def RGeo : List Seg → Prop
  | [] => True
  | a :: r => a.start = rend r ∧ SegGeo a ∧ RGeo r

theorem rend_reverse (l : List Seg) : rend l.reverse = endOf l := by
  rcases snoc_cases l with rfl | ⟨l', b, rfl⟩
  · rfl
  · rw [List.reverse_append, endOf_snoc]; rfl

theorem endOf_reverse (r : List Seg) : endOf r.reverse = rend r := by
  rw [← rend_reverse, List.reverse_reverse]

theorem geoOK_iff_rgeo : ∀ l : List Seg, GeoOK l ↔ RGeo l.reverse := by
  intro l
  induction l using snoc_induction with
  | h0 => simp [RGeo, geoOK_nil]
  | h1 l b ih =>
    rw [geoOK_snoc, List.reverse_append]
    show _ ↔ RGeo (b :: l.reverse)
    unfold RGeo
    rw [rend_reverse, ih]
    constructor
    · rintro ⟨h1, h2, h3⟩; exact ⟨h3, h2, h1⟩
    · rintro ⟨h1, h2, h3⟩; exact ⟨h3, h2, h1⟩

theorem rgeo_iff_geoOK (r : List Seg) : RGeo r ↔ GeoOK r.reverse := by
  rw [geoOK_iff_rgeo, List.reverse_reverse]

theorem RGeo.tail {a : Seg} {r : List Seg} (h : RGeo (a :: r)) : RGeo r := h.2.2

theorem RGeo.stop_le_rend {r : List Seg} (h : RGeo r) : ∀ g ∈ r, g.stop ≤ rend r := by
  intro g hg
  have := ((rgeo_iff_geoOK r).mp h).stop_le_endOf g (List.mem_reverse.mpr hg)
  rwa [← rend_reverse, List.reverse_reverse] at this

/-! ### index form and the tiling of the input -/

theorem Chain.getElem?_succ {l : List Seg} (h : Chain l) (i : Nat) (a b : Seg) (ha : l[i]? = some a)
    (hb : l[i + 1]? = some b) : b.start = a.stop := by
  induction l generalizing i with
  | nil => cases ha
  | cons x t ih =>
    rw [chain_cons_iff] at h
    cases i with
    | zero =>
      cases ha
      exact h.1 b (List.head?_eq_getElem?.trans hb)
    | succ i => exact ih h.2 i ha hb

/-- the input slice `substr(start, end - start)` the C++ takes for a segment -/
def Seg.slice (input : Bytes) (g : Seg) : Bytes := substr input g.start (g.stop - g.start)

/-- contiguous segments tile the input: their slices, concatenated, are the input up to the last end -/
theorem slices_flatten (input : Bytes) : ∀ {l : List Seg}, GeoOK l →
    (l.map (Seg.slice input)).flatten = input.take (endOf l) := by
  intro l
  induction l using snoc_induction with
  | h0 => intro _; simp [endOf]
  | h1 l b ih =>
    intro h
    rw [List.map_append, List.flatten_append, ih h.init, endOf_snoc]
    simp only [List.map_cons, List.map_nil, List.flatten_cons, List.flatten_nil, List.append_nil]
    unfold Seg.slice substr
    rw [h.last_start]
    have hle : endOf l ≤ b.stop := by rw [← h.last_start]; exact h.last.1
    conv => rhs; rw [← Nat.add_sub_cancel' hle, List.take_add]

end RimeModel.Session
