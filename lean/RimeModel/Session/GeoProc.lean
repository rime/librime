import RimeModel.Session.GeoCtx
import RimeModel.Session.Closed
/-! `GeoInv` is closed under the context layer, for every schema; on schemas where AutoSelectPreviousMatch does
nothing it is preserved by every processor, by the whole chain and by every API op. -/
namespace RimeModel.Session
open Ctx
variable {env : Env}

theorem geo_ctxClosed (hrc : ComposeGeoSpec env.recompose) : CtxClosed env GeoInv where
  frame h _ _ h3 h4 := ⟨⟨by rw [h4]; exact h.geo⟩, by unfold Bounded; rw [h3, h4]; exact h.bounded⟩
  reselect h hg hr := modLastSeg_geo h hg (fun hs => ⟨hs.same hr.start hr.stop hr.menu, hr.start, Nat.le_of_eq hr.stop⟩)
  closeLast h hg _ := modLastSeg_geo h hg fun hs => ⟨(segGeo_close hs).1.same rfl rfl rfl, (segGeo_close hs).2⟩
  forward := modComp_forward_geo
  update h := update_geo hrc h.toGeoPre
  edit h _ := update_geo hrc ⟨h.geo⟩
  clear _ := update_geo hrc ⟨geoOK_nil⟩
  beginEditing := beginEditing_geo
  reopenPreviousSegment := reopenPreviousSegment_geo hrc
  reopenPreviousSelection := reopenPreviousSelection_geo hrc
  clearNonConfirmedComposition := clearNonConfirmedComposition_geo

/-- Schemas on which Speller::AutoSelectPreviousMatch returns at once (`auto_select` off, or a
`max_code_length` set).  The geometric theorems are proved for these.  For the remaining class (auto_select
without a code-length bound) the statement is FALSE in general: AutoSelectPreviousMatch pops the last segment
and pushes back the copy it took before the key was added, without comparing positions, and when the key opened
a new segment behind the saved one (a punctuation segment with alternatives, a raw segment with candidates) the
copy lands behind itself — `Session/GeoPrevCx.lean`, confirmed on librime.  What is proved for every schema:
FindEarlierMatch keeps the invariant (`findEarlierMatch_geo`), and so does the whole speller key when the reuse
branch is aligned (`Session/GeoPrev.lean`, `Session/GeoPrevProc.lean`). -/
def NoPrevMatch (env : Env) : Prop := env.autoSelect = false ∨ env.maxCodeLength > 0

theorem autoSelectPreviousMatch_off (hnp : NoPrevMatch env) (prev : Option Seg) (c : Ctx) :
    autoSelectPreviousMatch env prev c = (c, false) := by
  unfold autoSelectPreviousMatch
  rcases hnp with h | h
  · exact if_pos (by rw [h]; rfl)
  · exact ite_cases (· = (c, false)) (fun _ => rfl) (fun _ => if_pos h)

theorem geo_closed (hrc : ComposeGeoSpec env.recompose) (hnp : NoPrevMatch env) : Closed env GeoInv where
  toCtxClosed := geo_ctxClosed hrc
  prevMatch h _ := by
    rw [autoSelectPreviousMatch_off hnp]
    exact beginEditing_geo ((geo_ctxClosed hrc).pushInput h _)

theorem punctOdd_geo {c : Ctx} (h : GeoInv c) (v : List (Bool × UInt8)) : GeoInv { c with punctOdd := v } := h.of_comp rfl

theorem geoInv_of_no_segs {c : Ctx} (h : c.comp.segs = []) : GeoInv c :=
  ⟨⟨by rw [h]; exact geoOK_nil⟩, by intro g hg; rw [h] at hg; exact nomatch hg⟩

theorem init_geo : GeoInv ({} : Ctx) := geoInv_of_no_segs rfl

/-- the geometric invariant holds in every reachable state -/
theorem runOps_geo (hrc : ComposeGeoSpec env.recompose) (hnp : NoPrevMatch env) (ops : List Op) {c : Ctx} (h : GeoInv c) :
    GeoInv (runOps env c ops) :=
  runOps_closed (geo_closed hrc hnp) ops h

end RimeModel.Session
