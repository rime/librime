import RimeModel.Session.EditBuf
import RimeModel.Session.KeymapFacts
import RimeModel.Session.Inv
/-! C05 proof: under `Cfg05` and `LettersSpec`, the processor chain refines the text buffer on the
editing-key alphabet. -/
namespace RimeModel.Session
open Ctx

variable {env : Env}

/-- the observation compared with the text buffer -/
def Ctx.buf (c : Ctx) : Buf := { text := c.input, caret := c.caret }

/-- what an editing action does, in the vocabulary of the text buffer: `r` is a `J`-state that shows `b`
and has delivered no more than `c` -/
structure EditTo (env : Env) (c r : Ctx) (b : Buf) : Prop where
  j : J env r
  obs : r.buf = b
  buf : r.commitBuf = c.commitBuf

theorem editTo_same {c : Ctx} (h : J env c) : EditTo env c c c.buf := ⟨h, rfl, rfl⟩

/-- recomposing after text and caret were replaced, from a composition that had the shape for some old input -/
theorem editTo_update (hls : LettersSpec env) {c : Ctx} (h : J env c) {oldInput : Bytes} {cm : Comp}
    (hs : Shape05 oldInput cm.segs) {t : Bytes} {p : Nat} (hp : p ≤ t.length) (ht : ∀ b ∈ t, IsLetter env b) :
    EditTo env c (update env { c with input := t, caret := p, comp := cm }) ⟨t, p⟩ :=
  ⟨⟨hp, ht, hls oldInput t p cm hp ht hs, h.noVertical, h.noLinear, h.noHorizontal⟩, rfl, rfl⟩

/-- the text from `i` to `j` replaced by letters `mid`, the caret put after them -/
theorem editTo_splice (hls : LettersSpec env) {c : Ctx} (h : J env c) {i j : Nat} (hi : i ≤ c.input.length)
    {mid : Bytes} (hm : ∀ b ∈ mid, IsLetter env b) :
    EditTo env c (update env { c with input := c.input.take i ++ (mid ++ c.input.drop j), caret := i + mid.length })
      ⟨c.input.take i ++ (mid ++ c.input.drop j), i + mid.length⟩ := by
  refine editTo_update hls h h.shape ?_ ?_
  · rw [List.length_append, List.length_take, List.length_append, Nat.min_eq_left hi]
    omega
  · intro b hb
    simp only [List.mem_append] at hb
    rcases hb with hb | hb | hb
    · exact h.letters b (List.mem_of_mem_take hb)
    · exact hm b hb
    · exact h.letters b (List.mem_of_mem_drop hb)

theorem pushInput_edit (hls : LettersSpec env) {c : Ctx} (h : J env c) {b : UInt8} (hb : IsLetter env b) :
    EditTo env c (pushInput env c b) (c.buf.step (.letter b)) := by
  have hl : ∀ x ∈ [b], IsLetter env x := fun x hx => List.mem_singleton.mp hx ▸ hb
  have key := editTo_splice hls h (i := c.caret) (j := c.caret) h.caret_le hl
  unfold pushInput
  by_cases hge : c.caret ≥ c.input.length
  · -- at the end of the text
    have heq : c.caret = c.input.length := Nat.le_antisymm h.caret_le hge
    have e : c.input ++ [b] = c.input.take c.caret ++ ([b] ++ c.input.drop c.caret) := by
      rw [heq, List.take_length, List.drop_length]
      rfl
    rw [if_pos hge, e, ← heq]
    exact key
  · rw [if_neg hge]
    exact key

theorem popInput_edit (hls : LettersSpec env) {c : Ctx} (h : J env c) :
    EditTo env c (popInput env c).1 (c.buf.step .backSpace) := by
  unfold popInput
  by_cases hz : c.caret = 0
  · rw [if_pos (Nat.lt_one_iff.mpr hz), show c.buf.step .backSpace = c.buf from if_pos hz]
    exact editTo_same h
  · rw [if_neg (fun hlt => hz (Nat.lt_one_iff.mp hlt)),
      show c.buf.step .backSpace = ⟨c.input.take (c.caret - 1) ++ c.input.drop c.caret, c.caret - 1⟩ from if_neg hz]
    dsimp only
    rw [Nat.sub_add_cancel (Nat.pos_of_ne_zero hz)]
    exact editTo_splice hls h (mid := []) (Nat.le_trans (Nat.sub_le _ _) h.caret_le) nofun

theorem deleteInput_edit (hls : LettersSpec env) {c : Ctx} (h : J env c) :
    EditTo env c (deleteInput env c).1 (c.buf.step .delete) := by
  unfold deleteInput
  by_cases hz : c.caret + 1 > c.input.length
  · rw [if_pos hz, show c.buf.step .delete = c.buf from if_pos hz]
    exact editTo_same h
  · rw [if_neg hz, show c.buf.step .delete = ⟨c.input.take c.caret ++ c.input.drop (c.caret + 1), c.caret⟩ from if_neg hz]
    exact editTo_splice hls h (mid := []) h.caret_le nofun

theorem setCaretPos_edit (hls : LettersSpec env) {c : Ctx} (h : J env c) {p : Nat} (hp : p ≤ c.input.length) :
    EditTo env c (setCaretPos env c p) ⟨c.input, p⟩ := by
  unfold setCaretPos
  rw [if_neg (Nat.not_lt.mpr hp)]
  exact editTo_update hls h h.shape hp h.letters

theorem clear_J (hls : LettersSpec env) {c : Ctx} (h : J env c) :
    J env (clear env c) ∧ (clear env c).input = [] ∧ (clear env c).caret = 0 ∧ (clear env c).commitBuf = c.commitBuf :=
  ⟨(editTo_update hls h (cm := { c.comp with segs := [] }) (Or.inl ⟨rfl, rfl⟩) (t := []) (Nat.le_refl _) nofun).j, rfl, rfl, rfl⟩

@[simp] theorem Key.has_zero (n : Int) (bit : Nat) : (Key.mk n 0).has bit = false := by
  simp [Key.has]
@[simp] theorem Key.release_zero (n : Int) : (Key.mk n 0).release = false := by simp [Key.release]
@[simp] theorem Key.ctrl_zero (n : Int) : (Key.mk n 0).ctrl = false := by simp [Key.ctrl]
@[simp] theorem Key.alt_zero (n : Int) : (Key.mk n 0).alt = false := by simp [Key.alt]
@[simp] theorem Key.shift_zero (n : Int) : (Key.mk n 0).shift = false := by simp [Key.shift]
@[simp] theorem Key.super_zero (n : Int) : (Key.mk n 0).super = false := by simp [Key.super]

theorem J.composing {c : Ctx} (h : J env c) : c.isComposing = decide (c.input ≠ []) := by
  unfold Ctx.isComposing
  rcases h.shape with ⟨hi, hs⟩ | ⟨hi, g, hs, _⟩
  · simp [hi, hs]
  · simp [hi, hs]

theorem Status.ne_selected_of_lt {s : Status} (h : s.rank < Status.selected.rank) : s ≠ .selected := by
  intro he
  rw [he] at h
  exact Nat.lt_irrefl _ h

theorem beginEditing_J {c : Ctx} (h : J env c) : c.beginEditing = c := by
  have hs : (beginEditingRev c.comp.segs.reverse).reverse = c.comp.segs := by
    rcases h.shape with ⟨_, hs⟩ | ⟨_, g, hs, _, _, hst, _⟩
    · simp [hs, beginEditingRev]
    · simp [hs, beginEditingRev, Nat.lt_asymm hst, Status.ne_selected_of_lt hst]
  obtain ⟨input, caret, ⟨ci, segs⟩, opts, buf, ni, ns⟩ := c
  simp only [Ctx.beginEditing, Ctx.modComp] at hs ⊢
  rw [hs]

/-- speller ignores non-printable keys -/
theorem speller_noop_of_ge (n : Int) (hn : n ≥ 0x7f) (c : Ctx) : spellerProcess env ⟨n, 0⟩ c = (c, .noop) := by
  unfold spellerProcess
  simp only [Key.release_zero, Key.ctrl_zero, Key.alt_zero, Key.super_zero, Bool.or_self, Bool.false_eq_true, if_false]
  have : (decide (n < 0x20) || decide (n ≥ 0x7f)) = true := by simp [hn]
  simp only [this, if_true]

/-- under Cfg05 the speller accepts a letter and only pushes it: the auto-select / auto-clear steps are off, and
BeginEditing changes nothing in a `J`-state -/
theorem speller_letter (hcfg : Cfg05 env) (hls : LettersSpec env) {c : Ctx} (h : J env c) (b : UInt8) (hb : IsLetter env b) :
    spellerProcess env ⟨(b.toNat : Int), 0⟩ c = (pushInput env c b, .accepted) := by
  have hpush := pushInput_edit hls h hb
  obtain ⟨hb1, hb2, hb3, hb4⟩ := hb
  unfold spellerProcess
  simp only [Key.release_zero, Key.ctrl_zero, Key.alt_zero, Key.super_zero, Bool.or_self, Bool.false_eq_true, if_false]
  have h1 : (decide ((b.toNat : Int) < 0x20) || decide ((b.toNat : Int) ≥ 0x7f)) = false := by
    simp only [Bool.or_eq_false_iff, decide_eq_false_iff_not]; omega
  have hbyte : (Key.mk (b.toNat : Int) 0).byte = b := by
    simp [Key.byte]
  have h2 : ((b.toNat : Int) = 0x20) = False := by simp; omega
  simp only [h1, Bool.false_eq_true, if_false, hbyte, hb3, hb4, h2, decide_false, Bool.false_and, Bool.not_true]
  -- spellerPre is the identity, autoSelectUniqueCandidate is off
  have hpre : spellerPre env true c = c := by
    unfold spellerPre autoSelectAtMaxCodeLength
    simp [hcfg.noMaxLen, hcfg.noAutoClear]
  have huniq : ∀ c', autoSelectUniqueCandidate env c' = (c', false) := by
    intro c'; unfold autoSelectUniqueCandidate; simp [hcfg.noAutoSelect]
  have hpost : ∀ c', spellerPost env (c', false) = c' := by
    intro c'; unfold spellerPost; simp [hcfg.noAutoClear]
  have hprevm : ∀ pv c', autoSelectPreviousMatch env pv c' = (c', false) := by
    intro pv c'; unfold autoSelectPreviousMatch; simp [hcfg.noAutoSelect]
  simp only [hpre, beginEditing_J hpush.j]
  unfold spellerTail
  simp only [hprevm, huniq, hpost, Bool.false_and, Bool.false_eq_true, if_false]

/-- a keymap processor on a key without modifiers: the action bound to the key decides -/
theorem kbpProcess_unbound {α : Type} {km : Keymap α} {n : Int} (h : km.find n 0 = none) (act : α → Ctx → Ctx × Bool)
    (sac ish : Bool) (c : Ctx) : kbpProcess km act sac ish ⟨n, 0⟩ c = (c, .noop) := by
  unfold kbpProcess kbpAccept
  simp only [h, Key.ctrl_zero, Key.alt_zero, Key.shift_zero, Bool.or_self, Bool.false_eq_true, if_false]

theorem kbpProcess_bound {α : Type} {km : Keymap α} {n : Int} {a : α} (h : km.find n 0 = some a)
    (act : α → Ctx → Ctx × Bool) (sac ish : Bool) (c : Ctx) :
    kbpProcess km act sac ish ⟨n, 0⟩ c = if (act a c).2 then ((act a c).1, .accepted) else ((act a c).1, .noop) := by
  unfold kbpProcess kbpAccept
  simp only [h, Key.ctrl_zero, Key.alt_zero, Key.shift_zero, Bool.or_self, Bool.false_eq_true, if_false]

/-- a code in the function-key range is neither a printable select key nor a digit -/
def FnCode (n : Int) : Prop := n ≥ 0xff00 ∧ ¬ (n ≥ 0xffb0 ∧ n ≤ 0xffb9)

theorem FnCode.ge_7f {n : Int} (h : FnCode n) : n ≥ 0x7f := Int.le_trans (by decide) h.1

/-- a function key whose selector binding (if any) refuses passes the selector of a `J`-state -/
theorem selectorProcess_fn_noop (n : Int) (hn : FnCode n) (c : Ctx)
    (hacc : ∀ a, Gen.selectorKeymap0.find n 0 = some a → (selectorAct env a c) = (c, false)) (h : J env c) :
    selectorProcess env ⟨n, 0⟩ c = (c, .noop) := by
  unfold selectorProcess
  simp only [Key.release_zero, Key.alt_zero, Key.super_zero, Bool.or_self, Bool.false_eq_true, if_false]
  rcases h.shape with ⟨_, hs⟩ | ⟨_, g, hs, _, _, _, _, hm, hr, _⟩
  · simp [hs]
  · have hk : kbpProcess (selectorKeymap c) (selectorAct env) false false ⟨n, 0⟩ c = (c, .noop) := by
      have hkm : selectorKeymap c = Gen.selectorKeymap0 := by
        unfold selectorKeymap isVertical isLinear
        simp [h.noVertical, h.noLinear, h.noHorizontal]
      rw [hkm]
      cases hf : Gen.selectorKeymap0.find n 0 with
      | none => exact kbpProcess_unbound hf _ _ _ c
      | some a =>
        rw [kbpProcess_bound hf, hacc a hf]
        rfl
    have hp : ¬ (n < 0x7f) := Int.not_lt.mpr hn.ge_7f
    have hd1 : ¬ (n ≤ 0x39) := Int.not_le.mpr (Int.lt_of_lt_of_le (by decide) hn.1)
    simp only [hs, List.getLast?_singleton, Option.isNone_eq_false_iff.mpr hm, hr, Bool.or_self, Bool.false_eq_true,
      if_false, hk]
    simp [hp, hd1, hn.2]

/-- with the first candidate selected, Home and End are not for the selector -/
theorem selectorAct_home_end {c : Ctx} (h : J env c) {a : SelAct} (ha : a = .home ∨ a = .end_) :
    selectorAct env a c = (c, false) := by
  unfold selectorAct
  rcases h.shape with ⟨_, hs⟩ | ⟨_, g, hs, _, _, _, hsel, _⟩
  · simp [hs]
  · rcases ha with rfl | rfl <;> simp [hs, hsel]

theorem navBeginMove_J {c : Ctx} (h : J env c) :
    J env (navBeginMove c) ∧ (navBeginMove c).buf = c.buf ∧ (navBeginMove c).commitBuf = c.commitBuf := by
  unfold navBeginMove
  rw [beginEditing_J h]
  exact ite_cases (fun r : Ctx => J env r ∧ r.buf = c.buf ∧ r.commitBuf = c.commitBuf)
    (fun _ => ⟨⟨h.caret_le, h.letters, h.shape, h.noVertical, h.noLinear, h.noHorizontal⟩, rfl, rfl⟩)
    (fun _ => ⟨h, rfl, rfl⟩)

theorem navGoToEnd_edit (hls : LettersSpec env) {c : Ctx} (h : J env c) :
    EditTo env c (navGoToEnd env c).1 (c.buf.step .end_) := by
  unfold navGoToEnd
  by_cases heq : c.caret = c.input.length
  · have e : c.buf.step .end_ = c.buf := by
      show (⟨c.input, c.input.length⟩ : Buf) = ⟨c.input, c.caret⟩
      rw [heq]
    rw [if_neg (not_not_intro heq), e]
    exact editTo_same h
  · rw [if_pos heq]
    exact setCaretPos_edit hls h (Nat.le_refl _)

theorem navGoHome_edit (hls : LettersSpec env) {c : Ctx} (h : J env c) :
    EditTo env c (navGoHome env c).1 (c.buf.step .home) := by
  unfold navGoHome
  dsimp only
  -- the single segment of a `J`-state is unselected and starts at 0
  have hconf : (if c.comp.segs = [] then c.caret else homeScanRev c.caret c.comp.segs.reverse) =
      if c.comp.segs = [] then c.caret else 0 := by
    rcases h.shape with ⟨_, hs⟩ | ⟨_, g, hs, hg0, _, hst, _⟩
    · simp [hs]
    · simp [hs, homeScanRev, Nat.not_le_of_lt hst, hg0]
  rw [hconf]
  by_cases hz : c.caret = 0
  · have e : c.buf.step .home = c.buf := by
      show (⟨c.input, 0⟩ : Buf) = ⟨c.input, c.caret⟩
      rw [hz]
    rw [if_neg (by simp [hz]), if_neg (by simp [hz]), e]
    exact editTo_same h
  · by_cases hsg : c.comp.segs = []
    · rw [if_neg (by simp [hsg]), if_pos hz]
      exact setCaretPos_edit hls h (Nat.zero_le _)
    · rw [if_pos (by simp [hsg]; omega), if_neg hsg]
      exact setCaretPos_edit hls h (Nat.zero_le _)

theorem orElse_fst_of_true {r : Ctx × Bool} {f : Ctx → Ctx × Bool} (h : r.2 = true) : (orElse r f).1 = r.1 := by
  unfold orElse; simp [h]

theorem orElse_fst_of_false {r : Ctx × Bool} {f : Ctx → Ctx × Bool} (h : r.2 = false) : (orElse r f).1 = (f r.1).1 := by
  unfold orElse; simp [h]

/-- move left: caret−1, or wrap to the end from 0 -/
theorem navLeft_edit (hls : LettersSpec env) {c : Ctx} (h : J env c) :
    EditTo env c (orElse (navMoveLeft env c) (navGoToEnd env)).1 (c.buf.step .kpLeft) := by
  unfold navMoveLeft
  by_cases hz : c.caret = 0
  · rw [if_pos hz, orElse_fst_of_false rfl, show c.buf.step .kpLeft = c.buf.step .end_ from if_pos hz]
    exact navGoToEnd_edit hls h
  · rw [if_neg hz, orElse_fst_of_true rfl, show c.buf.step .kpLeft = ⟨c.input, c.caret - 1⟩ from if_neg hz]
    exact setCaretPos_edit hls h (Nat.le_trans (Nat.sub_le _ _) h.caret_le)

/-- move right: caret+1, or wrap to 0 from the end -/
theorem navRight_edit (hls : LettersSpec env) {c : Ctx} (h : J env c) :
    EditTo env c (orElse (navMoveRight env c) (navGoHome env)).1 (c.buf.step .kpRight) := by
  unfold navMoveRight
  by_cases hz : c.caret ≥ c.input.length
  · rw [if_pos hz, orElse_fst_of_false rfl, show c.buf.step .kpRight = c.buf.step .home from if_pos hz]
    exact navGoHome_edit hls h
  · rw [if_neg hz, orElse_fst_of_true rfl, show c.buf.step .kpRight = ⟨c.input, c.caret + 1⟩ from if_neg hz]
    exact setCaretPos_edit hls h (Nat.lt_of_not_le hz)

theorem navigatorAct_leftByChar (c : Ctx) :
    navigatorAct env .leftByChar c = ((orElse (navMoveLeft env (navBeginMove c)) (navGoToEnd env)).1, true) := rfl
theorem navigatorAct_rightByChar (c : Ctx) :
    navigatorAct env .rightByChar c = ((orElse (navMoveRight env (navBeginMove c)) (navGoHome env)).1, true) := rfl
theorem navigatorAct_home (c : Ctx) : navigatorAct env .home c = ((navGoHome env (navBeginMove c)).1, true) := rfl
theorem navigatorAct_end (c : Ctx) : navigatorAct env .end_ c = ((navGoToEnd env (navBeginMove c)).1, true) := rfl

/-- the navigator's action for an editing key moves the caret as the buffer does -/
theorem nav_edit (hls : LettersSpec env) {c : Ctx} (h : J env c) {k : EditKey} {a : NavAct} (ha : k.nav = some a) :
    EditTo env c (navigatorAct env a c).1 (c.buf.step k) := by
  obtain ⟨h1, hb, hc⟩ := navBeginMove_J h
  -- `navBeginMove c` differs from `c` only in what `J`, the buffer and the deliveries do not see
  suffices key : EditTo env (navBeginMove c) (navigatorAct env a c).1 ((navBeginMove c).buf.step k) from
    ⟨key.j, hb ▸ key.obs, key.buf.trans hc⟩
  cases k <;> cases ha
  · rw [navigatorAct_leftByChar]
    exact navLeft_edit hls h1
  · rw [navigatorAct_rightByChar]
    exact navRight_edit hls h1
  · rw [navigatorAct_rightByChar]
    exact navRight_edit hls h1
  · rw [navigatorAct_home]
    exact navGoHome_edit hls h1
  · rw [navigatorAct_end]
    exact navGoToEnd_edit hls h1

theorem navigatorAct_snd (a : NavAct) (c : Ctx) : (navigatorAct env a c).2 = true := by
  cases a <;> rfl

theorem navigatorProcess_composing {c : Ctx} (h : J env c) (n : Int) (hne : c.input ≠ []) :
    navigatorProcess env ⟨n, 0⟩ c = kbpProcess Gen.navigatorKeymap0 (navigatorAct env) true true ⟨n, 0⟩ c := by
  unfold navigatorProcess
  have hv : isVertical c = false := h.noVertical
  simp only [Key.release_zero, Bool.false_eq_true, if_false, h.composing, hne, ne_eq, not_false_eq_true, decide_true,
    Bool.not_true, hv]

theorem navigatorProcess_idle {c : Ctx} (h : J env c) (k : Key) (he : c.input = []) :
    navigatorProcess env k c = (c, .noop) := by
  unfold navigatorProcess
  rw [h.composing, he]
  exact ite_cases (· = (c, PResult.noop)) (fun _ => rfl) (fun _ => if_pos rfl)

theorem reopenPreviousSelection_J {c : Ctx} (h : J env c) : reopenPreviousSelection env c = (c, false) := by
  unfold reopenPreviousSelection
  have : reopenSelRev c.caret c.comp.segs.reverse = none := by
    rcases h.shape with ⟨_, hs⟩ | ⟨_, g, hs, _, _, hst, _⟩
    · simp [hs, reopenSelRev]
    · simp [hs, reopenSelRev, Nat.lt_asymm hst, Status.ne_selected_of_lt hst]
  rw [this]

theorem reopenPreviousSegment_J {c : Ctx} (h : J env c) : reopenPreviousSegment env c = (c, false) := by
  unfold reopenPreviousSegment
  have : c.comp.trim = (c.comp, false) := by
    unfold Comp.trim
    rcases h.shape with ⟨_, hs⟩ | ⟨_, g, hs, hg0, hg1, _⟩
    · simp [hs]
    · have : ¬ g.start = g.stop := by omega
      simp [hs, this]
  rw [this]
  simp

theorem popThenReopen_fst (hls : LettersSpec env) {c : Ctx} (h : J env c) :
    (popThenReopen env c).1 = (popInput env c).1 := by
  unfold popThenReopen
  dsimp only
  split
  · rw [reopenPreviousSegment_J (popInput_edit hls h).j]
  · rfl

theorem editorAct_revertLastEdit (c : Ctx) : editorAct env .revertLastEdit c =
    ((orElse (reopenPreviousSelection env c) (popThenReopen env)).1, true) := rfl
theorem editorAct_backToPreviousInput (c : Ctx) : editorAct env .backToPreviousInput c =
    ((orElse (orElse (reopenPreviousSegment env c) (reopenPreviousSelection env)) (popInput env)).1, true) := rfl
theorem editorAct_deleteChar (c : Ctx) : editorAct env .deleteChar c = ((deleteInput env c).1, true) := rfl

/-- the editor's action for an editing key changes the text as the buffer does -/
theorem editor_edit (hls : LettersSpec env) {c : Ctx} (h : J env c) (hne : c.input ≠ []) {fluid : Bool} {k : EditKey}
    {a : EditorAct} (ha : k.edit fluid = some a) : EditTo env c (editorAct env a c).1 (c.buf.step k) := by
  cases k <;> cases ha
  · cases fluid
    · rw [if_neg Bool.false_ne_true, editorAct_revertLastEdit, reopenPreviousSelection_J h, orElse_fst_of_false rfl,
        popThenReopen_fst hls h]
      exact popInput_edit hls h
    · rw [if_pos rfl, editorAct_backToPreviousInput, reopenPreviousSegment_J h]
      have h1 : orElse ((c, false) : Ctx × Bool) (reopenPreviousSelection env) = (c, false) := by
        unfold orElse; simp [reopenPreviousSelection_J h]
      rw [h1, orElse_fst_of_false rfl]
      exact popInput_edit hls h
  · rw [editorAct_deleteChar]
    exact deleteInput_edit hls h
  · have hcp : clearPreviousSegment env c = (setInput env c [], true) := by
      unfold clearPreviousSegment
      rcases h.shape with ⟨hi, _⟩ | ⟨_, g, hs, hg0, _⟩
      · exact absurd hi hne
      · simp [hs, hg0, Nat.not_le.mpr (List.length_pos_iff.mpr hne)]
    unfold editorAct
    simp only [hcp, if_true]
    exact editTo_update hls h h.shape (t := []) (Nat.le_refl _) nofun

theorem editorAct_snd {fluid : Bool} {k : EditKey} {a : EditorAct} (ha : k.edit fluid = some a) (c : Ctx) :
    (editorAct env a c).2 = true := by
  cases k <;> cases ha
  · cases fluid <;> rfl
  · rfl
  · unfold editorAct
    dsimp only
    split <;> rfl

/-- a function key is not a character for the editor's handler -/
theorem editorProcess_fn {c : Ctx} (h : J env c) (fluid : Bool) (n : Int) (hn : n ≥ 0x7f) :
    editorProcess env fluid ⟨n, 0⟩ c =
      if c.input ≠ [] then
        kbpProcess (if fluid then Gen.fluidEditorKeymap else Gen.expressEditorKeymap) (editorAct env) true true ⟨n, 0⟩ c
      else (c, .noop) := by
  unfold editorProcess
  simp only [Key.release_zero, Bool.false_eq_true, if_false, h.composing, Key.ctrl_zero, Key.alt_zero, Key.super_zero,
    decide_eq_false (Int.not_lt.mpr hn), Bool.and_false]
  generalize kbpProcess (if fluid = true then Gen.fluidEditorKeymap else Gen.expressEditorKeymap) (editorAct env) true true
    ⟨n, 0⟩ c = r
  obtain ⟨r1, r2⟩ := r
  by_cases hne : c.input = []
  · simp [hne]
  · cases r2 <;> simp [hne]

theorem editorProcess_idle {c : Ctx} (h : J env c) (fluid : Bool) {n : Int} (hn : n ≥ 0x7f) (he : c.input = []) :
    editorProcess env fluid ⟨n, 0⟩ c = (c, .noop) := by
  rw [editorProcess_fn h fluid n hn, if_neg (fun hne => hne he)]

theorem editorProcess_bound {c : Ctx} (h : J env c) {fluid : Bool} {n : Int} (hn : n ≥ 0x7f) (hne : c.input ≠ [])
    {a : EditorAct} (hfind : (if fluid then Gen.fluidEditorKeymap else Gen.expressEditorKeymap).find n 0 = some a)
    (hact : (editorAct env a c).2 = true) :
    editorProcess env fluid ⟨n, 0⟩ c = ((editorAct env a c).1, .accepted) := by
  rw [editorProcess_fn h fluid n hn, if_pos hne, kbpProcess_bound hfind, if_pos hact]

theorem navigatorProcess_bound {c : Ctx} (h : J env c) {n : Int} (hne : c.input ≠ []) {a : NavAct}
    (hfind : Gen.navigatorKeymap0.find n 0 = some a) (hact : (navigatorAct env a c).2 = true) :
    navigatorProcess env ⟨n, 0⟩ c = ((navigatorAct env a c).1, .accepted) := by
  rw [navigatorProcess_composing h n hne, kbpProcess_bound hfind, if_pos hact]

theorem navigatorProcess_unbound {c : Ctx} (h : J env c) {n : Int} (hne : c.input ≠ [])
    (hfind : Gen.navigatorKeymap0.find n 0 = none) : navigatorProcess env ⟨n, 0⟩ c = (c, .noop) :=
  (navigatorProcess_composing h n hne).trans (kbpProcess_unbound hfind _ _ _ c)

theorem chain_cons_noop {p : Proc} {k : Key} {c c' : Ctx} (h : procRun env p k c = (c', .noop)) (ps : List Proc) :
    chain env k (p :: ps) c = chain env k ps c' := by
  rw [chain, h]

theorem chain_cons_accepted {p : Proc} {k : Key} {c c' : Ctx} (h : procRun env p k c = (c', .accepted))
    (ps : List Proc) : chain env k (p :: ps) c = (c', true) := by
  rw [chain, h]

theorem procRun_editor (fluid : Bool) (k : Key) (c : Ctx) :
    procRun env (if fluid then .fluidEditor else .expressEditor) k c = editorProcess env fluid k c := by
  cases fluid <;> rfl

structure StepOK (env : Env) (c : Ctx) (k : EditKey) (r : Ctx × Bool) : Prop where
  j : J env r.1
  obs : r.1.buf = c.buf.step k
  handled : r.2 = c.buf.handled k
  buf : r.1.commitBuf = c.commitBuf

theorem selector_passes {c : Ctx} (h : J env c) {k : EditKey} (hk : k.isLetter = false) :
    ∀ a, Gen.selectorKeymap0.find k.toKey.code 0 = some a → selectorAct env a c = (c, false) := by
  intro a ha
  rw [sel0_find hk] at ha
  cases k <;> cases ha
  · exact selectorAct_home_end h (Or.inl rfl)
  · exact selectorAct_home_end h (Or.inr rfl)

/-- idle state: the empty buffer ignores every key that is not a letter, and so does the chain -/
theorem idle_stepOK {c : Ctx} (h : J env c) (he : c.input = []) (k : EditKey) (hk : k.isLetter = false) :
    StepOK env c k (c, false) := by
  have hc := h.caret_le
  rw [he] at hc
  have e : c.buf = ⟨[], 0⟩ := by
    unfold Ctx.buf
    rw [he, Nat.le_zero.mp hc]
  have hb : (⟨[], 0⟩ : Buf).step k = ⟨[], 0⟩ ∧ (⟨[], 0⟩ : Buf).handled k = false := by
    cases k with
    | letter b => cases hk
    | _ => exact ⟨rfl, rfl⟩
  refine ⟨h, ?_, ?_, rfl⟩
  · rw [e, hb.1]
  · rw [e, hb.2]

theorem stepOK_of_edit {c r : Ctx} {k : EditKey} (hm : EditTo env c r (c.buf.step k)) (hne : c.input ≠ []) :
    StepOK env c k (r, true) :=
  ⟨hm.j, hm.obs, by simp [Ctx.buf, Buf.handled, hne], hm.buf⟩

/-- **one key refines one buffer step** -/
theorem step_refines (hcfg : Cfg05 env) (hls : LettersSpec env) {c : Ctx} (h : J env c) (k : EditKey)
    (hk : ∀ b, k = .letter b → IsLetter env b) : StepOK env c k (processKey env k.toKey c) := by
  -- the editor flavour
  obtain ⟨fluid, hp⟩ : ∃ fluid : Bool, env.processors =
      [.speller, .selector, .navigator, if fluid then .fluidEditor else .expressEditor] := by
    rcases hcfg.procs with hp | hp
    · exact ⟨false, hp⟩
    · exact ⟨true, hp⟩
  unfold processKey
  rw [hp]
  by_cases hl : k.isLetter = true
  · obtain ⟨b, rfl⟩ : ∃ b, k = .letter b := by
      cases k with
      | letter b => exact ⟨b, rfl⟩
      | _ => cases hl
    have hb := hk b rfl
    have hpush := pushInput_edit hls h hb
    rw [show (EditKey.letter b).toKey = ⟨(b.toNat : Int), 0⟩ from rfl,
      chain_cons_accepted (p := .speller) (speller_letter hcfg hls h b hb)]
    exact ⟨hpush.j, hpush.obs, by simp [Buf.handled, EditKey.isLetter], hpush.buf⟩
  · have hl : k.isLetter = false := by simpa using hl
    have hfn : FnCode k.toKey.code := by
      unfold FnCode
      cases k with
      | letter b => cases hl
      | _ => decide
    -- a function key passes the speller and the selector of a `J`-state
    rw [show k.toKey = ⟨k.toKey.code, 0⟩ by cases k <;> rfl,
      chain_cons_noop (p := .speller) (speller_noop_of_ge _ hfn.ge_7f c),
      chain_cons_noop (p := .selector) (selectorProcess_fn_noop _ hfn c (selector_passes h hl) h)]
    by_cases he : c.input = []
    · rw [chain_cons_noop (p := .navigator) (navigatorProcess_idle h _ he),
        chain_cons_noop ((procRun_editor fluid _ c).trans (editorProcess_idle h fluid hfn.ge_7f he))]
      exact idle_stepOK h he k hl
    · -- a composing session: the key is the navigator's, or else the editor's
      cases hn : k.nav with
      | some a =>
        rw [chain_cons_accepted (p := .navigator)
          (navigatorProcess_bound h he (by rw [nav0_find hl, hn]) (navigatorAct_snd a c))]
        exact stepOK_of_edit (nav_edit hls h hn) he
      | none =>
        obtain ⟨a, ha⟩ := k.edit_of_nav_none hl hn fluid
        rw [chain_cons_noop (p := .navigator) (navigatorProcess_unbound h he (by rw [nav0_find hl, hn])),
          chain_cons_accepted ((procRun_editor fluid _ c).trans
            (editorProcess_bound h hfn.ge_7f he (by rw [editor_find hl, ha]) (editorAct_snd ha c)))]
        exact stepOK_of_edit (editor_edit hls h he ha) he

/-- from any `J`-state, the chain and the buffer stay in step -/
theorem runEditKeys_refines (hcfg : Cfg05 env) (hls : LettersSpec env) (ks : List EditKey) :
    ∀ (c : Ctx) (acc : List Bool), J env c → (∀ k ∈ ks, ∀ b, k = .letter b → IsLetter env b) →
      J env (ks.foldl (keyStep env) (c, acc)).1 ∧
      (ks.foldl (keyStep env) (c, acc)).1.buf = (ks.foldl bufStep (c.buf, acc)).1 ∧
      (ks.foldl (keyStep env) (c, acc)).2 = (ks.foldl bufStep (c.buf, acc)).2 ∧
      (ks.foldl (keyStep env) (c, acc)).1.commitBuf = c.commitBuf := by
  induction ks with
  | nil => exact fun c acc h _ => ⟨h, rfl, rfl, rfl⟩
  | cons k ks ih =>
    intro c acc h hk
    have hs := step_refines hcfg hls h k (hk k List.mem_cons_self)
    have ih := ih (processKey env k.toKey c).1 (acc ++ [(processKey env k.toKey c).2]) hs.j
      (fun k' hk' => hk k' (List.mem_cons_of_mem k hk'))
    have e : bufStep (c.buf, acc) k = ((processKey env k.toKey c).1.buf, acc ++ [(processKey env k.toKey c).2]) := by
      unfold bufStep
      rw [hs.obs, hs.handled]
    rw [List.foldl_cons, List.foldl_cons, e]
    exact ⟨ih.1, ih.2.1, ih.2.2.1, ih.2.2.2.trans hs.buf⟩

end RimeModel.Session
