import RimeModel.Session.Segmentors
/-!
The `while (!segments->HasFinishedSegmentation())` loop of `ConcreteEngine::CalculateSegmentation`, for any round of
the segmentors (`segLoopG step`).  Its fuel is never what stops it: for every round function that keeps the loop invariant
and the input and never leaves the end left of the round's start (`StepOK`; every list of segmentors gives such a round),
`segLoopG` with at least `|input| - current start` fuel goes through complete rounds only (`segLoopG_induct`) and returns
the same composition for every larger fuel (`segLoopG_stable`).  Measure: a round that continues moves the current start
strictly to the right, and an unfinished segmentation has its current start left of the input's end.  For the loop of
`compose` the same is said through a fuel-free big-step semantics, `LoopRun`: `segLoop` computes its (unique) result.
-/
namespace RimeModel.Session

/-- what the termination argument needs of one round of the segmentors -/
def StepOK (step : Comp → Comp) : Prop :=
  ∀ c, LoopInv c → LoopInv (step c) ∧ (step c).input = c.input ∧ c.currentStart ≤ endOf (step c).segs

/-- one round of the segmentors (abc, then fallback) -/
def segStep (cfg : SegCfg) (c : Comp) : Comp := fallbackProceed (abcProceed cfg c)

/-- `if (!segments->HasFinishedSegmentation()) segments->Forward();` at the end of a round -/
def segNext (c1 : Comp) : Comp := if !c1.hasFinishedSegmentation then c1.forward.1 else c1

/-! ### a round of the segmentors -/

/-- what every segmentor keeps, a round keeps -/
theorem runSegmentors_keep {P : Comp → Prop} (cfg : RSegCfg) (hsgm : ∀ s c, P c → P (sgmProceed cfg s c).1) :
    ∀ (l : List Sgm) {c : Comp}, P c → P (runSegmentors cfg l c)
  | [], _, h => h
  | s :: rest, c, h => ite_closed (runSegmentors_keep cfg hsgm rest (hsgm s c h)) (hsgm s c h)

theorem segStepR_keeps (cfg : RSegCfg) (c : Comp) : SegKeeps c (segStepR cfg c) :=
  runSegmentors_keep cfg (fun s c' h => h.trans (sgmProceed_keeps cfg s c')) cfg.segmentors (.refl c)

/-- no segmentor moves the end of the segmentation to the left: a round leaves it at or after the round's start -/
theorem segStepR_stepOK (cfg : RSegCfg) : StepOK (segStepR cfg) := by
  intro c h
  have hr := runSegmentors_keep (P := GeoKeeps c) cfg (fun s c' hc' => hc'.trans (sgmProceed_geo cfg s c'))
    cfg.segmentors (.refl c) h
  exact ⟨hr.1, (segStepR_keeps cfg c).1, Nat.le_trans (currentStart_le_end h.1) hr.2⟩

theorem segStepP_eq (cfg : PSegCfg) :
    segStepP cfg = segStepR { toPSegCfg := cfg, segmentors := [.abc, .punct, .fallback] } := by
  funext c
  simp only [segStepP, segStepR, runSegmentors, sgmProceed, if_true, Bool.false_eq_true, if_false]

theorem segStep_eq (cfg : SegCfg) : segStep cfg = segStepR { toSegCfg := cfg, segmentors := [.abc, .fallback] } := by
  funext c
  simp only [segStep, segStepR, runSegmentors, sgmProceed, if_true, Bool.false_eq_true, if_false]

theorem segStep_stepOK (cfg : SegCfg) : StepOK (segStep cfg) := by
  rw [segStep_eq]; exact segStepR_stepOK _

/-! ### the loop -/

theorem segLoopG_succ (step : Comp → Comp) (caret fuel : Nat) (c : Comp) :
    segLoopG step caret (fuel + 1) c =
      if c.hasFinishedSegmentation then c
      else if c.currentStart = (step c).currentEnd then step c
      else if c.currentStart ≥ caret then step c
      else segLoopG step caret fuel (segNext (step c)) := by
  show (if c.hasFinishedSegmentation then c
      else if c.currentStart = (step c).currentEnd then step c
      else if c.currentStart ≥ caret then step c
      else if !(step c).hasFinishedSegmentation then segLoopG step caret fuel (step c).forward.1
      else segLoopG step caret fuel (step c)) = _
  rw [segNext, apply_ite (segLoopG step caret fuel)]

theorem segLoopG_finished (step : Comp → Comp) (caret : Nat) {c : Comp} (h : c.hasFinishedSegmentation = true) :
    ∀ n, segLoopG step caret n c = c
  | 0 => rfl
  | n + 1 => by rw [segLoopG_succ, if_pos h]

/-- the loop of `compose` is the generic loop run on its own round -/
theorem segLoop_eq (cfg : SegCfg) (caret fuel : Nat) :
    ∀ c : Comp, segLoop cfg caret fuel c = segLoopG (segStep cfg) caret fuel c := by
  induction fuel with
  | zero => exact fun _ => rfl
  | succ fuel ih =>
    intro c
    unfold segLoop segLoopG
    simp only [ih]
    rfl

/-- what a round of the segmentors and `Forward` keep, the loop keeps -/
theorem segLoopG_keep {P : Comp → Prop} {step : Comp → Comp} (hstep : ∀ c, P c → P (step c))
    (hfwd : ∀ c, P c → P c.forward.1) (caret : Nat) : ∀ (fuel : Nat) {c : Comp}, P c → P (segLoopG step caret fuel c)
  | 0, _, h => h
  | fuel + 1, c, h => by
    have h1 := hstep c h
    rw [segLoopG_succ]
    exact ite_closed h (ite_closed h1 (ite_closed h1 (segLoopG_keep hstep hfwd caret fuel (ite_closed (hfwd _ h1) h1))))

theorem not_finished_iff {c : Comp} : c.hasFinishedSegmentation = false ↔ endOf c.segs < c.input.length := by
  unfold Comp.hasFinishedSegmentation
  rw [currentEnd_eq]
  simp only [decide_eq_false_iff_not, ge_iff_le, Nat.not_le]

theorem finished_iff {c : Comp} : c.hasFinishedSegmentation = true ↔ c.input.length ≤ endOf c.segs := by
  unfold Comp.hasFinishedSegmentation
  rw [currentEnd_eq]
  simp only [decide_eq_true_eq, ge_iff_le]

/-- the measure: if the loop goes on after a round that advanced, the next round starts strictly to the
right of this one -/
theorem segNext_progress {step : Comp → Comp} (hs : StepOK step) {c : Comp} (h : LoopInv c)
    (hadv : c.currentStart ≠ (step c).currentEnd)
    (hnf : (segNext (step c)).hasFinishedSegmentation = false) :
    c.currentStart < (segNext (step c)).currentStart := by
  have hle := (hs c h).2.2
  rw [currentEnd_eq] at hadv
  cases hfin : (step c).hasFinishedSegmentation
  · rw [segNext, if_pos (by rw [hfin]; rfl), forward_currentStart]
    exact Nat.lt_of_le_of_ne hle hadv
  · rw [segNext, if_neg (by rw [hfin]; exact Bool.false_ne_true), hfin] at hnf
    cases hnf

/-- induction over the rounds of a loop that has enough fuel: a property of (fuel, composition) that holds whenever the
segmentation is finished, and holds before a round whenever it holds for one unit less after it (in case the loop goes
on), holds for every composition the loop may be started on with at least `|input| - current start` fuel -/
theorem segLoopG_induct {step : Comp → Comp} (hs : StepOK step) (caret : Nat) {P : Nat → Comp → Prop}
    (hfin : ∀ fuel c, c.hasFinishedSegmentation = true → P fuel c)
    (hround : ∀ fuel c, LoopInv c → c.hasFinishedSegmentation = false →
      (c.currentStart ≠ (step c).currentEnd → c.currentStart < caret → P fuel (segNext (step c))) → P (fuel + 1) c) :
    ∀ (fuel : Nat) (c : Comp), GeoOK c.segs → c.input.length - c.currentStart ≤ fuel → P fuel c := by
  intro fuel
  induction fuel with
  | zero =>
    intro c hg hm
    exact hfin 0 c (finished_iff.mpr
      (Nat.le_trans (Nat.le_of_sub_eq_zero (Nat.le_zero.mp hm)) (currentStart_le_end hg)))
  | succ fuel ih =>
    intro c hg hm
    cases hf : c.hasFinishedSegmentation
    · -- an unfinished segmentation of a contiguous list lies within the input
      have h : LoopInv c := ⟨hg, Nat.le_of_lt (not_finished_iff.mp hf)⟩
      refine hround fuel c h hf (fun hadv _ => ?_)
      cases hnf : (segNext (step c)).hasFinishedSegmentation
      · have hp := segNext_progress hs h hadv hnf
        have hni : (segNext (step c)).input = c.input :=
          ite_closed (P := fun c' : Comp => c'.input = c.input) ((forward_input _).trans (hs c h).2.1) (hs c h).2.1
        have hlt : c.currentStart < c.input.length :=
          Nat.lt_of_le_of_lt (currentStart_le_end h.1) (not_finished_iff.mp hf)
        exact ih _ (ite_closed (P := LoopInv) (forward_loopInv (hs c h).1) (hs c h).1).1
          (by rw [hni]; exact Nat.le_of_lt_succ (Nat.lt_of_lt_of_le (Nat.sub_lt_sub_left hlt hp) hm))
      · exact hfin fuel _ hnf
    · exact hfin _ c hf

/-- **fuel adequacy**: with at least `input.length - currentStart` fuel, more fuel does not change the result -/
theorem segLoopG_stable {step : Comp → Comp} (hs : StepOK step) (caret : Nat) : ∀ (fuel : Nat) (c : Comp), GeoOK c.segs →
    c.input.length - c.currentStart ≤ fuel → ∀ k, segLoopG step caret (fuel + k) c = segLoopG step caret fuel c := by
  refine segLoopG_induct hs caret (fun fuel c hc k => ?_) (fun fuel c _ hc ih k => ?_)
  · rw [segLoopG_finished _ _ hc, segLoopG_finished _ _ hc]
  · have hc' : ¬ c.hasFinishedSegmentation = true := by rw [hc]; exact Bool.false_ne_true
    rw [Nat.add_right_comm fuel 1 k, segLoopG_succ, segLoopG_succ, if_neg hc', if_neg hc']
    by_cases hadv : c.currentStart = (step c).currentEnd
    · rw [if_pos hadv, if_pos hadv]
    · rw [if_neg hadv, if_neg hadv]
      by_cases hcar : c.currentStart ≥ caret
      · rw [if_pos hcar, if_pos hcar]
      · rw [if_neg hcar, if_neg hcar]
        exact ih hadv (Nat.lt_of_not_le hcar) k

/-- the fuel `|input| + 2` that `CalculateSegmentation` passes is adequate for every composition `Compose` hands to the
loop: more fuel gives the same segmentation -/
theorem resetStage_fuel_adequate {step : Comp → Comp} (hs : StepOK step) (input : Bytes) (caret : Nat) {c : Comp}
    (h : GeoOK c.segs) (k : Nat) :
    let c2 := resetStage input caret c
    segLoopG step caret (c2.input.length + 2 + k) c2 = segLoopG step caret (c2.input.length + 2) c2 :=
  segLoopG_stable hs caret _ _ (resetStage_geo h input caret).1 (Nat.le_trans (Nat.sub_le _ _) (Nat.le_add_right _ _)) k

/-! ### the loop of `compose`, without fuel -/

/-- big-step semantics of the loop, without fuel: `LoopRun cfg caret c r` — started on `c`, the loop exits
after finitely many rounds leaving `r`.  One constructor per way through the loop body. -/
inductive LoopRun (cfg : SegCfg) (caret : Nat) : Comp → Comp → Prop
  /-- the loop condition fails -/
  | finished {c : Comp} : c.hasFinishedSegmentation = true → LoopRun cfg caret c c
  /-- `if (start_pos == segments->GetCurrentEndPosition()) break;` -/
  | noAdvance {c : Comp} : c.hasFinishedSegmentation = false →
      c.currentStart = (segStep cfg c).currentEnd → LoopRun cfg caret c (segStep cfg c)
  /-- `if (start_pos >= context_->caret_pos()) break;` -/
  | pastCaret {c : Comp} : c.hasFinishedSegmentation = false →
      c.currentStart ≠ (segStep cfg c).currentEnd → caret ≤ c.currentStart → LoopRun cfg caret c (segStep cfg c)
  /-- another round -/
  | round {c r : Comp} : c.hasFinishedSegmentation = false →
      c.currentStart ≠ (segStep cfg c).currentEnd → c.currentStart < caret →
      LoopRun cfg caret (segNext (segStep cfg c)) r → LoopRun cfg caret c r

/-- **termination for every contiguous composition**: with at least `input.length - currentStart` fuel,
`segLoop` returns the result of a complete run of the loop, and more fuel does not change it -/
theorem segLoop_terminates (cfg : SegCfg) (caret : Nat) {c : Comp} (h : GeoOK c.segs) {fuel : Nat}
    (hf : c.input.length - c.currentStart ≤ fuel) :
    LoopRun cfg caret c (segLoop cfg caret fuel c) ∧
      ∀ k, segLoop cfg caret (fuel + k) c = segLoop cfg caret fuel c := by
  simp only [segLoop_eq]
  refine ⟨?_, segLoopG_stable (segStep_stepOK cfg) caret fuel c h hf⟩
  refine segLoopG_induct (segStep_stepOK cfg) caret (P := fun fuel c => LoopRun cfg caret c (segLoopG (segStep cfg) caret fuel c))
    (fun fuel c hc => ?_) (fun fuel c _ hc ih => ?_) fuel c h hf
  · rw [segLoopG_finished _ _ hc]; exact .finished hc
  · rw [segLoopG_succ, if_neg (by rw [hc]; exact Bool.false_ne_true)]
    by_cases hadv : c.currentStart = (segStep cfg c).currentEnd
    · rw [if_pos hadv]; exact .noAdvance hc hadv
    · rw [if_neg hadv]
      by_cases hcar : c.currentStart ≥ caret
      · rw [if_pos hcar]; exact .pastCaret hc hadv hcar
      · rw [if_neg hcar]; exact .round hc hadv (Nat.lt_of_not_le hcar) (ih hadv (Nat.lt_of_not_le hcar))

/-- what a complete run leaves: the loop's own exit condition holds of the result -/
theorem LoopRun.exit {cfg : SegCfg} {caret : Nat} {c r : Comp} (h : LoopRun cfg caret c r) :
    r.hasFinishedSegmentation = true ∨
      ∃ c0, r = segStep cfg c0 ∧ c0.hasFinishedSegmentation = false ∧
        (c0.currentStart = r.currentEnd ∨ caret ≤ c0.currentStart) := by
  induction h with
  | finished h => exact Or.inl h
  | noAdvance h1 h2 => exact Or.inr ⟨_, rfl, h1, Or.inl h2⟩
  | pastCaret h1 _ h3 => exact Or.inr ⟨_, rfl, h1, Or.inr h3⟩
  | round _ _ _ _ ih => exact ih

/-- the big-step semantics is deterministic: a run has one result -/
theorem LoopRun.unique {cfg : SegCfg} {caret : Nat} {c r r' : Comp} (h : LoopRun cfg caret c r)
    (h' : LoopRun cfg caret c r') : r = r' := by
  induction h with
  | finished h =>
    cases h' with
    | finished _ => rfl
    | noAdvance g _ => rw [h] at g; cases g
    | pastCaret g _ _ => rw [h] at g; cases g
    | round g _ _ _ => rw [h] at g; cases g
  | noAdvance h1 h2 =>
    cases h' with
    | finished g => rw [h1] at g; cases g
    | noAdvance _ _ => rfl
    | pastCaret _ g _ => exact absurd h2 g
    | round _ g _ _ => exact absurd h2 g
  | pastCaret h1 h2 h3 =>
    cases h' with
    | finished g => rw [h1] at g; cases g
    | noAdvance _ g => exact absurd g h2
    | pastCaret _ _ _ => rfl
    | round _ _ g _ => exact absurd g (Nat.not_lt.mpr h3)
  | round h1 h2 h3 _ ih =>
    cases h' with
    | finished g => rw [h1] at g; cases g
    | noAdvance _ g => exact absurd g h2
    | pastCaret _ _ g => exact absurd h3 (Nat.not_lt.mpr g)
    | round _ _ _ g => exact ih g

end RimeModel.Session
