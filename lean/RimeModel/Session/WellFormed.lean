import RimeModel.Session.InvProc
/-! The client-visible well-formedness predicate (C02) and its derivation from the invariant. -/
namespace RimeModel.Session

/-- `WellFormed` for the numeric part of a preedit -/
def Preedit.WF (p : Preedit) : Prop :=
  p.selStart ≤ p.selEnd ∧ p.selEnd ≤ p.text.length ∧ p.caretPos ≤ p.text.length

def MenuView.WF (m : MenuView) : Prop :=
  m.cands ≠ [] ∧ m.highlighted < m.cands.length ∧ m.cands.length ≤ m.pageSize

/-- what C02 demands of the state a client can read after any call -/
structure View.WellFormed (v : View) : Prop where
  caret_le : v.caret ≤ v.input.length
  preedit_wf : ∀ p, v.preedit = some p → p.WF
  idle : v.composing = false → v.input = [] ∧ v.preedit = none ∧ v.menu = none
  menu_wf : ∀ m, v.menu = some m → m.WF

theorem findTab_lt {b : Bytes} {t : Nat} (h : findTab b = some t) : t < b.length := by
  unfold findTab at h
  dsimp only at h
  split at h
  · simp only [Option.some.injEq] at h; omega
  · simp at h

/-- The loop of GetPreedit changes its accumulator by three moves only: put the caret at the end of the text,
append a piece, append a piece as the selection.  `P` is kept by each of them for pieces satisfying `Q`. -/
structure AccStable (P : PreeditAcc → Prop) (Q : Bytes → Prop) : Prop where
  caret {a} : P a → P { a with caretPos := some a.text.length }
  append {a s} : P a → Q s → ∀ e, P { a with text := a.text ++ s, stop := e }
  select {a s} : P a → Q s → ∀ e,
    P { a with selStart := a.text.length, text := a.text ++ s, selEnd := (a.text ++ s).length, stop := e }

/-- the pieces one step of GetPreedit may append: parts of the composition's input, and the selected
candidate's text, preedit, and the parts of the preedit before and after the TAB caret placeholder -/
structure PiecesOK (Q : Bytes → Prop) (ci : Bytes) (g : Seg) : Prop where
  nil : Q []
  input : ∀ x y, Q (substr ci x y)
  text : ∀ cd, g.selected = some cd → Q cd.text
  preedit : ∀ cd, g.selected = some cd → Q cd.preedit
  beforeTab : ∀ cd t, g.selected = some cd → Q (cd.preedit.take t)
  afterTab : ∀ cd t, g.selected = some cd → findTab cd.preedit = some t → Q (cd.preedit.drop (t + 1))

theorem preeditStep_stable {P : PreeditAcc → Prop} {Q : Bytes → Prop} (hP : AccStable P Q) {ci : Bytes} {g : Seg}
    (hQ : PiecesOK Q ci g) (fi : Bytes) (cp : Nat) {a : PreeditAcc} (isLast : Bool) (h : P a) :
    P (preeditStep ci fi cp a g isLast) := by
  have hb : P (if cp = a.stop then { a with caretPos := some a.text.length } else a) :=
    ite_cases P (fun _ => hP.caret h) (fun _ => h)
  unfold preeditStep
  dsimp only
  generalize (if cp = a.stop then { a with caretPos := some a.text.length } else a) = b at hb
  cases isLast
  · simp only [Bool.not_false, if_true]
    split
    · exact hP.append hb (hQ.text _ ‹_›) _
    · split
      · have := hP.append hb hQ.nil g.stop
        rwa [List.append_nil] at this
      · exact hP.append hb (hQ.input _ _) _
  · simp only [Bool.not_true, Bool.false_eq_true, if_false]
    split
    · rename_i cd hcd
      split
      · split
        · rename_i tab htab
          split
          · -- the selection ends, and the caret stands, where the TAB was
            have e : (b.text ++ cd.preedit.take tab).length = b.text.length + tab := by
              rw [List.length_append, List.length_take, Nat.min_eq_left (Nat.le_of_lt (findTab_lt htab))]
            have := hP.append (hP.caret (hP.select hb (hQ.beforeTab cd tab hcd) cd.stop))
              (hQ.afterTab cd tab hcd htab) cd.stop
            simp only [e] at this
            exact this
          · exact hP.select hb (hQ.beforeTab cd tab hcd) _
        · exact hP.select hb (hQ.preedit cd hcd) _
      · exact hP.select hb (hQ.input _ _) _
    · exact hP.select hb (hQ.input _ _) _

theorem preeditLoop_stable {P : PreeditAcc → Prop} {Q : Bytes → Prop} (hP : AccStable P Q) {ci : Bytes}
    (fi : Bytes) (cp : Nat) (l : List Seg) : ∀ {a : PreeditAcc}, (∀ g ∈ l, PiecesOK Q ci g) → P a →
      P (preeditLoop ci fi cp l a) := by
  induction l with
  | nil => exact fun _ h => h
  | cons g rest ih =>
    intro a hl h
    cases rest with
    | nil => exact preeditStep_stable hP (hl g List.mem_cons_self) fi cp true h
    | cons g2 rest =>
      rw [preeditLoop]
      · exact ih (fun x hx => hl x (List.mem_cons_of_mem g hx))
          (preeditStep_stable hP (hl g List.mem_cons_self) fi cp false h)
      · simp

def AccOK (a : PreeditAcc) : Prop :=
  a.selStart ≤ a.selEnd ∧ a.selEnd ≤ a.text.length ∧ ∀ p, a.caretPos = some p → p ≤ a.text.length

theorem le_length_append {p : Nat} {t : Bytes} (h : p ≤ t.length) (s : Bytes) : p ≤ (t ++ s).length := by
  rw [List.length_append]
  exact Nat.le_add_right_of_le h

theorem accOK_stable : AccStable AccOK fun _ => True where
  caret h := ⟨h.1, h.2.1, fun p hp => by cases hp; exact Nat.le_refl _⟩
  append h _ _ := ⟨h.1, le_length_append h.2.1 _, fun p hp => le_length_append (h.2.2 p hp) _⟩
  select h _ _ := ⟨le_length_append (Nat.le_refl _) _, Nat.le_refl _, fun p hp => le_length_append (h.2.2 p hp) _⟩

theorem piecesOK_true (ci : Bytes) (g : Seg) : PiecesOK (fun _ => True) ci g := by
  constructor <;> intros <;> trivial

theorem PreeditAcc.cursor_le {a : PreeditAcc} (h : AccOK a) : a.cursor ≤ a.text.length := by
  unfold PreeditAcc.cursor
  split
  · exact h.2.2 _ ‹_›
  · exact Nat.le_refl _

theorem PreeditAcc.length_le_fullText (a : PreeditAcc) (fi : Bytes) : a.text.length ≤ (a.fullText fi).length :=
  ite_cases (fun t : Bytes => a.text.length ≤ t.length) (fun _ => le_length_append (Nat.le_refl _) _) (fun _ => Nat.le_refl _)

/-- inserting `n` bytes at `cp` moves the positions after `cp` by `n` -/
theorem insertShift_mono {cp p q : Nat} (n : Nat) (h : p ≤ q) :
    (if cp < p then p + n else p) ≤ (if cp < q then q + n else q) := by
  by_cases hp : cp < p
  · rw [if_pos hp, if_pos (Nat.lt_of_lt_of_le hp h)]
    exact Nat.add_le_add_right h n
  · rw [if_neg hp]
    exact ite_cases (p ≤ ·) (fun _ => Nat.le_add_right_of_le h) (fun _ => h)

theorem insertShift_le {cp q len : Nat} (n : Nat) (h : q ≤ len) : (if cp < q then q + n else q) ≤ len + n :=
  ite_cases (· ≤ len + n) (fun _ => Nat.add_le_add_right h n) (fun _ => Nat.le_add_right_of_le h)

theorem length_insert {t : Bytes} {cp : Nat} (h : cp ≤ t.length) (pr : Bytes) :
    (t.take cp ++ pr ++ t.drop cp).length = t.length + pr.length := by
  simp only [List.length_append, List.length_take, List.length_drop, Nat.min_eq_left h]
  omega

theorem preeditFinish_wf {a : PreeditAcc} (h : AccOK a) (ci fi pr : Bytes) : (preeditFinish a ci fi pr).WF := by
  have h2 : AccOK (if a.stop < ci.length then { a with text := a.text ++ ci.drop a.stop, stop := ci.length } else a) :=
    ite_cases AccOK (fun _ => accOK_stable.append h trivial _) (fun _ => h)
  unfold preeditFinish
  dsimp only
  generalize (if a.stop < ci.length then { a with text := a.text ++ ci.drop a.stop, stop := ci.length } else a) = a2 at h2
  have hlen := a2.length_le_fullText fi
  have hcur := Nat.le_trans (PreeditAcc.cursor_le h2) hlen
  have hend := Nat.le_trans h2.2.1 hlen
  generalize a2.cursor = cur at hcur ⊢
  generalize a2.fullText fi = text at hlen hcur hend ⊢
  unfold Preedit.WF
  by_cases hpr : pr ≠ []
  · rw [if_pos hpr]
    dsimp only
    rw [length_insert hcur]
    exact ⟨insertShift_mono _ h2.1, insertShift_le _ hend, Nat.le_add_right_of_le hcur⟩
  · rw [if_neg hpr]
    exact ⟨h2.1, hend, hcur⟩

/-- the numeric part of C02 holds for the preedit of *any* composition, by construction of GetPreedit -/
theorem getPreedit_wf (c : Comp) (fi : Bytes) (cp : Nat) (sc : Bytes) : (c.getPreedit fi cp sc).WF :=
  preeditFinish_wf
    (preeditLoop_stable accOK_stable fi cp c.segs (fun g _ => piecesOK_true c.input g)
      ⟨Nat.le_refl _, Nat.le_refl _, fun _ hp => by cases hp⟩) _ _ _

variable {env : Env}

/-- a reported menu is the page, of the last segment's candidate list, that holds the selected index -/
theorem view_menu_eq_some {c : Ctx} {m : MenuView} (hm : (view env c).menu = some m) :
    ∃ g l, c.comp.segs.getLast? = some g ∧ g.menu = some l ∧
      env.pageSize * (g.selIdx / env.pageSize) < l.length ∧ m.pageSize = env.pageSize ∧
      m.pageNo = g.selIdx / env.pageSize ∧ m.highlighted = g.selIdx % env.pageSize ∧
      m.cands = (l.drop (env.pageSize * (g.selIdx / env.pageSize))).take env.pageSize := by
  unfold view at hm
  dsimp only at hm
  split at hm
  · split at hm
    · cases hm
    · rename_i g hg
      split at hm
      · cases hm
      · rename_i l hl
        split at hm
        · cases hm
        · cases hm
          exact ⟨g, l, hg, hl, by omega, rfl, rfl, rfl, rfl⟩
  · cases hm

/-- the invariant implies the well-formedness of everything a client can read -/
theorem view_wf (hps : 0 < env.pageSize) {c : Ctx} (h : Inv c) : (view env c).WellFormed := by
  have hpre : (view env c).preedit =
      if c.isComposing then some (c.comp.getPreedit c.input c.caret (softCursor c)) else none := rfl
  refine ⟨h.caret_le, ?_, ?_, ?_⟩
  · rw [hpre]
    exact some_ite (fun p hp => Option.some.inj hp ▸ getPreedit_wf _ _ _ _) nofun
  · intro hc
    have hc' : c.isComposing = false := hc
    have hidle : c.input = [] ∧ c.comp.segs = [] := by simpa [Ctx.isComposing] using hc'
    refine ⟨hidle.1, ?_, ?_⟩
    · rw [hpre, hc']
      rfl
    · unfold view
      simp [Ctx.hasMenu, hidle.2]
  · intro m hm
    obtain ⟨g, l, hg, hl, hlt, h1, -, h3, h4⟩ := view_menu_eq_some hm
    have hne : l ≠ [] := by intro he; subst he; simp at hlt
    have hsel : g.selIdx < l.length := h.segs_ok.getLast hg l hl hne
    have hlen : m.cands.length = min env.pageSize (l.length - env.pageSize * (g.selIdx / env.pageSize)) := by
      rw [h4, List.length_take, List.length_drop]
    -- the highlighted index lies on the page and among the candidates left from the page start on
    have hhl : m.highlighted < m.cands.length := by
      rw [hlen, h3]
      refine Nat.lt_min.mpr ⟨Nat.mod_lt _ hps, Nat.lt_sub_of_add_lt ?_⟩
      rw [Nat.add_comm, Nat.div_add_mod]
      exact hsel
    refine ⟨fun he => ?_, hhl, ?_⟩
    · rw [he] at hhl
      exact Nat.not_lt_zero _ hhl
    · rw [hlen, h1]
      exact Nat.min_le_left _ _

/-- the highlighted entry of the reported page is the segment's selected candidate, i.e. the reported
page is the one that contains the highlighted candidate -/
theorem view_menu_highlight (hps : 0 < env.pageSize) {c : Ctx} {m : MenuView} (hm : (view env c).menu = some m) :
    ∃ g, c.comp.segs.getLast? = some g ∧ m.pageNo * m.pageSize + m.highlighted = g.selIdx ∧
      m.cands[m.highlighted]? = g.selected := by
  obtain ⟨g, l, hg, hl, -, h1, h2, h3, h4⟩ := view_menu_eq_some hm
  refine ⟨g, hg, ?_, ?_⟩
  · rw [h1, h2, h3, Nat.mul_comm]
    exact Nat.div_add_mod _ _
  · unfold Seg.selected Seg.candAt
    rw [hl, h3, h4]
    simp only [List.getElem?_take, List.getElem?_drop, Nat.mod_lt _ hps, if_true, Nat.div_add_mod]
end RimeModel.Session
