import RimeModel.Session.EditBuf
import RimeModel.Session.Segmentors
/-! The concrete Compose port satisfies `LettersSpec`: on letter-only input, from a composition of the
C05 shape, it yields a single unselected segment starting at 0 (or nothing for the empty input). -/
namespace RimeModel.Session

/-- the part of `Shape05` that concerns one segment -/
def Seg05 (g : Seg) : Prop :=
  g.start = 0 ∧ 0 < g.stop ∧ g.status.rank < Status.selected.rank ∧ g.selIdx = 0 ∧ g.tags.raw = false ∧ g.tags.placeholder = false

/-- shape after the `Reset`s: nothing, or one old C05 segment that still fits the new input -/
def Pre05 (c : Comp) : Prop :=
  c.segs = [] ∨ ∃ g, c.segs = [g] ∧ Seg05 g ∧ g.menu.isSome = true ∧ g.stop ≤ c.input.length

def AllLetters (cfg : SegCfg) (s : Bytes) : Prop := ∀ b ∈ s, cfg.alphabet.contains b = true ∧ cfg.initials.contains b = true

theorem abcScan_all (cfg : SegCfg) (input : Bytes) (hl : AllLetters cfg input) (j fuel : Nat) :
    ∀ (k : Nat) (e : Bool), k ≤ input.length → input.length - k < fuel → abcScan cfg input j fuel e k = input.length := by
  induction fuel with
  | zero => exact fun k e _ hf => absurd hf (Nat.not_lt_zero _)
  | succ fuel ih =>
    intro k e hk hf
    unfold abcScan
    by_cases hke : k = input.length
    · have : input[k]? = none := by rw [hke]; simp
      rw [this]; exact hke
    · have hlt : k < input.length := Nat.lt_of_le_of_ne hk hke
      have hget : input[k]? = some input[k] := List.getElem?_eq_getElem hlt
      rw [hget]
      have hmem : input[k] ∈ input := List.getElem_mem hlt
      obtain ⟨ha, hi⟩ := hl _ hmem
      simp only [ha, hi, Bool.not_true, Bool.false_and, Bool.false_eq_true, if_false, Bool.and_false]
      exact ih (k + 1) _ hlt (by omega)

/-- Reset keeps a single C05 segment if it still fits the new input, and drops it otherwise -/
theorem reset_pre (c : Comp) (ni : Bytes)
    (h : c.segs = [] ∨ ∃ g, c.segs = [g] ∧ Seg05 g ∧ g.menu.isSome = true) :
    Pre05 (c.reset ni) ∧ (c.reset ni).input = ni := by
  unfold Comp.reset
  rcases h with hs | ⟨g, hs, hg, hm⟩
  · simp [hs, popWhileEndGt, Pre05]
  · by_cases hgt : g.stop > commonPrefixLen c.input ni
    · -- disposed
      simp [hs, popWhileEndGt, hgt, Comp.forward, Pre05]
    · have hle := commonPrefixLen_le_right c.input ni
      simp only [hs, List.reverse_cons, List.reverse_nil, List.nil_append, popWhileEndGt, hgt, if_false,
        Nat.lt_irrefl, gt_iff_lt]
      exact ⟨Or.inr ⟨g, rfl, hg, hm, Nat.le_trans (Nat.le_of_not_lt hgt) hle⟩, trivial⟩

theorem confirmedPos_pre {c : Comp} (h : Pre05 c) : c.confirmedPos = 0 := by
  unfold Comp.confirmedPos
  rcases h with hs | ⟨g, hs, ⟨_, _, hst, _⟩, _⟩
  · simp [hs]
  · simp [hs, Nat.not_le_of_lt hst]

theorem currentStart_pre {c : Comp} (h : Pre05 c) : c.currentStart = 0 := by
  unfold Comp.currentStart
  rcases h with hs | ⟨g, hs, ⟨hg0, _⟩, _⟩
  · simp [hs]
  · simp [hs, hg0]

theorem resetStage_pre (input : Bytes) (caret : Nat) (c : Comp) (oldInput : Bytes) (hc : caret ≤ input.length)
    (h : Shape05 oldInput c.segs) :
    Pre05 (resetStage input caret c) ∧
    ((resetStage input caret c).input = input.take caret ∨ (resetStage input caret c).input = input) ∧
    ((resetStage input caret c).input = [] ↔ input = []) := by
  unfold resetStage
  have h1 := reset_pre c (input.take caret)
    (h.imp And.right fun ⟨_, g, hs, a1, a2, a3, a4, hm, a5, a6⟩ => ⟨g, hs, ⟨a1, a2, a3, a4, a5, a6⟩, hm⟩)
  dsimp only
  rw [confirmedPos_pre h1.1]
  by_cases hcond : caret < input.length ∧ caret = 0
  · have h2 := reset_pre _ input (h1.1.imp id fun ⟨g, hs, hg, hm, _⟩ => ⟨g, hs, hg, hm⟩)
    rw [if_pos hcond]
    exact ⟨h2.1, Or.inr h2.2, by rw [h2.2]⟩
  · rw [if_neg hcond]
    refine ⟨h1.1, Or.inl h1.2, ?_⟩
    rw [h1.2, List.take_eq_nil_iff]
    constructor
    · rintro (hz | hi)
      · exact List.eq_nil_of_length_eq_zero (by omega)
      · exact hi
    · exact Or.inr

def newSeg (n : Nat) : Seg := { Seg.mk' 0 n with tags := { abc := true } }

theorem abcFallback_step (cfg : SegCfg) (c : Comp) (hp : Pre05 c) (hl : AllLetters cfg c.input) (hne : c.input ≠ [])
    (hnf : c.hasFinishedSegmentation = false) :
    fallbackProceed (abcProceed cfg c) = { c with segs := [newSeg c.input.length] } := by
  have hpos : 0 < c.input.length := List.length_pos_iff.mpr hne
  have hstart := currentStart_pre hp
  have hscan : abcScan cfg c.input 0 (c.input.length + 1) true 0 = c.input.length :=
    abcScan_all cfg c.input hl 0 _ 0 true (Nat.zero_le _) (Nat.lt_succ_of_le (Nat.sub_le _ _))
  have habc : abcProceed cfg c = { c with segs := [newSeg c.input.length] } := by
    unfold abcProceed
    simp only [hstart, hscan, hpos, if_true]
    unfold Comp.addSegment
    rcases hp with hs | ⟨g, hs, ⟨hg0, _⟩, _, hle⟩
    · simp [hs, Comp.currentStart, Seg.mk', newSeg]
    · have hlt : g.stop < c.input.length := by
        unfold Comp.hasFinishedSegmentation Comp.currentEnd at hnf
        simp [hs] at hnf
        exact hnf
      have h1 : ¬ g.stop > c.input.length := Nat.not_lt.mpr hle
      simp [hs, Comp.currentStart, Seg.mk', hg0, h1, hlt, setLast, newSeg]
  rw [habc]
  unfold fallbackProceed
  have : ({ c with segs := [newSeg c.input.length] } : Comp).currentSegLen > 0 := by
    simp [Comp.currentSegLen, newSeg, Seg.mk']; exact hpos
  simp [this]

/-- on all-letter input one abc round covers `[0, |input|)`: the loop ends after at most one round -/
theorem segLoop_letters (cfg : SegCfg) (caret : Nat) (c : Comp) (hp : Pre05 c) (hl : AllLetters cfg c.input) (hne : c.input ≠ [])
    (fuel : Nat) : (segLoop cfg caret (fuel + 2) c = c ∧ c.hasFinishedSegmentation = true) ∨
      (segLoop cfg caret (fuel + 2) c = { c with segs := [newSeg c.input.length] }) := by
  by_cases hf : c.hasFinishedSegmentation = true
  · left
    unfold segLoop
    simp [hf]
  · right
    have hnf : c.hasFinishedSegmentation = false := by simpa using hf
    have hstep := abcFallback_step cfg c hp hl hne hnf
    have hstart := currentStart_pre hp
    have hend : ({ c with segs := [newSeg c.input.length] } : Comp).currentEnd = c.input.length := by
      simp [Comp.currentEnd, newSeg, Seg.mk']
    have hfin : ({ c with segs := [newSeg c.input.length] } : Comp).hasFinishedSegmentation = true := by
      simp [Comp.hasFinishedSegmentation, hend]
    have hpos : 0 < c.input.length := List.length_pos_iff.mpr hne
    unfold segLoop
    simp only [hnf, Bool.false_eq_true, if_false, hstep, hstart, hend, hfin, Bool.not_true]
    have h0 : ¬ (0 = c.input.length) := Nat.ne_of_lt hpos
    simp only [h0, if_false]
    by_cases hc : 0 ≥ caret
    · simp [hc]
    · simp only [hc, if_false]
      unfold segLoop
      simp [hfin]

/-- a single C05 segment survives trim / forward and is translated into a C05 segment with a menu -/
theorem finish_single (cfg : SegCfg) (c : Comp) (g : Seg) (hs : c.segs = [g]) (hg : Seg05 g)
    (hm : g.status.rank ≥ Status.guess.rank → g.menu.isSome = true) {input : Bytes} (hi : input ≠ []) :
    Shape05 input (translateSegments cfg (forwardIfSelected (trimUnlessPlaceholder c))).segs := by
  obtain ⟨hg0, hg1, hst, hsel, hr, hp⟩ := hg
  have hne : ¬ g.start = g.stop := by omega
  have htrim : trimUnlessPlaceholder c = c := by
    unfold trimUnlessPlaceholder Comp.trim
    simp [hs, hp, hne]
  have hfw : forwardIfSelected c = c := by
    unfold forwardIfSelected
    simp [hs, Nat.not_le_of_lt hst]
  rw [htrim, hfw]
  unfold translateSegments
  simp only [hs, List.map_cons, List.map_nil]
  refine Or.inr ⟨hi, ?_⟩
  by_cases hgs : g.status.rank ≥ Status.guess.rank
  · exact ⟨g, by simp [hgs], hg0, hg1, hst, hsel, hm hgs, hr, hp⟩
  · refine ⟨{ g with status := .guess, menu := some (cfg.translate (substr c.input g.start (g.stop - g.start)) g), selIdx := 0 },
      by simp only [hgs, if_false], hg0, hg1, ?_, rfl, rfl, hr, hp⟩
    simp [Status.rank]

/-- **the concrete Compose meets `LettersSpec`** whenever its segmentor configuration has the schema's
alphabet and initials -/
theorem compose_letters (env : Env) (cfg : SegCfg) (henv : env.recompose = compose cfg)
    (ha : cfg.alphabet = env.alphabet) (hi : cfg.initials = env.initials) : LettersSpec env := by
  intro oldInput input caret c hc hl' h
  rw [henv]
  have hl : AllLetters cfg input := by
    intro b hb
    obtain ⟨_, _, h3, h4⟩ := hl' b hb
    exact ⟨by rw [ha]; exact h3, by rw [hi]; exact h4⟩
  have hcomp : compose cfg input caret c =
      translateSegments cfg (calculateSegmentation cfg caret (resetStage input caret c)) := rfl
  rw [hcomp]
  obtain ⟨hpre, hin, hnil⟩ := resetStage_pre input caret c oldInput hc h
  generalize resetStage input caret c = c2 at hpre hin hnil
  have hl2 : AllLetters cfg c2.input := by
    intro b hb
    rcases hin with hi | hi
    · rw [hi] at hb; exact hl b (List.mem_of_mem_take hb)
    · rw [hi] at hb; exact hl b hb
  unfold calculateSegmentation
  by_cases he : input = []
  · -- empty input: nothing to segment
    left
    have hci : c2.input = [] := hnil.mpr he
    have hsegs : c2.segs = [] := by
      rcases hpre with hs | ⟨g, _, ⟨_, hg1, _⟩, _, hle⟩
      · exact hs
      · rw [hci] at hle; simp at hle; omega
    have hloop : segLoop cfg caret (c2.input.length + 2) c2 = c2 := by
      unfold segLoop
      simp [Comp.hasFinishedSegmentation, Comp.currentEnd, hsegs, hci]
    rw [hloop]
    refine ⟨he, ?_⟩
    simp [translateSegments, forwardIfSelected, trimUnlessPlaceholder, hsegs]
  · have hci : c2.input ≠ [] := fun hh => he (hnil.mp hh)
    rcases segLoop_letters cfg caret c2 hpre hl2 hci c2.input.length with ⟨hloop, hfin⟩ | hloop
    · -- already finished: the old segment covers the whole input
      rw [hloop]
      rcases hpre with hs | ⟨g, hs, hg, hm, _⟩
      · exfalso
        have := List.length_pos_iff.mpr hci
        simp [Comp.hasFinishedSegmentation, Comp.currentEnd, hs] at hfin
        exact hci hfin
      · exact finish_single cfg c2 g hs hg (fun _ => hm) he
    · rw [hloop]
      have hpos := List.length_pos_iff.mpr hci
      have hnew : Seg05 (newSeg c2.input.length) := by
        refine ⟨rfl, ?_, ?_, rfl, rfl, rfl⟩
        · simpa [newSeg, Seg.mk'] using hpos
        · simp [newSeg, Seg.mk', Status.rank]
      exact finish_single cfg { c2 with segs := [newSeg c2.input.length] } _ rfl hnew
        (fun hh => by simp [newSeg, Seg.mk', Status.rank] at hh) he

end RimeModel.Session
