import RimeModel.Session.Context
/-!
`RecognizerPatterns::GetMatch` (gear/recognizer.cc), shared by the `recognizer` processor and the `matcher` segmentor.

The regular expressions are not modelled: a pattern is its search function (`RecPattern.search`: what
`boost::regex_search(active_input, m, pattern)` reports as `m.position()`, `m.length()`).  Everything GetMatch does with
the answer is ported line by line: the active input starts at the confirmed position; a match must reach the end of the
input; it must start at the current END position of the segmentation or at the start of one of its segments (the scan of
the segments stops at the first one that starts further right); the patterns are tried in the order of the std::map and a
pattern whose match fails these tests is skipped, not retried at another position; the first hit is returned even when it is
empty (`found()` is then false and no other pattern is tried).
-/
namespace RimeModel.Session

/-- RecognizerMatch -/
structure RecMatch where
  tag : String
  start : Nat
  stop : Nat

/-- `for (const Segment& seg : segmentation) { if (start < seg.start) break; if (start == seg.start) return …; }` -/
def matchAtSeg (start : Nat) : List Seg → Bool
  | [] => false
  | g :: rest => if start < g.start then false else if start = g.start then true else matchAtSeg start rest

/-- the loop over the patterns; `k` = confirmed position, `j` = current end position -/
def getMatchGo (input : Bytes) (segs : List Seg) (k j : Nat) : List RecPattern → Option RecMatch
  | [] => none
  | p :: rest =>
    match p.search (input.drop k) with
    | none => getMatchGo input segs k j rest
    | some r =>
      let start := k + r.1
      let stop := start + r.2
      if stop ≠ input.length then getMatchGo input segs k j rest
      else if start = j then some ⟨p.tag, start, stop⟩
      else if matchAtSeg start segs then some ⟨p.tag, start, stop⟩
      else getMatchGo input segs k j rest

/-- RecognizerPatterns::GetMatch followed by `match.found()` (`start < end`).
`input.substr(k)` needs `k ≤ |input|` (std::out_of_range otherwise): the confirmed position is within the composition's
input, which is no longer than the raw input (C01). -/
def getMatch (pats : List RecPattern) (input : Bytes) (c : Comp) : Option RecMatch :=
  match getMatchGo input c.segs c.confirmedPos c.currentEnd pats with
  | some m => if m.start < m.stop then some m else none
  | none => none

/-- a hit of the loop over the patterns reaches the end of the input it was asked about, and starts at the current end
position or where one of the segments starts -/
theorem getMatchGo_spec (input : Bytes) (segs : List Seg) (k j : Nat) (pats : List RecPattern) {m : RecMatch}
    (h : getMatchGo input segs k j pats = some m) :
    m.stop = input.length ∧ (m.start = j ∨ matchAtSeg m.start segs = true) := by
  induction pats with
  | nil => cases h
  | cons p rest ih =>
    unfold getMatchGo at h
    split at h
    · exact ih h
    · rename_i r _
      dsimp only at h
      by_cases hstop : k + r.1 + r.2 = input.length
      · rw [if_neg (fun hne => hne hstop)] at h
        by_cases hj : k + r.1 = j
        · rw [if_pos hj] at h
          cases h
          exact ⟨hstop, Or.inl hj⟩
        · rw [if_neg hj] at h
          by_cases hseg : matchAtSeg (k + r.1) segs = true
          · rw [if_pos hseg] at h
            cases h
            exact ⟨hstop, Or.inr hseg⟩
          · rw [if_neg hseg] at h
            exact ih h
      · rw [if_pos hstop] at h
        exact ih h

/-- what GetMatch guarantees of a match it reports -/
theorem getMatch_spec {pats : List RecPattern} {input : Bytes} {c : Comp} {m : RecMatch}
    (h : getMatch pats input c = some m) :
    m.start < m.stop ∧ m.stop = input.length ∧ (m.start = c.currentEnd ∨ matchAtSeg m.start c.segs = true) := by
  unfold getMatch at h
  split at h
  · rename_i m0 hgo
    by_cases hlt : m0.start < m0.stop
    · rw [if_pos hlt] at h
      cases h
      exact ⟨hlt, getMatchGo_spec _ _ _ _ _ hgo⟩
    · rw [if_neg hlt] at h; cases h
  · cases h

theorem matchAtSeg_mem {start : Nat} {l : List Seg} (h : matchAtSeg start l = true) : ∃ g ∈ l, g.start = start := by
  induction l with
  | nil => cases h
  | cons g rest ih =>
    unfold matchAtSeg at h
    split at h
    · cases h
    · split at h
      · rename_i he; exact ⟨g, List.mem_cons_self, he.symm⟩
      · obtain ⟨x, hx, hxs⟩ := ih h
        exact ⟨x, List.mem_cons_of_mem _ hx, hxs⟩

end RimeModel.Session
