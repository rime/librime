import RimeModel.Session.GeoPrev
import RimeModel.Session.InvProc
/-!
One key through the speller, for EVERY schema (auto_select without a code-length bound included): the geometric
invariant is kept provided the "reuse previous match" branch of AutoSelectPreviousMatch, if it is taken for this key,
is aligned (`SpellerAligned`).  Everything else the speller does — FindEarlierMatch included — keeps the invariant
unconditionally.  `Session/GeoPrevCx.lean` shows that the alignment can fail.
-/
namespace RimeModel.Session
open Ctx
variable {env : Env}

/-- the saved segment is well shaped and ends before the end of the raw input once the key has been added -/
theorem spellerPrev_bound {c1 : Ctx} (hi : Inv c1) (hg : GeoInv c1) (ch : UInt8) :
    ∀ p, spellerPrev env c1 = some p →
      SegGeo p ∧ p.stop < ((pushInput env c1 ch).beginEditing).input.length := by
  intro p hp
  unfold spellerPrev at hp
  split at hp
  · have hmem : p ∈ c1.comp.segs := List.mem_of_getLast? hp
    rw [beginEditing_input, pushInput_input_length]
    exact ⟨hg.geo.seg hmem, Nat.lt_succ_of_le (Nat.le_trans (hg.bounded p hmem) hi.cinput_le)⟩
  · cases hp

/-- the reuse branch, if taken for key `k` in state `c`, pushes the saved segment back where it started -/
def SpellerAligned (env : Env) (k : Key) (c : Ctx) : Prop :=
  ReuseAligned env (spellerPrev env (spellerPre env (env.initials.contains k.byte) c))
    (pushInput env (spellerPre env (env.initials.contains k.byte) c) k.byte).beginEditing

/-- Speller::ProcessKeyEvent keeps the geometric invariant, for every schema, whenever the reuse branch is aligned -/
theorem spellerProcess_geo_of_aligned (hrc : ComposeGeoSpec env.recompose) (hrs : ComposeSpec env.recompose) (k : Key)
    {c : Ctx} (hi : Inv c) (h : GeoInv c) (hal : SpellerAligned env k c) : GeoInv (spellerProcess env k c).1 :=
  spellerProcess_closed (geo_ctxClosed hrc) k h (fun hpre =>
    autoSelectPreviousMatch_geo hrc (beginEditing_geo ((geo_ctxClosed hrc).pushInput hpre _))
      (spellerPrev_bound (spellerPre_closed (inv_ctxClosed hrs) _ hi) hpre _) hal)

/-- schemas of `NoPrevMatch` are trivially aligned: the branch is never taken -/
theorem spellerAligned_of_noPrevMatch (hnp : NoPrevMatch env) (k : Key) (c : Ctx) : SpellerAligned env k c := by
  unfold SpellerAligned ReuseAligned
  intro ha hx
  rcases hnp with h | h
  · rw [h] at ha; cases ha
  · rw [hx] at h
    exact absurd h (Nat.lt_irrefl 0)

end RimeModel.Session
