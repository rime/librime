import RimeModel.Session.Closed
/-! `Inv` is closed under the context layer and under the speller's AutoSelectPreviousMatch, hence preserved by
every processor, by the whole chain and by every API op. -/
namespace RimeModel.Session
open Ctx
variable {env : Env}

theorem inv_ctxClosed (hrc : ComposeSpec env.recompose) : CtxClosed env Inv where
  frame h h1 h2 h3 h4 := h.of_same h1 h2 (by rw [h4]; exact h.segs_ok) h3
  reselect h hg hr := modLastSeg_inv h hg (hr.sel (h.segs_ok.getLast hg))
  closeLast h hg _ := modLastSeg_inv h hg (selOK_close (h.segs_ok.getLast hg))
  forward := modComp_forward_inv
  update h := update_inv hrc h.toPreInv
  edit h hk := update_inv hrc ⟨hk h.caret_le, h.segs_ok⟩
  clear _ := update_inv hrc ⟨Nat.le_refl _, SegsOK.nil⟩
  beginEditing := beginEditing_inv
  reopenPreviousSegment := reopenPreviousSegment_inv hrc
  reopenPreviousSelection := reopenPreviousSelection_inv hrc
  clearNonConfirmedComposition := clearNonConfirmedComposition_inv

/-! AutoSelectPreviousMatch: the segment pushed back is the last segment of an earlier state -/

theorem replaceLastSeg_inv {c : Ctx} (h : Inv c) {p : Seg} (hp : SelOK p) : Inv (c.replaceLastSeg p) :=
  ⟨⟨h.caret_le, SegsOK.append h.segs_ok.dropLast (SegsOK.singleton hp)⟩, h.cinput_le⟩

theorem reusePreviousMatch_inv (hrc : ComposeSpec env.recompose) {c : Ctx} (h : Inv c) {p : Seg} (hp : SelOK p) :
    Inv (reusePreviousMatch env p c) :=
  have hC := inv_ctxClosed hrc
  have h2 := hC.confirmCurrentSelection (replaceLastSeg_inv h hp)
  ite_closed (hC.setInput (hC.commit (hC.setInput h2 _)) _) h2

theorem autoSelectPreviousMatch_inv (hrc : ComposeSpec env.recompose) {prev : Option Seg}
    (hp : ∀ p, prev = some p → SelOK p) {c : Ctx} (h : Inv c) :
    Inv (autoSelectPreviousMatch env prev c).1 :=
  autoSelectPreviousMatch_closed (inv_ctxClosed hrc) h fun p hpp _ _ _ _ _ => reusePreviousMatch_inv hrc h (hp p hpp)

theorem spellerPrev_ok {c : Ctx} (h : Inv c) : ∀ p, spellerPrev env c = some p → SelOK p := by
  intro p hp
  unfold spellerPrev at hp
  split at hp
  · exact h.segs_ok.getLast hp
  · cases hp

theorem inv_closed (hrc : ComposeSpec env.recompose) : Closed env Inv where
  toCtxClosed := inv_ctxClosed hrc
  prevMatch h _ :=
    autoSelectPreviousMatch_inv hrc (spellerPrev_ok h) (beginEditing_inv ((inv_ctxClosed hrc).pushInput h _))

theorem punctProcess_inv (hrc : ComposeSpec env.recompose) (k : Key) {c : Ctx} (h : Inv c) :
    Inv (punctProcess env k c).1 :=
  punctProcess_closed (inv_ctxClosed hrc) k h

theorem kbProcess_inv (hrc : ComposeSpec env.recompose) (reent : Key → Ctx → Ctx × Bool)
    (hre : ∀ k c, Inv c → Inv (reent k c).1) (k : Key) {c : Ctx} (h : Inv c) : Inv (kbProcess reent env k c).1 :=
  kbProcess_closed (inv_ctxClosed hrc) reent hre k h

/-- the nested `engine_->ProcessKey(target)` keeps the invariant -/
theorem processKeyNested_inv (hrc : ComposeSpec env.recompose) (k : Key) {c : Ctx} (h : Inv c) :
    Inv (processKeyNested env k c).1 :=
  processKeyNested_closed (inv_closed hrc) k h

theorem procRun_inv (hrc : ComposeSpec env.recompose) (p : Proc) (k : Key) {c : Ctx} (h : Inv c) :
    Inv (procRun env p k c).1 :=
  procRun_closed (inv_closed hrc) p k h

theorem init_inv : Inv ({} : Ctx) := Inv.of_fresh ⟨rfl, rfl, rfl, rfl⟩

/-- the invariant holds in every reachable state -/
theorem runOps_inv (hrc : ComposeSpec env.recompose) (ops : List Op) {c : Ctx} (h : Inv c) :
    Inv (runOps env c ops) :=
  runOps_closed (inv_closed hrc) ops h

end RimeModel.Session
