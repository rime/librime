/-
M-session — shared model of Context / Composition / Segmentation / Menu views / engine glue /
processors (speller, selector, navigator, editor) / API layer of librime.
Byte strings are `List UInt8`; carets and segment bounds are byte offsets exactly as in the code.
-/
namespace RimeModel.Session

abbrev Bytes := List UInt8

/-- `std::string::substr(pos, n)` made total: callers that need the C++ precondition `pos ≤ size`
state it separately (C01). -/
def substr (s : Bytes) (pos n : Nat) : Bytes := (s.drop pos).take n

/-- a candidate as the engine sees it (`Candidate`): covered range, text, comment, preedit -/
structure Cand where
  text : Bytes
  comment : Bytes := []
  preedit : Bytes := []
  start : Nat
  stop : Nat            -- `end()`
  /-- `is_table_entry(cand) || is_simple_candidate(cand)` in speller.cc -/
  autoSelectable : Bool := true
  deriving Repr, DecidableEq, Inhabited

/-- Segment::Status, ordered kVoid < kGuess < kSelected < kConfirmed -/
inductive Status where
  | void | guess | selected | confirmed
  deriving Repr, DecidableEq, Inhabited

def Status.rank : Status → Nat
  | .void => 0 | .guess => 1 | .selected => 2 | .confirmed => 3

/-- the tags the modelled code reads or writes (a `set<string>` in C++; one flag per tag) -/
structure Tags where
  abc : Bool := false
  raw : Bool := false
  partial_ : Bool := false
  paging : Bool := false
  selectedBeforeEditing : Bool := false
  phony : Bool := false
  placeholder : Bool := false
  /-- set by PunctSegmentor (punctuator.cc) -/
  punct : Bool := false
  /-- every other tag, by name (the recognizer's pattern names set by the matcher; the affix segmentor's `tag`, `tag_prefix`,
  `tag_suffix` and extra tags): a set, kept without repetitions in insertion order -/
  extra : List String := []
  deriving Repr, DecidableEq, Inhabited

def Tags.union (a b : Tags) : Tags :=
  { abc := a.abc || b.abc, raw := a.raw || b.raw, partial_ := a.partial_ || b.partial_,
    paging := a.paging || b.paging, selectedBeforeEditing := a.selectedBeforeEditing || b.selectedBeforeEditing,
    phony := a.phony || b.phony, placeholder := a.placeholder || b.placeholder,
    punct := a.punct || b.punct, extra := a.extra ++ b.extra.filter (fun n => !a.extra.contains n) }

/-- `segment.HasTag(name)` for a tag given by name (the tags the rest of the model reads are the flags above) -/
def Tags.has (t : Tags) (n : String) : Bool :=
  if n = "abc" then t.abc else if n = "raw" then t.raw else if n = "partial" then t.partial_
  else if n = "paging" then t.paging else if n = "selected_before_editing" then t.selectedBeforeEditing
  else if n = "phony" then t.phony else if n = "placeholder" then t.placeholder else if n = "punct" then t.punct
  else t.extra.contains n

/-- `segment.tags.insert(name)` -/
def Tags.insert (t : Tags) (n : String) : Tags :=
  if n = "abc" then { t with abc := true } else if n = "raw" then { t with raw := true }
  else if n = "partial" then { t with partial_ := true } else if n = "paging" then { t with paging := true }
  else if n = "selected_before_editing" then { t with selectedBeforeEditing := true }
  else if n = "phony" then { t with phony := true } else if n = "placeholder" then { t with placeholder := true }
  else if n = "punct" then { t with punct := true }
  else if t.extra.contains n then t else { t with extra := t.extra ++ [n] }

/-- `segment.tags.erase(name)` -/
def Tags.erase (t : Tags) (n : String) : Tags :=
  if n = "abc" then { t with abc := false } else if n = "raw" then { t with raw := false }
  else if n = "partial" then { t with partial_ := false } else if n = "paging" then { t with paging := false }
  else if n = "selected_before_editing" then { t with selectedBeforeEditing := false }
  else if n = "phony" then { t with phony := false } else if n = "placeholder" then { t with placeholder := false }
  else if n = "punct" then { t with punct := false }
  else { t with extra := t.extra.filter (fun m => m != n) }

/-- Segment.  `menu = none` is a null `an<Menu>`; `some l` is a menu whose full (merged, filtered)
candidate list is `l` — the lazily filled cache of the real Menu is the subject of C04, whose
theorems show every observation used here is a function of the full list. -/
structure Seg where
  status : Status := .void
  start : Nat := 0
  stop : Nat := 0       -- `end`
  length : Nat := 0
  tags : Tags := {}
  menu : Option (List Cand) := none
  selIdx : Nat := 0
  prompt : Bytes := []
  deriving Repr, DecidableEq, Inhabited

def Seg.mk' (s e : Nat) : Seg := { start := s, stop := e, length := e - s }

def Seg.candAt (g : Seg) (i : Nat) : Option Cand :=
  match g.menu with
  | none => none
  | some l => l[i]?

def Seg.selected (g : Seg) : Option Cand := g.candAt g.selIdx

/-- `Menu::Prepare(n)` as far as its callers can tell: the number of candidates available
among the first `n` (see C04 `prepare_count`) -/
def Seg.prepare (g : Seg) (n : Nat) : Nat :=
  match g.menu with
  | none => 0
  | some l => min n l.length

/-- Composition = Segmentation (vector<Segment> + its own copy of the input it was computed for) -/
structure Comp where
  input : Bytes := []
  segs : List Seg := []
  /-- GHOST: the value of the context's `ascii_mode` option, which `AsciiSegmentor::Proceed` reads through
  `engine_->context()->get_option("ascii_mode")` in the middle of a recomposition.  `Env.recompose` is a function of
  (input, caret, composition) only, so the one option a segmentor reads travels with the composition: it is written by
  `Ctx.setOptionRaw` (the only writer of `Ctx.options`) and by nothing else; no other component of the model looks at it. -/
  ascii : Bool := false
  deriving Repr, DecidableEq, Inhabited

/-- client-visible + internal state of one session's Context and commit buffer -/
structure Ctx where
  input : Bytes := []
  caret : Nat := 0
  comp : Comp := {}
  options : List (String × Bool) := []
  /-- Session::commit_text_ -/
  commitBuf : Bytes := []
  /-- Navigator::input_ / spans_ (vertices, ascending) -/
  navInput : Bytes := []
  navSpans : List Nat := []
  /-- Punctuator::oddness_ : the paired-punctuation definitions (shape, key) whose oddness is 1 -/
  punctOdd : List (Bool × UInt8) := []
  /-- KeyBinder::last_key_ : keycode of the last key press without modifiers the key binder looked at (0 otherwise) -/
  kbLastKey : Int := 0
  /-- AsciiComposer::shift_key_pressed_ / ctrl_key_pressed_ / toggle_with_caps_ -/
  acShift : Bool := false
  acCtrl : Bool := false
  acToggleWithCaps : Bool := false
  /-- AsciiComposer::toggle_expired_, in ms on `clock` -/
  acExpire : Nat := 0
  /-- AsciiComposer::connection_ is connected to the context's update notifier (temporary "inline" ascii mode) -/
  acInline : Bool := false
  /-- the reading of std::chrono::steady_clock in ms: a parameter of the model, moved only by the environment -/
  clock : Nat := 0
  deriving Repr, DecidableEq, Inhabited

def Ctx.getOption (c : Ctx) (name : String) : Bool :=
  match c.options.find? (·.1 == name) with
  | some (_, v) => v
  | none => false

def Ctx.setOptionRaw (c : Ctx) (name : String) (v : Bool) : Ctx :=
  { c with options := (name, v) :: c.options.filter (·.1 != name),
           comp := if name = "ascii_mode" then { c.comp with ascii := v } else c.comp }

/-- one entry of `punctuator/half_shape` or `punctuator/full_shape` (punctuator.cc): a scalar (`ConfigValue`),
a list of scalars (`ConfigList`), `{commit: t}` or `{pair: [a, b]}` (`ConfigMap`; `commit` is looked at first) -/
inductive PunctDef where
  | unique (t : Bytes)
  | alt (ts : List Bytes)
  | commit (t : Bytes)
  | pair (a b : Bytes)
  deriving Repr, DecidableEq, Inhabited

/-- the `punctuator:` section of a schema.  `digit_separators` is empty in every modelled schema (the
digit-separator path reads the commit history, which is not part of the model; the driver refuses
schemas that leave it on). -/
structure PunctCfg where
  half : List (UInt8 × PunctDef) := []
  full : List (UInt8 × PunctDef) := []
  useSpace : Bool := false
  deriving Repr, DecidableEq, Inhabited

def punctFind (m : List (UInt8 × PunctDef)) (b : UInt8) : Option PunctDef :=
  match m.find? (·.1 == b) with
  | some e => some e.2
  | none => none

/-- `PunctConfig::LoadConfig` + `GetPunctDefinition`: the mapping of the current shape -/
def PunctCfg.mapping (p : PunctCfg) (fullShape : Bool) : List (UInt8 × PunctDef) := if fullShape then p.full else p.half

/-- AsciiModeSwitchStyle (ascii_composer.h) of a loaded `ascii_composer/switch_key` entry (`noop` entries are not loaded) -/
inductive AcStyle where
  | inline | commitText | commitCode | clear
  deriving Repr, DecidableEq, Inhabited

/-! ### key_binder configuration (key_binder.cc: KeyBindings::LoadBindings) and `switches:` (switches.cc) -/

/-- KeyBindingCondition (`when:`), in the order of the enum: a binding list of one key is kept sorted by it -/
inductive KbWhen where
  | predicting | paging | hasMenu | composing | always
  deriving Repr, DecidableEq, Inhabited

def KbWhen.rank : KbWhen → Nat
  | .predicting => 1 | .paging => 2 | .hasMenu => 3 | .composing => 4 | .always => 5

/-- what a binding does: `send:` / `send_sequence:` (a key sequence handed back to the engine; `send` is a sequence
of one), `toggle:`, `set_option:`, `unset_option:`.  `select:` (schema switching) is outside the model. -/
inductive KbAction where
  | send (keys : List (Int × Nat))
  | toggle (opt : String)
  | setOption (opt : String)
  | unsetOption (opt : String)
  deriving Repr, DecidableEq, Inhabited

/-- one loaded entry of `key_binder/bindings` (entries LoadBindings skips are not part of the list) -/
structure KbBinding where
  whence : KbWhen
  code : Int
  mask : Nat
  action : KbAction
  deriving Repr, DecidableEq, Inhabited

/-- one entry of `switches:`: `{name: x, reset: r}` or `{options: [a, b, …], reset: r}` (`reset = -1`: not given) -/
inductive SwitchDef where
  | toggle (name : String) (reset : Int)
  | radio (options : List String) (reset : Int)
  deriving Repr, DecidableEq, Inhabited

/-! ### recognizer / matcher / affix_segmentor configuration -/

/-- one entry of `recognizer/patterns`: the pattern's name (the tag the matcher sets) and its `boost::regex_search` on the
active input — position and length of the leftmost match, `none` when there is none.  The regular expression itself is
NOT modelled: every theorem quantifies over all search functions; the driver supplies the function of a small class of
patterns (Session/RecogPattern.lean) that the synthetic schemas stay inside. -/
structure RecPattern where
  tag : String
  search : Bytes → Option (Nat × Nat)

/-- the configuration of one `affix_segmentor@name` (affix_segmentor.cc: constructor) -/
structure AffixCfg where
  tag : String := "abc"
  prefix_ : Bytes := []
  suffix : Bytes := []
  tips : Bytes := []
  closingTips : Bytes := []
  /-- `extra_tags` (a std::set: they are only ever inserted, the order does not matter) -/
  extraTags : List String := []
  deriving Repr, DecidableEq, Inhabited

end RimeModel.Session
