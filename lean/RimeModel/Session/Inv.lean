import RimeModel.Session.Api
/-! `Inv`, the invariant behind C01–C03 of the session model, and its preservation by the context primitives of which
the others are built (`CtxClosed`, Session/Closed.lean). -/
namespace RimeModel.Session

/-- a segment's selected index addresses an existing candidate whenever its menu is non-empty -/
def SelOK (g : Seg) : Prop := ∀ l, g.menu = some l → l ≠ [] → g.selIdx < l.length

def SegsOK (l : List Seg) : Prop := ∀ g ∈ l, SelOK g

/-- what the theorems assume of `ConcreteEngine::Compose`: it never leaves a segment whose selected
index dangles (it keeps old segments' menu/index pairs or installs a fresh menu with index 0).  Discharged for the
concrete ports in Session/Recompose.lean (`compose_spec`, `composeP_spec`, `composeR_spec`). -/
structure ComposeSpec (rc : Bytes → Nat → Comp → Comp) : Prop where
  segs : ∀ input caret c, SegsOK c.segs → SegsOK (rc input caret c).segs
  /-- the composition is computed for (a prefix of) the raw input it is given -/
  input_le : ∀ input caret c, (rc input caret c).input.length ≤ input.length

/-- what must hold of a state just before the engine recomposes it -/
structure PreInv (c : Ctx) : Prop where
  caret_le : c.caret ≤ c.input.length
  segs_ok : SegsOK c.comp.segs

structure Inv (c : Ctx) : Prop extends PreInv c where
  /-- the composition's own copy of the input is no longer than the raw input -/
  cinput_le : c.comp.input.length ≤ c.input.length

theorem selOK_mk' (s e : Nat) : SelOK (Seg.mk' s e) := by
  intro l h; simp [Seg.mk'] at h

/-- with a non-empty menu the selected candidate exists -/
theorem SelOK.selected {g : Seg} (h : SelOK g) {l : List Cand} (hl : g.menu = some l) (hne : l ≠ []) :
    g.selected = some (l[g.selIdx]'(h l hl hne)) := by
  unfold Seg.selected Seg.candAt
  rw [hl]
  exact List.getElem?_eq_getElem _

theorem SegsOK.append {a b : List Seg} (ha : SegsOK a) (hb : SegsOK b) : SegsOK (a ++ b) :=
  List.forall_mem_append.mpr ⟨ha, hb⟩

theorem SegsOK.dropLast {a : List Seg} (ha : SegsOK a) : SegsOK a.dropLast :=
  fun g hg => ha g (List.dropLast_subset a hg)

theorem SegsOK.reverse {a : List Seg} (ha : SegsOK a) : SegsOK a.reverse :=
  fun g hg => ha g (List.mem_reverse.mp hg)

theorem SegsOK.getLast {a : List Seg} {g : Seg} (ha : SegsOK a) (h : a.getLast? = some g) : SelOK g :=
  ha g (List.mem_of_getLast? h)

theorem SegsOK.nil : SegsOK [] := fun _ h => nomatch h

theorem SegsOK.singleton {g : Seg} (h : SelOK g) : SegsOK [g] :=
  List.forall_mem_singleton.mpr h

theorem segsOK_cons {g : Seg} {l : List Seg} : SegsOK (g :: l) ↔ SelOK g ∧ SegsOK l :=
  List.forall_mem_cons

theorem segsOK_modLast {l : List Seg} {f : Seg → Seg} (hl : SegsOK l) (hf : ∀ g, SelOK g → SelOK (f g)) :
    SegsOK (modLast l f) := by
  unfold modLast
  split
  · exact hl
  · rename_i g hg
    exact SegsOK.append hl.dropLast (SegsOK.singleton (hf g (hl.getLast hg)))

theorem segsOK_modLast' {l : List Seg} {f : Seg → Seg} {g : Seg} (hl : SegsOK l) (hg : l.getLast? = some g)
    (hf : SelOK (f g)) : SegsOK (modLast l f) := by
  unfold modLast
  rw [hg]
  exact SegsOK.append hl.dropLast (SegsOK.singleton hf)

theorem segsOK_setLast {l : List Seg} {g : Seg} (hl : SegsOK l) (hg : SelOK g) : SegsOK (setLast l g) := by
  unfold setLast
  split
  · exact SegsOK.nil
  · exact SegsOK.append hl.dropLast (SegsOK.singleton hg)

theorem forward_ok {c : Comp} (h : SegsOK c.segs) : SegsOK c.forward.1.segs := by
  unfold Comp.forward
  split
  · exact h
  · split
    · exact h
    · exact SegsOK.append h (SegsOK.singleton (selOK_mk' _ _))

theorem forward_input (c : Comp) : c.forward.1.input = c.input := by
  unfold Comp.forward
  split
  · rfl
  · split <;> rfl

theorem trim_input (c : Comp) : c.trim.1.input = c.input := by
  unfold Comp.trim
  split
  · rfl
  · split <;> rfl

theorem trim_ok {c : Comp} (h : SegsOK c.segs) : SegsOK c.trim.1.segs := by
  unfold Comp.trim
  split
  · exact h
  · split
    · exact h.dropLast
    · exact h

open Ctx
variable {env : Env}

/-! Case analysis on a conditional by applying a lemma (`split` re-abstracts the whole goal at every use).
Unification does not find the motive: it is an argument of `ite_cases` and fixed in the special cases after it. -/

theorem ite_cases {α : Type} (Q : α → Prop) {b : Prop} [Decidable b] {x y : α} (hx : b → Q x) (hy : ¬b → Q y) :
    Q (if b then x else y) := by
  split
  · exact hx ‹_›
  · exact hy ‹_›

theorem fst_ite_dep {P : Ctx → Prop} {β : Type} {b : Prop} [Decidable b] {x y : Ctx × β} (hx : b → P x.1)
    (hy : ¬b → P y.1) : P (if b then x else y).1 :=
  ite_cases (fun r : Ctx × β => P r.1) hx hy

theorem fst_ite {P : Ctx → Prop} {β : Type} {b : Prop} [Decidable b] {x y : Ctx × β} (hx : P x.1) (hy : P y.1) :
    P (if b then x else y).1 :=
  fst_ite_dep (fun _ => hx) (fun _ => hy)

theorem ite_closed {α : Type} {P : α → Prop} {b : Prop} [Decidable b] {x y : α} (hx : P x) (hy : P y) :
    P (if b then x else y) :=
  ite_cases P (fun _ => hx) (fun _ => hy)

theorem some_ite {α : Type} {Q : α → Prop} {b : Prop} [Decidable b] {x y : Option α} (hx : ∀ r, x = some r → Q r)
    (hy : ∀ r, y = some r → Q r) : ∀ r, (if b then x else y) = some r → Q r :=
  ite_cases (fun o : Option α => ∀ r, o = some r → Q r) (fun _ => hx) (fun _ => hy)

theorem Inv.of_same {c c' : Ctx} (h : Inv c) (h1 : c'.input = c.input) (h2 : c'.caret = c.caret)
    (h3 : SegsOK c'.comp.segs) (h4 : c'.comp.input = c.comp.input := by rfl) : Inv c' :=
  ⟨⟨by rw [h1, h2]; exact h.caret_le, h3⟩, by rw [h4, h1]; exact h.cinput_le⟩

theorem Inv.of_fresh {c : Ctx} (h : c.input = [] ∧ c.caret = 0 ∧ c.comp.segs = [] ∧ c.comp.input = []) : Inv c :=
  ⟨⟨by rw [h.1, h.2.1]; exact Nat.le_refl _, by rw [h.2.2.1]; exact SegsOK.nil⟩, by rw [h.2.2.2, h.1]; exact Nat.le_refl _⟩

theorem update_inv (hrc : ComposeSpec env.recompose) {c : Ctx} (h : PreInv c) : Inv (update env c) :=
  ⟨⟨h.caret_le, hrc.segs _ _ _ h.segs_ok⟩, hrc.input_le _ _ _⟩

theorem modLastSeg_inv {c : Ctx} (h : Inv c) {f : Seg → Seg} {g : Seg} (hg : c.comp.segs.getLast? = some g)
    (hf : SelOK (f g)) : Inv (c.modLastSeg f) :=
  h.of_same rfl rfl (segsOK_modLast' h.segs_ok hg hf)

theorem modComp_forward_inv {c : Ctx} (h : Inv c) : Inv (c.modComp (fun k => k.forward.1)) :=
  h.of_same rfl rfl (forward_ok h.segs_ok) (forward_input c.comp)

theorem SelOK.of_eq {g g' : Seg} (h : SelOK g) (hm : g'.menu = g.menu) (hi : g'.selIdx = g.selIdx) : SelOK g' := by
  unfold SelOK
  rw [hm, hi]
  exact h

theorem Seg.selected_mem {g : Seg} {cd : Cand} (h : g.selected = some cd) : ∃ l, g.menu = some l ∧ cd ∈ l := by
  unfold Seg.selected Seg.candAt at h
  split at h
  · cases h
  · exact ⟨_, ‹_›, List.mem_of_getElem? h⟩

/-- `Segment::Close` changes the end only, and only to the end of the selected candidate, to the left -/
theorem close_fields (g : Seg) :
    g.close.start = g.start ∧ g.close.menu = g.menu ∧ g.close.selIdx = g.selIdx ∧ g.close.stop ≤ g.stop ∧
      (g.close.stop = g.stop ∨ ∃ cd, g.selected = some cd ∧ g.close.stop = cd.stop) := by
  unfold Seg.close
  split
  · split
    · exact ⟨rfl, rfl, rfl, Nat.le_of_lt ‹_›, Or.inr ⟨_, ‹_›, rfl⟩⟩
    · exact ⟨rfl, rfl, rfl, Nat.le_refl _, Or.inl rfl⟩
  · exact ⟨rfl, rfl, rfl, Nat.le_refl _, Or.inl rfl⟩

theorem reopen_fields (g : Seg) (caret : Nat) :
    (g.reopen caret).1.start = g.start ∧ (g.reopen caret).1.menu = g.menu ∧
      (g.reopen caret).1.selIdx = g.selIdx ∧ g.stop ≤ (g.reopen caret).1.stop := by
  let Q : Seg × Bool → Prop := fun r =>
    r.1.start = g.start ∧ r.1.menu = g.menu ∧ r.1.selIdx = g.selIdx ∧ g.stop ≤ r.1.stop
  show Q (g.reopen caret)
  unfold Seg.reopen
  refine ite_cases Q (fun _ => ⟨rfl, rfl, rfl, Nat.le_refl _⟩) fun _ =>
    ite_cases Q (fun _ => ?_) (fun _ => ⟨rfl, rfl, rfl, Nat.le_refl _⟩)
  show Q ({ (if g.stop < g.start + g.length then _ else g) with status := .guess }, true)
  split
  · exact ⟨rfl, rfl, rfl, Nat.le_of_lt ‹_›⟩
  · exact ⟨rfl, rfl, rfl, Nat.le_refl _⟩

theorem selOK_close {g : Seg} (h : SelOK g) : SelOK g.close :=
  h.of_eq (close_fields g).2.1 (close_fields g).2.2.1

theorem selOK_reopen {g : Seg} (h : SelOK g) (caret : Nat) : SelOK (g.reopen caret).1 :=
  h.of_eq (reopen_fields g caret).2.1 (reopen_fields g caret).2.2.1

theorem selOK_setIdx {g : Seg} {i : Nat} (s : Status) (hi : ∀ l, g.menu = some l → l ≠ [] → i < l.length) :
    SelOK { g with selIdx := i, status := s } := hi

theorem beginEditingRev_ok {l : List Seg} (h : SegsOK l) : SegsOK (beginEditingRev l) := by
  induction l with
  | nil => exact h
  | cons g rest ih =>
    have hl := segsOK_cons.mp h
    unfold beginEditingRev
    split
    · exact h
    · split
      · exact segsOK_cons.mpr hl
      · exact segsOK_cons.mpr ⟨hl.1, ih hl.2⟩

theorem beginEditing_inv {c : Ctx} (h : Inv c) : Inv c.beginEditing :=
  h.of_same rfl rfl (show SegsOK (beginEditingRev c.comp.segs.reverse).reverse from
    (beginEditingRev_ok h.segs_ok.reverse).reverse)

theorem reopenPreviousSegment_inv (hrc : ComposeSpec env.recompose) {c : Ctx} (h : Inv c) :
    Inv (reopenPreviousSegment env c).1 := by
  unfold reopenPreviousSegment
  have ht : SegsOK c.comp.trim.1.segs := trim_ok h.segs_ok
  have hti : c.comp.trim.1.input = c.comp.input := trim_input c.comp
  generalize c.comp.trim = kt at ht hti
  refine fst_ite (update_inv hrc ?_) h
  have h1 : Inv { c with comp := kt.1 } := h.of_same rfl rfl ht hti
  split
  · exact (ite_closed (modLastSeg_inv h1 ‹_› (selOK_reopen (ht.getLast ‹_›) _)) h1).toPreInv
  · exact h1.toPreInv

theorem reopenSelRev_ok (caret : Nat) {l : List Seg} (hl : SegsOK l) :
    ∀ r, reopenSelRev caret l = some r → SegsOK r := by
  induction l with
  | nil => exact fun _ h => nomatch h
  | cons g rest ih =>
    have hl := segsOK_cons.mp hl
    unfold reopenSelRev
    refine some_ite (fun _ h => nomatch h) (some_ite (some_ite (fun _ h => nomatch h) ?_) (ih hl.2))
    intro r h
    cases h
    exact segsOK_cons.mpr ⟨selOK_reopen hl.1 _, hl.2⟩

theorem reopenPreviousSelection_inv (hrc : ComposeSpec env.recompose) {c : Ctx} (h : Inv c) :
    Inv (reopenPreviousSelection env c).1 := by
  unfold reopenPreviousSelection
  split
  · exact h
  · rename_i r hr
    exact update_inv hrc ⟨h.caret_le, (reopenSelRev_ok _ h.segs_ok.reverse r hr).reverse⟩

theorem dropNonConfirmedRev_ok {l : List Seg} (h : SegsOK l) : SegsOK (dropNonConfirmedRev l).1 := by
  induction l with
  | nil => exact h
  | cons g rest ih =>
    unfold dropNonConfirmedRev
    split
    · exact ih (segsOK_cons.mp h).2
    · exact h

theorem clearNonConfirmedComposition_inv {c : Ctx} (h : Inv c) : Inv (clearNonConfirmedComposition c).1 := by
  unfold clearNonConfirmedComposition
  have hd := dropNonConfirmedRev_ok h.segs_ok.reverse
  generalize dropNonConfirmedRev c.comp.segs.reverse = p at hd
  exact fst_ite (modComp_forward_inv (h.of_same rfl rfl hd.reverse)) h

theorem pushInput_input_length (c : Ctx) (ch : UInt8) :
    (pushInput env c ch).input.length = c.input.length + 1 := by
  refine ite_cases (fun r : Ctx => r.input.length = c.input.length + 1) (fun _ => List.length_append) fun h => ?_
  have hk : c.caret ≤ c.input.length := Nat.le_of_lt (Nat.lt_of_not_le h)
  show (c.input.take c.caret ++ ch :: c.input.drop c.caret).length = _
  rw [List.length_append, List.length_cons, List.length_take, List.length_drop, Nat.min_eq_left hk, ← Nat.add_assoc,
    Nat.add_sub_cancel' hk]

theorem beginEditing_input (c : Ctx) : c.beginEditing.input = c.input := rfl

end RimeModel.Session
