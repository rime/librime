import RimeModel.Session.WellFormed
/-! C02, UTF-8 clause: the preedit's sel_start / sel_end / cursor fall on character boundaries, provided
every piece GetPreedit concatenates starts a character (does not begin with a continuation byte). -/
namespace RimeModel.Session

/-- UTF-8 continuation byte 10xxxxxx -/
def isCont (b : UInt8) : Bool := 0x80 ≤ b.toNat && b.toNat < 0xC0

/-- a byte string that does not start in the middle of a character -/
def PieceOK (s : Bytes) : Prop := ∀ b, s.head? = some b → isCont b = false

/-- position `p` of `t` is a character boundary: the end, or a byte that starts a character -/
def Bnd (t : Bytes) (p : Nat) : Prop := p = t.length ∨ (p < t.length ∧ ∀ b, t[p]? = some b → isCont b = false)

/-- a position is a boundary when it lies within the text and what follows it starts a character -/
theorem bnd_iff {t : Bytes} {p : Nat} : Bnd t p ↔ p ≤ t.length ∧ PieceOK (t.drop p) := by
  unfold Bnd PieceOK
  rw [List.head?_drop]
  constructor
  · rintro (h | ⟨h, hb⟩)
    · exact ⟨Nat.le_of_eq h, fun b hb => by rw [h, List.getElem?_eq_none (Nat.le_refl _)] at hb; cases hb⟩
    · exact ⟨Nat.le_of_lt h, hb⟩
  · rintro ⟨h, hb⟩
    rcases Nat.eq_or_lt_of_le h with h | h
    · exact Or.inl h
    · exact Or.inr ⟨h, hb⟩

theorem pieceOK_nil : PieceOK [] := by intro b h; simp at h

theorem pieceOK_append {s r : Bytes} (hs : PieceOK s) (hr : PieceOK r) : PieceOK (s ++ r) := by
  cases s with
  | nil => exact hr
  | cons x xs => exact hs

theorem pieceOK_of_ascii {s : Bytes} (h : ∀ b ∈ s, b.toNat < 0x80) : PieceOK s := by
  intro b hb
  have := h b (List.mem_of_mem_head? (Option.mem_def.mpr hb))
  simp [isCont]; omega

theorem ascii_drop {s : Bytes} (h : ∀ b ∈ s, b.toNat < 0x80) (n : Nat) : ∀ b ∈ s.drop n, b.toNat < 0x80 :=
  fun b hb => h b (List.mem_of_mem_drop hb)

theorem pieceOK_take {s : Bytes} (h : PieceOK s) (n : Nat) : PieceOK (s.take n) := by
  intro b hb
  rw [List.head?_take] at hb
  split at hb
  · cases hb
  · exact h b hb

theorem bnd_end (t : Bytes) : Bnd t t.length := Or.inl rfl

theorem bnd_append {t s : Bytes} {p : Nat} (h : Bnd t p) (hs : PieceOK s) : Bnd (t ++ s) p := by
  obtain ⟨hle, hp⟩ := bnd_iff.mp h
  refine bnd_iff.mpr ⟨le_length_append hle _, ?_⟩
  rw [List.drop_append_of_le_length hle]
  exact pieceOK_append hp hs

theorem bnd_app_new_end (t s : Bytes) : Bnd (t ++ s) (t.length + s.length) := by
  have := bnd_end (t ++ s); simpa using this

/-- what the clause assumes of a candidate: its text, its preedit and the part of the preedit after the
TAB caret placeholder each start a character (true of valid UTF-8, TAB being ASCII) -/
structure CandOK (cd : Cand) : Prop where
  text : PieceOK cd.text
  preedit : PieceOK cd.preedit
  afterTab : ∀ t, findTab cd.preedit = some t → PieceOK (cd.preedit.drop (t + 1))

def AccB (a : PreeditAcc) : Prop :=
  Bnd a.text a.selStart ∧ Bnd a.text a.selEnd ∧ ∀ p, a.caretPos = some p → Bnd a.text p

theorem accB_append {a : PreeditAcc} (h : AccB a) {s : Bytes} (hs : PieceOK s) (e : Nat) :
    AccB { a with text := a.text ++ s, stop := e } :=
  ⟨bnd_append h.1 hs, bnd_append h.2.1 hs, fun p hp => bnd_append (h.2.2 p hp) hs⟩

theorem accB_caret {a : PreeditAcc} (h : AccB a) : AccB { a with caretPos := some a.text.length } :=
  ⟨h.1, h.2.1, fun p hp => by simp only [Option.some.injEq] at hp; subst hp; exact bnd_end _⟩

theorem accB_selStart {a : PreeditAcc} (h : AccB a) : AccB { a with selStart := a.text.length } :=
  ⟨bnd_end _, h.2.1, h.2.2⟩

theorem accB_selEnd {a : PreeditAcc} (h : AccB a) : AccB { a with selEnd := a.text.length } :=
  ⟨h.1, bnd_end _, h.2.2⟩

theorem accB_stable : AccStable AccB PieceOK where
  caret := accB_caret
  append h hs e := accB_append h hs e
  select h hs _ := ⟨bnd_append (bnd_end _) hs, bnd_end _, fun p hp => bnd_append (h.2.2 p hp) hs⟩

theorem piecesOK_of_candOK {ci : Bytes} {g : Seg} (hci : ∀ b ∈ ci, b.toNat < 0x80)
    (hg : ∀ cd, g.selected = some cd → CandOK cd) : PiecesOK PieceOK ci g where
  nil := pieceOK_nil
  input x _ := pieceOK_of_ascii fun b hb => ascii_drop hci x b (List.mem_of_mem_take hb)
  text cd h := (hg cd h).text
  preedit cd h := (hg cd h).preedit
  beforeTab cd t h := pieceOK_take (hg cd h).preedit t
  afterTab cd t h := (hg cd h).afterTab t

/-- inserting an OK piece at a boundary keeps a boundary `q` a boundary (shifted when it lies after the
insertion point) -/
theorem bnd_insert {t pr : Bytes} {cp q : Nat} (hcp : Bnd t cp) (hq : Bnd t q) (hpr : PieceOK pr) :
    Bnd (t.take cp ++ pr ++ t.drop cp) (if cp < q then q + pr.length else q) := by
  obtain ⟨hcl, hcd⟩ := bnd_iff.mp hcp
  obtain ⟨hql, hqd⟩ := bnd_iff.mp hq
  have htake : (t.take cp).length = cp := by rw [List.length_take, Nat.min_eq_left hcl]
  rw [bnd_iff, length_insert hcl]
  by_cases hlt : cp < q
  · -- after the insertion point: what follows is what followed `q` in `t`
    rw [if_pos hlt]
    refine ⟨Nat.add_le_add_right hql _, ?_⟩
    have hpast : (t.take cp ++ pr).length ≤ q + pr.length := by
      rw [List.length_append, htake]
      exact Nat.add_le_add_right (Nat.le_of_lt hlt) _
    rw [List.drop_append, List.drop_eq_nil_of_le hpast, List.nil_append, List.length_append, htake, List.drop_drop,
      show cp + (q + pr.length - (cp + pr.length)) = q by omega]
    exact hqd
  · -- up to the insertion point: a part of `t` from `q` on, then the piece
    rw [if_neg hlt]
    refine ⟨Nat.le_add_right_of_le hql, ?_⟩
    rw [List.append_assoc, List.drop_append_of_le_length (htake.symm ▸ Nat.le_of_not_lt hlt), List.drop_take]
    exact pieceOK_append (pieceOK_take hqd _) (pieceOK_append hpr hcd)

theorem preeditFinish_bnd (a : PreeditAcc) (ci fi pr : Bytes) (h1 : AccB a)
    (hci : ∀ b ∈ ci, b.toNat < 0x80) (hfi : ∀ b ∈ fi, b.toNat < 0x80) (hpr : PieceOK pr) :
    let p := preeditFinish a ci fi pr
    Bnd p.text p.selStart ∧ Bnd p.text p.selEnd ∧ Bnd p.text p.caretPos := by
  unfold preeditFinish
  have h2 : AccB (if a.stop < ci.length then { a with text := a.text ++ ci.drop a.stop, stop := ci.length } else a) :=
    ite_cases AccB (fun _ => accB_append h1 (pieceOK_of_ascii (ascii_drop hci _)) _) (fun _ => h1)
  dsimp only
  generalize (if a.stop < ci.length then { a with text := a.text ++ ci.drop a.stop, stop := ci.length } else a) = a2 at h2
  obtain ⟨b1, b2, b3⟩ := h2
  have hcur : Bnd a2.text a2.cursor := by
    unfold PreeditAcc.cursor
    cases hcp : a2.caretPos with
    | none => exact bnd_end _
    | some p => exact b3 p hcp
  generalize a2.cursor = cur at hcur ⊢
  have hrest : PieceOK (fi.drop a2.stop) := pieceOK_of_ascii (ascii_drop hfi _)
  have ht : ∀ q, Bnd a2.text q → Bnd (a2.fullText fi) q := by
    intro q hq
    unfold PreeditAcc.fullText
    split
    · exact bnd_append hq hrest
    · exact hq
  generalize a2.fullText fi = text at ht ⊢
  have c1 := ht _ b1
  have c2 := ht _ b2
  have c3 := ht _ hcur
  by_cases hne : pr ≠ []
  · rw [if_pos hne]
    exact ⟨bnd_insert c3 c1 hpr, bnd_insert c3 c2 hpr, by
      have := bnd_insert c3 c3 hpr; simpa using this⟩
  · rw [if_neg hne]
    exact ⟨c1, c2, c3⟩

/-- **C02, UTF-8 clause**: sel_start, sel_end and the cursor of the preedit are character boundaries of the
preedit text, whenever the composition's input and the raw input are ASCII (all the key path can produce),
every selected candidate's text / preedit starts a character, and so does soft cursor + prompt -/
theorem getPreedit_boundaries (c : Comp) (fi : Bytes) (cp : Nat) (sc : Bytes)
    (hci : ∀ b ∈ c.input, b.toNat < 0x80) (hfi : ∀ b ∈ fi, b.toNat < 0x80)
    (hcand : ∀ g ∈ c.segs, ∀ cd, g.selected = some cd → CandOK cd)
    (hprompt : PieceOK (sc ++ c.prompt)) :
    let p := c.getPreedit fi cp sc
    Bnd p.text p.selStart ∧ Bnd p.text p.selEnd ∧ Bnd p.text p.caretPos := by
  have h0 : AccB ({} : PreeditAcc) := ⟨Or.inl rfl, Or.inl rfl, by intro p hp; simp at hp⟩
  exact preeditFinish_bnd _ c.input fi _
    (preeditLoop_stable accB_stable fi cp c.segs (fun g hg => piecesOK_of_candOK hci (hcand g hg)) h0) hci hfi hprompt

end RimeModel.Session
