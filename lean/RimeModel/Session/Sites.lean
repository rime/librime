import RimeModel.Session.Api
/-! C01: the partial C++ operations of the modelled context / processor / API code, each with the guard
under which the code executes it and the precondition C++ requires (std::string::erase/insert/operator[],
a non-null candidate, a non-zero divisor). -/
namespace RimeModel.Session

inductive Site where
  /-- context.cc PushInput: `input_.insert(caret_pos_, 1, ch)` in the `caret_pos_ < length` branch -/
  | pushInputInsert
  /-- context.cc PopInput(len): `caret_pos_ -= len; input_.erase(caret_pos_, len)` after `caret_pos_ >= len` -/
  | popInputErase (len : Nat)
  /-- context.cc DeleteInput(len): `input_.erase(caret_pos_, len)` after `caret_pos_ + len <= length` -/
  | deleteInputErase (len : Nat)
  /-- speller.cc expecting_an_initial: `input[caret_pos - 1]` when caret is neither 0 nor the segment start -/
  | spellerPrevChar
  /-- speller.cc AutoSelectUniqueCandidate: `cand->start()` after `HasMenu()` and `Prepare(2) == 1` -/
  | uniqueCandidateDeref
  /-- rime_api_impl.h RimeGetContext / do_with_candidate_on_current_page / selector.cc: `selected_index / page_size` -/
  | pageDivision
  /-- rime_api_impl.h RimeGetContext: the highlighted entry of the page exists when a page is reported -/
  | highlightedOnPage
  deriving Repr, DecidableEq

/-- the condition under which the code reaches the operation -/
def Site.guard (env : Env) (c : Ctx) : Site → Prop
  | .pushInputInsert => c.caret < c.input.length
  | .popInputErase len => len ≤ c.caret
  | .deleteInputErase len => c.caret + len ≤ c.input.length
  | .spellerPrevChar => ¬ (c.caret = 0 ∨ c.caret = c.comp.currentStart)
  | .uniqueCandidateDeref => c.hasMenu = true ∧ ∃ g, c.comp.segs.getLast? = some g ∧ g.prepare 2 = 1
  | .pageDivision => True
  | .highlightedOnPage => (view env c).menu.isSome = true

/-- what C++ requires of the operands -/
def Site.pre (env : Env) (c : Ctx) : Site → Prop
  | .pushInputInsert => c.caret ≤ c.input.length
  | .popInputErase len => c.caret - len ≤ c.input.length
  | .deleteInputErase _ => c.caret ≤ c.input.length
  | .spellerPrevChar => c.caret - 1 < c.input.length
  | .uniqueCandidateDeref => ∃ g cd, c.comp.segs.getLast? = some g ∧ g.selected = some cd
  | .pageDivision => env.pageSize ≠ 0
  | .highlightedOnPage => ∀ m, (view env c).menu = some m → ∃ cd, m.cands[m.highlighted]? = some cd

end RimeModel.Session
