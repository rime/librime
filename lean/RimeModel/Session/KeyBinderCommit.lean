import RimeModel.Session.Commit
import RimeModel.Session.Closed
/-! What the key binder's own steps do to the session's commit buffer (C03): option actions and
ReinterpretPagingKey deliver nothing; nor does the ascii composer's deferred listener (`acSettle`). -/
namespace RimeModel.Session
open Ctx
variable {env : Env}

theorem clearNonConfirmedComposition_commitBuf (c : Ctx) : (clearNonConfirmedComposition c).1.commitBuf = c.commitBuf := by
  unfold clearNonConfirmedComposition
  generalize dropNonConfirmedRev c.comp.segs.reverse = p
  obtain ⟨r, reverted⟩ := p
  exact fst_ite (P := fun c' => c'.commitBuf = c.commitBuf) rfl rfl

theorem refreshNonConfirmedComposition_commitBuf (c : Ctx) :
    (refreshNonConfirmedComposition env c).1.commitBuf = c.commitBuf := by
  unfold refreshNonConfirmedComposition
  have h := clearNonConfirmedComposition_commitBuf c
  generalize clearNonConfirmedComposition c = p at h
  obtain ⟨c1, r⟩ := p
  exact fst_ite (P := fun c' => c'.commitBuf = c.commitBuf) h rfl

/-- Context::set_option + OnOptionUpdate never touches the commit buffer -/
theorem setOption_commitBuf (c : Ctx) (n : String) (v : Bool) : (setOption env c n v).commitBuf = c.commitBuf :=
  ite_closed (P := fun c' : Ctx => c'.commitBuf = c.commitBuf) (refreshNonConfirmedComposition_commitBuf _) rfl

/-- Context::PushInput delivers nothing -/
theorem pushInput_commitBuf (c : Ctx) (ch : UInt8) : (pushInput env c ch).commitBuf = c.commitBuf :=
  ite_closed (P := fun c' : Ctx => c'.commitBuf = c.commitBuf) rfl rfl

theorem kbReinterpret_commitBuf (k : Key) (c : Ctx) : (kbReinterpret env k c).1.commitBuf = c.commitBuf :=
  fst_ite (P := fun c' => c'.commitBuf = c.commitBuf) rfl
    (fst_ite (P := fun c' => c'.commitBuf = c.commitBuf) rfl
      (ite_closed (P := fun c' : Ctx => c'.commitBuf = c.commitBuf) (pushInput_commitBuf c 46) rfl))

/-- is the action one of the three option actions? -/
def KbAction.isOption : KbAction → Bool
  | .send _ => false
  | _ => true

/-- the option actions only call `set_option` -/
theorem kbPerform_option_commitBuf (reent : Key → Ctx → Ctx × Bool) (a : KbAction) (ha : a.isOption = true) (c : Ctx) :
    (kbPerform reent env a c).commitBuf = c.commitBuf := by
  have hset : ∀ c' n v, c'.commitBuf = c.commitBuf → (setOption env c' n v).commitBuf = c.commitBuf :=
    fun c' n v h => (setOption_commitBuf c' n v).trans h
  unfold kbPerform
  cases a with
  | send keys => cases ha
  | toggle o => exact kbToggle_closed (P := fun c' => c'.commitBuf = c.commitBuf) hset o rfl
  | setOption o => exact kbSet_closed (P := fun c' => c'.commitBuf = c.commitBuf) hset o rfl
  | unsetOption o => exact kbUnset_closed (P := fun c' => c'.commitBuf = c.commitBuf) hset o rfl

/-- the ascii composer's deferred listener (inline mode ends) delivers nothing -/
theorem acSettle_commitBuf (c : Ctx) : (acSettle c).commitBuf = c.commitBuf :=
  ite_closed (P := fun c' : Ctx => c'.commitBuf = c.commitBuf) rfl rfl

end RimeModel.Session
