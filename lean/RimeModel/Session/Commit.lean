import RimeModel.Session.Api
import RimeModel.Session.Compose
/-! Lemmas about commit text, selection to the end of input, and the delivery buffer (C03). -/
namespace RimeModel.Session
open Ctx

/-- `Composition::GetCommitText` contribution of one segment -/
def commitPiece (input : Bytes) (g : Seg) (acc : Bytes × Nat) : Bytes × Nat :=
  match g.selected with
  | some c => (acc.1 ++ c.text, c.stop)
  | none => (if g.tags.phony then acc.1 else acc.1 ++ substr input g.start (g.stop - g.start), g.stop)

theorem commitFold_cons (input : Bytes) (g : Seg) (rest : List Seg) (acc : Bytes × Nat) :
    commitFold input (g :: rest) acc = commitFold input rest (commitPiece input g acc) := by
  obtain ⟨t, e⟩ := acc
  rw [commitFold, commitPiece]
  cases g.selected <;> rfl

theorem commitFold_append (input : Bytes) (a b : List Seg) (acc : Bytes × Nat) :
    commitFold input (a ++ b) acc = commitFold input b (commitFold input a acc) := by
  induction a generalizing acc with
  | nil => simp [commitFold]
  | cons g a ih => rw [List.cons_append, commitFold_cons, commitFold_cons, ih]

theorem commitFold_snoc (input : Bytes) (a : List Seg) (g : Seg) (acc : Bytes × Nat) :
    commitFold input (a ++ [g]) acc = commitPiece input g (commitFold input a acc) := by
  rw [commitFold_append, commitFold_cons]
  simp [commitFold]

/-- the text shown ahead of the last segment: commit text of the segments before it -/
def shownPrefix (c : Ctx) : Bytes := (commitFold c.comp.input c.comp.segs.dropLast ([], 0)).1

/-- the abstract delivery log of a session: `sink` appends, `read` returns everything and empties -/
structure Delivery where
  buf : Bytes := []

def Delivery.sink (d : Delivery) (t : Bytes) : Delivery := { buf := d.buf ++ t }
/-- RimeGetCommit: copies the text when non-empty, then ResetCommitText -/
def Delivery.read (d : Delivery) : Delivery × Option Bytes := if d.buf ≠ [] then ({ buf := [] }, some d.buf) else (d, none)

theorem modLast_snoc (l : List Seg) (f : Seg → Seg) {g : Seg} (h : l.getLast? = some g) :
    modLast l f = l.dropLast ++ [f g] := by
  unfold modLast; rw [h]

theorem candAt_setIdx (g : Seg) (i : Nat) (s : Status) :
    ({ g with selIdx := i, status := s } : Seg).selected = g.candAt i := rfl

theorem close_noop {g : Seg} {cd : Cand} (h : g.selected = some cd) (hs : ¬ cd.stop < g.stop) : g.close = g := by
  unfold Seg.close; rw [h]; simp [hs]

theorem getOption_modLastSeg (c : Ctx) (f : Seg → Seg) (n : String) : (c.modLastSeg f).getOption n = c.getOption n := rfl

/-- commit text of a composition whose last segment is selected and reaches the end of the input -/
theorem Comp.commitText_of_last {k : Comp} {pre : List Seg} {g : Seg} {cd : Cand} (hsegs : k.segs = pre ++ [g])
    (hsel : g.selected = some cd) (hlen : k.input.length ≤ cd.stop) :
    k.commitText = (commitFold k.input pre ([], 0)).1 ++ cd.text := by
  unfold Comp.commitText
  rw [hsegs, commitFold_snoc]
  unfold commitPiece
  rw [hsel]
  exact if_neg (Nat.not_lt.mpr hlen)

/-- an empty segment at or past the end of the input adds nothing to the commit text -/
theorem Comp.commitText_forward {k : Comp} {pre : List Seg} {g : Seg} {cd : Cand} (hsegs : k.segs = pre ++ [g])
    (hsel : g.selected = some cd) (hlen : k.input.length ≤ cd.stop) (hstop : k.input.length ≤ g.stop) :
    k.forward.1.commitText = k.commitText := by
  unfold Comp.forward
  rw [hsegs, List.getLast?_concat]
  dsimp only
  by_cases he : g.start = g.stop
  · rw [if_pos he]
  · rw [if_neg he, Comp.commitText_of_last hsegs hsel hlen]
    unfold Comp.commitText
    dsimp only
    rw [commitFold_snoc, commitFold_snoc]
    unfold commitPiece
    rw [hsel, show (Seg.mk' g.stop g.stop).selected = none from rfl]
    simp only [Seg.mk', substr, Nat.sub_self, List.take_zero, List.append_nil, ite_self]
    exact if_neg (Nat.not_lt.mpr hstop)

theorem clear_commitBuf (env : Env) (c : Ctx) : (clear env c).commitBuf = c.commitBuf := rfl

theorem isComposing_of_segs {c : Ctx} {pre : List Seg} {g : Seg} (h : c.comp.segs = pre ++ [g]) : c.isComposing = true := by
  unfold Ctx.isComposing; rw [h]; simp

/-- OnSelect when candidate and last segment end where the raw input ends: commit at once (`_auto_commit`) or preview; the core of C03 (b) -/
theorem onSelect_end (env : Env) (c1 : Ctx) (pre : List Seg) (g1 : Seg) (cd : Cand)
    (hsegs : c1.comp.segs = pre ++ [g1]) (hsel : g1.selected = some cd)
    (hstop : g1.stop = c1.input.length) (hcs : cd.stop = c1.input.length)
    (hlen : c1.comp.input.length ≤ c1.input.length) (hd : c1.getOption "dumb" = false) :
    (c1.getOption "_auto_commit" = true →
      (onSelect env c1).commitBuf = c1.commitBuf ++ env.format ((commitFold c1.comp.input pre ([], 0)).1 ++ cd.text)) ∧
    (c1.getOption "_auto_commit" = false →
      (onSelect env c1).commitText = (commitFold c1.comp.input pre ([], 0)).1 ++ cd.text ∧
      (onSelect env c1).commitBuf = c1.commitBuf) := by
  have hclose : g1.close = g1 := close_noop hsel (Nat.not_lt.mpr (Nat.le_of_eq (hstop.trans hcs.symm)))
  let g2 : Seg := { g1 with status := .confirmed }
  let c2 : Ctx := c1.modLastSeg (fun _ => g2)
  have hsegs2 : c2.comp.segs = pre ++ [g2] := by
    show modLast c1.comp.segs (fun _ => g2) = pre ++ [g2]
    rw [modLast_snoc _ _ (by rw [hsegs]; exact List.getLast?_concat), hsegs, List.dropLast_concat]
  have hon : onSelect env c1 =
      if c1.getOption "_auto_commit" = true then (commit env c2).1 else c2.modComp (fun k => k.forward.1) := by
    unfold onSelect
    rw [hsegs, List.getLast?_concat]
    simp only [hclose]
    rw [if_pos hstop]
    rfl
  have hlen2 : c2.comp.input.length ≤ cd.stop := Nat.le_trans hlen (Nat.le_of_eq hcs.symm)
  have htext : c2.comp.commitText = (commitFold c1.comp.input pre ([], 0)).1 ++ cd.text :=
    Comp.commitText_of_last hsegs2 hsel hlen2
  constructor
  · intro ha
    rw [hon, ha, if_pos rfl]
    unfold commit
    rw [isComposing_of_segs hsegs2]
    simp only [Bool.not_true, Bool.false_eq_true, if_false]
    show c1.commitBuf ++ env.format (if c1.getOption "dumb" = true then [] else c2.comp.commitText) = _
    rw [hd, if_neg Bool.false_ne_true, htext]
  · intro ha
    rw [hon, ha, if_neg Bool.false_ne_true]
    refine ⟨?_, rfl⟩
    show (if c1.getOption "dumb" = true then [] else c2.comp.forward.1.commitText) = _
    rw [hd, if_neg Bool.false_ne_true,
      Comp.commitText_forward hsegs2 hsel hlen2 (Nat.le_trans hlen (Nat.le_of_eq hstop.symm)), htext]

/-- what C03(c) needs of Compose: recomposing an empty input with no segments yields no segments -/
def ComposeEmptySpec (rc : Bytes → Nat → Comp → Comp) : Prop := ∀ k : Comp, k.segs = [] → (rc [] 0 k).segs = []

/-- a commit on a composing state delivers the formatted commit preview of that state, and nothing else -/
theorem commit_commitBuf (env : Env) (c : Ctx) (hc : c.isComposing = true) :
    (commit env c).1.commitBuf = c.commitBuf ++ env.format (view env c).preview := by
  unfold commit view
  simp only [hc, Bool.not_true, Bool.false_eq_true, if_false, if_true]
  rfl

theorem commit_not_composing (env : Env) (he : ComposeEmptySpec env.recompose) (c : Ctx) (hc : c.isComposing = true) :
    (commit env c).1.isComposing = false ∧ (commit env c).1.input = [] ∧ (commit env c).1.caret = 0 := by
  unfold commit
  simp only [hc, Bool.not_true, Bool.false_eq_true, if_false]
  unfold clear update
  refine ⟨?_, rfl, rfl⟩
  unfold Ctx.isComposing
  simp only
  rw [he _ rfl]
  simp

end RimeModel.Session
