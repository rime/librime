import RimeModel.Session.EditBuf

/-! generated-keymap facts the refinement proof depends on: re-checked by the kernel against the keymaps
regenerated from editor.cc / navigator.cc / selector.cc on every run -/
namespace RimeModel.Session

/-- what the selector / the navigator / the editor of either flavour bind an editing key to (no modifiers) -/
def EditKey.sel : EditKey → Option SelAct
  | .home => some .home
  | .end_ => some .end_
  | _ => none

def EditKey.nav : EditKey → Option NavAct
  | .kpLeft => some .leftByChar
  | .kpRight => some .rightByChar
  | .right => some .rightByChar
  | .home => some .home
  | .end_ => some .end_
  | _ => none

def EditKey.edit (fluid : Bool) : EditKey → Option EditorAct
  | .backSpace => some (if fluid then .backToPreviousInput else .revertLastEdit)
  | .delete => some .deleteChar
  | .escape => some .cancelComposition
  | _ => none

theorem sel0_find {k : EditKey} (hk : k.isLetter = false) : Gen.selectorKeymap0.find k.toKey.code 0 = k.sel := by
  cases k with
  | letter b => cases hk
  | _ => decide

theorem nav0_find {k : EditKey} (hk : k.isLetter = false) : Gen.navigatorKeymap0.find k.toKey.code 0 = k.nav := by
  cases k with
  | letter b => cases hk
  | _ => decide

theorem editor_find {k : EditKey} (hk : k.isLetter = false) {fluid : Bool} :
    (if fluid then Gen.fluidEditorKeymap else Gen.expressEditorKeymap).find k.toKey.code 0 = k.edit fluid := by
  cases k with
  | letter b => cases hk
  | _ => cases fluid <;> decide

/-- every editing key that is not a letter is the navigator's or the editor's -/
theorem EditKey.edit_of_nav_none {k : EditKey} (hk : k.isLetter = false) (hn : k.nav = none) (fluid : Bool) :
    ∃ a, k.edit fluid = some a := by
  cases k with
  | letter b => cases hk
  | backSpace => exact ⟨_, rfl⟩
  | delete => exact ⟨_, rfl⟩
  | escape => exact ⟨_, rfl⟩
  | _ => cases hn

theorem express_kpLeft : Gen.expressEditorKeymap.find Gen.xkKPLeft 0 = none := by decide
theorem fluid_kpLeft : Gen.fluidEditorKeymap.find Gen.xkKPLeft 0 = none := by decide
theorem express_kpRight : Gen.expressEditorKeymap.find Gen.xkKPRight 0 = none := by decide
theorem fluid_kpRight : Gen.fluidEditorKeymap.find Gen.xkKPRight 0 = none := by decide
theorem express_right : Gen.expressEditorKeymap.find Gen.xkRight 0 = none := by decide
theorem fluid_right : Gen.fluidEditorKeymap.find Gen.xkRight 0 = none := by decide
theorem express_home : Gen.expressEditorKeymap.find Gen.xkHome 0 = none := by decide
theorem fluid_home : Gen.fluidEditorKeymap.find Gen.xkHome 0 = none := by decide
theorem express_end_ : Gen.expressEditorKeymap.find Gen.xkEnd 0 = none := by decide
theorem fluid_end_ : Gen.fluidEditorKeymap.find Gen.xkEnd 0 = none := by decide
theorem express_handler : Gen.expressEditorCharHandler = .directCommit := by decide
theorem fluid_handler : Gen.fluidEditorCharHandler = .addToInput := by decide

end RimeModel.Session
