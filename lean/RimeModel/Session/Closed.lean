import RimeModel.Session.Inv
/-!
Predicates on the session state that every Context primitive preserves (`CtxClosed`) are preserved by every
processor, by the chain and by every API operation.  The one place where more is needed is the speller's
AutoSelectPreviousMatch, which rebuilds the last segment by hand (`Closed.prevMatch`).
`Inv` (Session/InvProc.lean) and `GeoInv` (Session/GeoProc.lean) are such predicates.
-/
namespace RimeModel.Session
open Ctx

/-- `g'` is `g` with another selected index, status or tags -/
structure Reselect (g g' : Seg) : Prop where
  start : g'.start = g.start := by rfl
  stop : g'.stop = g.stop := by rfl
  menu : g'.menu = g.menu := by rfl
  sel : SelOK g → SelOK g'

/-- `P` depends only on the raw input, the caret and the composition's input and segments, and the mutators of the
context (context.cc) and the engine's reactions to its notifiers (recomposition, OnSelect) preserve it -/
structure CtxClosed (env : Env) (P : Ctx → Prop) : Prop where
  frame : ∀ {c c' : Ctx}, P c → c'.input = c.input → c'.caret = c.caret → c'.comp.input = c.comp.input →
    c'.comp.segs = c.comp.segs → P c'
  reselect : ∀ {c : Ctx} {g : Seg} {f : Seg → Seg}, P c → c.comp.segs.getLast? = some g → Reselect g (f g) →
    P (c.modLastSeg f)
  /-- Segment::Close on the last segment, whatever status it is given afterwards -/
  closeLast : ∀ {c : Ctx} {g : Seg}, P c → c.comp.segs.getLast? = some g → ∀ s,
    P (c.modLastSeg fun _ => { g.close with status := s })
  forward : ∀ {c : Ctx}, P c → P (c.modComp fun k => k.forward.1)
  update : ∀ {c}, P c → P (Ctx.update env c)
  /-- the mutators of the input and the caret: an edit that leaves the caret within the input if it was, then the
  recomposition -/
  edit : ∀ {c : Ctx} {i : Bytes} {k : Nat}, P c → (c.caret ≤ c.input.length → k ≤ i.length) →
    P (Ctx.update env { c with input := i, caret := k })
  clear : ∀ c, P (Ctx.clear env c)
  beginEditing : ∀ {c}, P c → P c.beginEditing
  reopenPreviousSegment : ∀ {c}, P c → P (Ctx.reopenPreviousSegment env c).1
  reopenPreviousSelection : ∀ {c}, P c → P (Ctx.reopenPreviousSelection env c).1
  clearNonConfirmedComposition : ∀ {c}, P c → P (Ctx.clearNonConfirmedComposition c).1

/-- `CtxClosed`, and `P` survives Speller::AutoSelectPreviousMatch where the speller calls it: on the state with the
key added, with the copy of the last segment taken before -/
structure Closed (env : Env) (P : Ctx → Prop) : Prop extends CtxClosed env P where
  prevMatch : ∀ {c}, P c → ∀ ch,
    P (autoSelectPreviousMatch env (spellerPrev env c) (Ctx.pushInput env c ch).beginEditing).1

variable {env : Env} {P : Ctx → Prop}

theorem prepare_eq_min {g : Seg} {l : List Cand} (hl : g.menu = some l) (n : Nat) : g.prepare n = min n l.length := by
  unfold Seg.prepare; rw [hl]

theorem prepare_le_length {g : Seg} {l : List Cand} (hl : g.menu = some l) (n : Nat) : g.prepare n ≤ l.length := by
  rw [prepare_eq_min hl]
  exact Nat.min_le_right _ _

theorem candAt_some_lt {g : Seg} {i : Nat} {cd : Cand} (h : g.candAt i = some cd) :
    ∀ l, g.menu = some l → l ≠ [] → i < l.length := by
  intro l hl _
  unfold Seg.candAt at h
  rw [hl] at h
  exact (List.getElem?_eq_some_iff.mp h).1

theorem Ctx.setOptionRaw_segs (c : Ctx) (name : String) (v : Bool) : (c.setOptionRaw name v).comp.segs = c.comp.segs := by
  unfold Ctx.setOptionRaw
  dsimp only
  split <;> rfl

theorem Ctx.setOptionRaw_cinput (c : Ctx) (name : String) (v : Bool) : (c.setOptionRaw name v).comp.input = c.comp.input := by
  unfold Ctx.setOptionRaw
  dsimp only
  split <;> rfl

namespace CtxClosed

theorem same (hP : CtxClosed env P) {c c' : Ctx} (h : P c) (h1 : c'.input = c.input := by rfl)
    (h2 : c'.caret = c.caret := by rfl) (h3 : c'.comp = c.comp := by rfl) : P c' :=
  hP.frame h h1 h2 (by rw [h3]) (by rw [h3])

theorem commit (hP : CtxClosed env P) {c : Ctx} (h : P c) : P (Ctx.commit env c).1 :=
  fst_ite h (hP.clear _)

theorem pushInput (hP : CtxClosed env P) {c : Ctx} (h : P c) (ch : UInt8) : P (Ctx.pushInput env c ch) := by
  refine ite_closed (hP.edit h fun _ => ?_) (hP.edit h fun hc => ?_)
  · rw [List.length_append]
    exact Nat.le_refl _
  · rw [List.length_append, List.length_take, Nat.min_eq_left hc, List.length_cons]
    exact Nat.add_le_add_left (Nat.le_add_left _ _) _

theorem popInput (hP : CtxClosed env P) {c : Ctx} (h : P c) (len : Nat) : P (Ctx.popInput env c len).1 := by
  refine fst_ite h (hP.edit h fun hc => ?_)
  rw [List.length_append, List.length_take, Nat.min_eq_left (Nat.le_trans (Nat.sub_le _ _) hc)]
  exact Nat.le_add_right _ _

theorem deleteInput (hP : CtxClosed env P) {c : Ctx} (h : P c) (len : Nat) : P (Ctx.deleteInput env c len).1 := by
  refine fst_ite h (hP.edit h fun hc => ?_)
  rw [List.length_append, List.length_take, Nat.min_eq_left hc]
  exact Nat.le_add_right _ _

theorem setCaretPos (hP : CtxClosed env P) {c : Ctx} (h : P c) (p : Nat) : P (Ctx.setCaretPos env c p) :=
  hP.edit h fun _ => ite_cases (· ≤ c.input.length) (fun _ => Nat.le_refl _) (fun hp => Nat.le_of_not_lt hp)

theorem setInput (hP : CtxClosed env P) {c : Ctx} (h : P c) (v : Bytes) : P (Ctx.setInput env c v) :=
  hP.edit h fun _ => Nat.le_refl _

theorem onSelect (hP : CtxClosed env P) {c : Ctx} (h : P c) : P (Ctx.onSelect env c) := by
  unfold Ctx.onSelect
  split
  · exact h
  · rename_i g0 hg0
    extract_lets g c1 reached c2
    have h1 : P c1 := hP.closeLast h hg0 _
    have h2 : P c2 := hP.forward (hP.closeLast h hg0 g.status)
    exact ite_closed (ite_closed (hP.commit h1) (hP.forward h1)) (ite_closed (hP.setCaretPos h2 _) (hP.update h2))

theorem clearPreviousSegment (hP : CtxClosed env P) {c : Ctx} (h : P c) :
    P (Ctx.clearPreviousSegment env c).1 := by
  unfold Ctx.clearPreviousSegment
  split
  · exact h
  · exact fst_ite h (hP.setInput h _)

theorem deleteCandidate (hP : CtxClosed env P) {c : Ctx} (h : P c) (i : Nat) :
    P (Ctx.deleteCandidate env c i).1 := by
  unfold Ctx.deleteCandidate
  split
  · exact h
  · rename_i g hg
    split
    · rename_i cd hcd
      exact hP.reselect h hg { sel := fun _ => candAt_some_lt hcd }
    · exact h

theorem select (hP : CtxClosed env P) {c : Ctx} (h : P c) (i : Nat) : P (Ctx.select env c i).1 := by
  unfold Ctx.select
  split
  · exact h
  · rename_i g hg
    split
    · rename_i cd hcd
      have h1 : P (c.modLastSeg fun g => { g with selIdx := i, status := .selected }) :=
        hP.reselect h hg { sel := fun _ => candAt_some_lt hcd }
      exact hP.same (hP.onSelect h1)
    · exact h

theorem highlight (hP : CtxClosed env P) {c : Ctx} (h : P c) (i : Nat) : P (Ctx.highlight env c i).1 := by
  unfold Ctx.highlight
  split
  · exact h
  · rename_i g hg
    refine fst_ite h ?_
    extract_lets count newIndex
    refine fst_ite h (hP.update (hP.reselect h hg { sel := fun _ l hl hne => ?_ }))
    have hle : count ≤ l.length := prepare_le_length hl _
    exact ite_cases (· < l.length)
      (fun hc => Nat.lt_of_le_of_lt (Nat.min_le_left _ _) (Nat.lt_of_lt_of_le (Nat.sub_lt hc Nat.one_pos) hle))
      (fun _ => List.length_pos_iff.mpr hne)

theorem confirmCurrentSelection (hP : CtxClosed env P) {c : Ctx} (h : P c) :
    P (Ctx.confirmCurrentSelection env c).1 := by
  unfold Ctx.confirmCurrentSelection
  split
  · exact h
  · rename_i g hg
    have h1 : P (c.modLastSeg fun g => { g with status := .selected }) := hP.reselect h hg { sel := id }
    have h2 : P { Ctx.onSelect env (c.modLastSeg fun g => { g with status := .selected }) with navSpans := [] } :=
      hP.same (hP.onSelect h1)
    split
    · exact h2
    · exact fst_ite h1 h2

theorem refreshNonConfirmedComposition (hP : CtxClosed env P) {c : Ctx} (h : P c) :
    P (Ctx.refreshNonConfirmedComposition env c).1 := by
  unfold Ctx.refreshNonConfirmedComposition
  have h1 := hP.clearNonConfirmedComposition h
  generalize Ctx.clearNonConfirmedComposition c = p at h1
  exact fst_ite (hP.update h1) h

theorem setOptionRaw (hP : CtxClosed env P) {c : Ctx} (h : P c) (n : String) (v : Bool) : P (c.setOptionRaw n v) :=
  hP.frame h rfl rfl (Ctx.setOptionRaw_cinput c n v) (Ctx.setOptionRaw_segs c n v)

theorem setOption (hP : CtxClosed env P) {c : Ctx} (h : P c) (n : String) (v : Bool) :
    P (Ctx.setOption env c n v) :=
  ite_closed (hP.refreshNonConfirmedComposition (hP.setOptionRaw h n v)) (hP.setOptionRaw h n v)

end CtxClosed

theorem kbpAccept_closed {α : Type} (km : Keymap α) (act : α → Ctx → Ctx × Bool)
    (hact : ∀ a c, P c → P (act a c).1) (code : Int) (mask : Nat) {c : Ctx} (h : P c) :
    P (kbpAccept km act code mask c).1 := by
  unfold kbpAccept
  split
  · exact hact _ _ h
  · exact h

/-- KeyBindingProcessor::ProcessKeyEvent runs its action interpreter at most three times in a row -/
theorem kbpProcess_closed {α : Type} (km : Keymap α) (act : α → Ctx → Ctx × Bool)
    (hact : ∀ a c, P c → P (act a c).1) (sac ish : Bool) (k : Key) {c : Ctx} (h : P c) :
    P (kbpProcess km act sac ish k c).1 := by
  have hA : ∀ (b : Bool) code mask (r : Ctx × Bool), P r.1 →
      P (if b then kbpAccept km act code mask r.1 else (r.1, false)).1 :=
    fun b code mask r hr => fst_ite (kbpAccept_closed km act hact code mask hr) hr
  unfold kbpProcess
  extract_lets r1 r2 r3
  have h1 : P r1.1 := kbpAccept_closed km act hact _ _ h
  have h2 : P r2.1 := hA _ _ _ r1 h1
  have h3 : P r3.1 := hA _ _ _ r2 h2
  exact fst_ite h1 (fst_ite h1 (fst_ite (fst_ite h2 (fst_ite h3 h3)) h1))

theorem orElse_closed {r : Ctx × Bool} {f : Ctx → Ctx × Bool} (hr : P r.1) (hf : ∀ c, P c → P (f c).1) :
    P (orElse r f).1 :=
  fst_ite hr (hf _ hr)

theorem spellerAutoClear_closed (hP : CtxClosed env P) {c : Ctx} (h : P c) : P (spellerAutoClear env c).1 :=
  fst_ite (hP.clear _) h

theorem autoSelectAtMaxCodeLength_closed (hP : CtxClosed env P) {c : Ctx} (h : P c) :
    P (autoSelectAtMaxCodeLength env c).1 := by
  unfold autoSelectAtMaxCodeLength
  refine fst_ite h (fst_ite h ?_)
  split
  · exact fst_ite (hP.confirmCurrentSelection h) h
  · exact h

theorem autoSelectUniqueCandidate_closed (hP : CtxClosed env P) {c : Ctx} (h : P c) :
    P (autoSelectUniqueCandidate env c).1 := by
  unfold autoSelectUniqueCandidate
  refine fst_ite h (fst_ite h ?_)
  split
  · exact h
  · refine fst_ite h ?_
    split
    · exact h
    · exact fst_ite (hP.confirmCurrentSelection h) h

theorem spellerPre_closed (hP : CtxClosed env P) (b : Bool) {c : Ctx} (h : P c) : P (spellerPre env b c) := by
  unfold spellerPre
  extract_lets r
  have hr : P r.1 := fst_ite (autoSelectAtMaxCodeLength_closed hP h) h
  exact ite_closed hr (ite_closed (spellerAutoClear_closed hP hr) hr)

theorem femGo_closed (hP : CtxClosed env P) (k : Nat → Nat → Ctx → Ctx × Bool)
    (hk : ∀ s e c, P c → P (k s e c).1) (input : Bytes) (es : List Nat) {c : Ctx} (h : P c) :
    P (femGo env k input es c).1 := by
  induction es generalizing c with
  | nil => exact hP.setInput h _
  | cons e es ih =>
    unfold femGo
    extract_lets c1
    have h1 : P c1 := hP.setInput h _
    refine fst_ite (hP.setInput h1 _) ?_
    split
    · exact ih h1
    · have hs : P (femSelect env input e c1).1 :=
        fst_ite (hP.setInput (hP.commit h1) _) (hP.setInput (hP.confirmCurrentSelection h1) _)
      exact fst_ite (ite_closed (hk _ _ _ hs) hs) (ih h1)

/-- Speller::FindEarlierMatch only uses `set_input`, ConfirmCurrentSelection and Commit -/
theorem findEarlierMatch_closed (hP : CtxClosed env P) (fuel s e : Nat) (c : Ctx) (h : P c) :
    P (findEarlierMatch env fuel s e c).1 := by
  induction fuel generalizing s e c with
  | zero => exact h
  | succ fuel ih =>
    unfold findEarlierMatch
    exact fst_ite h (femGo_closed hP _ ih _ _ h)

/-- Speller::AutoSelectPreviousMatch: besides FindEarlierMatch, only the reuse of the saved segment, under the
conditions the function tests before it -/
theorem autoSelectPreviousMatch_closed (hP : CtxClosed env P) {prev : Option Seg} {c : Ctx} (h : P c)
    (hreuse : ∀ p, prev = some p → env.autoSelect = true → env.maxCodeLength = 0 → p.menu.isNone = false →
      c.hasMenu = false → prevSelectable env p c.input = true → P (reusePreviousMatch env p c)) :
    P (autoSelectPreviousMatch env prev c).1 := by
  unfold autoSelectPreviousMatch
  refine fst_ite_dep (fun _ => h) fun hauto => fst_ite_dep (fun _ => h) fun hmax => fst_ite_dep (fun _ => h) fun hmenu => ?_
  split
  · exact h
  · rename_i p
    refine fst_ite_dep (fun _ => h) fun hnone => fst_ite_dep (fun hps => ?_) fun _ => findEarlierMatch_closed hP _ _ _ _ h
    exact hreuse p rfl (Bool.of_not_eq_false fun hf => hauto (by rw [hf]; rfl)) (Nat.eq_zero_of_not_pos hmax)
      (Bool.eq_false_iff.mpr hnone) (Bool.eq_false_iff.mpr hmenu) hps

theorem spellerProcess_closed (hP : CtxClosed env P) (k : Key) {c : Ctx} (h : P c)
    (hprev : P (spellerPre env (env.initials.contains k.byte) c) →
      P (autoSelectPreviousMatch env (spellerPrev env (spellerPre env (env.initials.contains k.byte) c))
        (Ctx.pushInput env (spellerPre env (env.initials.contains k.byte) c) k.byte).beginEditing).1) :
    P (spellerProcess env k c).1 := by
  unfold spellerProcess
  refine fst_ite h (fst_ite h ?_)
  extract_lets ch isInitial
  refine fst_ite h (fst_ite h ?_)
  have hp := hprev (spellerPre_closed hP _ h)
  have hu := autoSelectUniqueCandidate_closed hP hp
  exact fst_ite h (fst_ite (hP.popInput hp _) (ite_closed hu (ite_closed (spellerAutoClear_closed hP hu) hu)))

theorem selOK_idx_le {g : Seg} (h : SelOK g) {i : Nat} (hi : i ≤ g.selIdx) : SelOK { g with selIdx := i } :=
  fun l hl hne => Nat.lt_of_le_of_lt hi (h l hl hne)

theorem selOK_idx_zero (g : Seg) : SelOK { g with selIdx := 0 } := by
  intro l _ hne
  exact List.length_pos_iff.mpr hne

theorem selOK_tagPaging {g : Seg} (h : SelOK g) : SelOK (tagPaging g) := h

theorem selectorAct_closed (hP : CtxClosed env P) (a : SelAct) {c : Ctx} (h : P c) : P (selectorAct env a c).1 := by
  unfold selectorAct
  split
  · exact h
  · rename_i g hg
    cases a with
    | previousPage =>
      refine hP.reselect h hg { sel := fun hgo => selOK_tagPaging (selOK_idx_le hgo ?_) }
      exact ite_cases (· ≤ g.selIdx) (fun _ => Nat.zero_le _) (fun _ => Nat.sub_le _ _)
    | nextPage =>
      refine fst_ite h ?_
      extract_lets index pageStart count
      refine fst_ite_dep (fun _ => fst_ite (hP.reselect h hg { sel := fun _ => selOK_idx_zero g }) h) fun hcount => ?_
      refine hP.reselect h hg { sel := fun _ l hl _ => ?_ }
      have hle : count ≤ l.length := prepare_le_length hl _
      have hpos : 0 < count := Nat.zero_lt_of_lt (Nat.lt_of_not_le hcount)
      exact ite_cases (· < l.length) (fun _ => Nat.lt_of_lt_of_le (Nat.sub_lt hpos Nat.one_pos) hle)
        (fun hlt => Nat.lt_of_lt_of_le (Nat.lt_of_not_le hlt) hle)
    | previousCandidate =>
      refine fst_ite h ?_
      split
      · exact h
      · exact hP.reselect h hg { sel := fun hgo => selOK_idx_le hgo (Nat.sub_le _ _) }
    | nextCandidate =>
      refine fst_ite h (fst_ite h ?_)
      extract_lets index
      refine fst_ite_dep (fun _ => h) fun hprep => ?_
      refine hP.reselect h hg { sel := fun _ l hl _ => ?_ }
      exact Nat.lt_of_lt_of_le (Nat.lt_of_not_le hprep) (prepare_le_length hl _)
    | home => exact fst_ite (hP.reselect h hg { sel := fun _ => selOK_idx_zero g }) h
    | end_ => exact fst_ite h (fst_ite (hP.reselect h hg { sel := fun _ => selOK_idx_zero g }) h)

theorem selectCandidateAt_closed (hP : CtxClosed env P) (i : Nat) {c : Ctx} (h : P c) :
    P (selectCandidateAt env c i) := by
  unfold selectCandidateAt
  split
  · exact h
  · exact ite_closed h (hP.select h _)

theorem selectorProcess_closed (hP : CtxClosed env P) (k : Key) {c : Ctx} (h : P c) :
    P (selectorProcess env k c).1 := by
  unfold selectorProcess
  refine fst_ite h ?_
  split
  · exact h
  · refine fst_ite h ?_
    extract_lets r index
    have hr : P r.1 := kbpProcess_closed _ _ (fun a _ hc => selectorAct_closed hP a hc) _ _ k h
    refine fst_ite hr ?_
    cases index
    · exact hr
    · exact selectCandidateAt_closed hP _ hr

/-- the navigator's moves only call `set_caret_pos`, after BeginEditing -/
theorem navigatorAct_closed (hP : CtxClosed env P) (a : NavAct) {c : Ctx} (h : P c) :
    P (navigatorAct env a c).1 := by
  have hb : P (navBeginMove c) := ite_closed (hP.same (hP.beginEditing h)) (hP.beginEditing h)
  have hend : ∀ c, P c → P (navGoToEnd env c).1 := fun _ hc => fst_ite (hP.setCaretPos hc _) hc
  have hhome : ∀ c, P c → P (navGoHome env c).1 := fun _ hc =>
    fst_ite (hP.setCaretPos hc _) (fst_ite (hP.setCaretPos hc _) hc)
  have hleft : P (navMoveLeft env (navBeginMove c)).1 := fst_ite hb (hP.setCaretPos hb _)
  have hjump : ∀ s, P (navJumpLeft env (navBeginMove c) s).1 := fun _ => fst_ite (hP.setCaretPos hb _) hb
  unfold navigatorAct
  cases a <;> dsimp only
  case rewind => exact orElse_closed (fst_ite (hjump _) hleft) hend
  case leftByChar => exact orElse_closed hleft hend
  case rightByChar => exact orElse_closed (fst_ite hb (hP.setCaretPos hb _)) hhome
  case leftBySyllable => exact orElse_closed (hjump _) hend
  case rightBySyllable => exact orElse_closed (fst_ite (hP.setCaretPos hb _) hb) hend
  case home => exact hhome _ hb
  case end_ => exact hend _ hb

theorem navigatorProcess_closed (hP : CtxClosed env P) (k : Key) {c : Ctx} (h : P c) :
    P (navigatorProcess env k c).1 :=
  fst_ite h (fst_ite h (kbpProcess_closed _ _ (fun a _ hc => navigatorAct_closed hP a hc) _ _ k h))

theorem editorAct_closed (hP : CtxClosed env P) (a : EditorAct) {c : Ctx} (h : P c) : P (editorAct env a c).1 := by
  unfold editorAct
  have hrevert : P (orElse (reopenPreviousSelection env c) (popThenReopen env)).1 :=
    orElse_closed (hP.reopenPreviousSelection h)
      (fun _ hc => fst_ite (hP.reopenPreviousSegment (hP.popInput hc _)) (hP.popInput hc _))
  cases a with
  | confirm => exact orElse_closed (hP.confirmCurrentSelection h) (fun _ hc => hP.commit hc)
  | toggleSelection => exact orElse_closed (hP.reopenPreviousSegment h) (fun _ hc => hP.confirmCurrentSelection hc)
  | commitComment =>
    dsimp only
    split
    · exact fst_ite (hP.clear _) h
    · exact h
  | commitRawInput => exact hP.commit (hP.clearNonConfirmedComposition h)
  | commitScriptText => exact hP.clear _
  | commitComposition => exact fst_ite (hP.commit (hP.confirmCurrentSelection h)) (hP.confirmCurrentSelection h)
  | revertLastEdit => exact hrevert
  | backToPreviousInput =>
    exact orElse_closed (orElse_closed (hP.reopenPreviousSegment h) (fun _ hc => hP.reopenPreviousSelection hc))
      (fun _ hc => hP.popInput hc _)
  | backToPreviousSyllable => exact hrevert
  | deleteCandidate =>
    dsimp only
    split
    · exact hP.deleteCandidate h _
    · exact h
  | deleteChar => exact hP.deleteInput h _
  | cancelComposition => exact fst_ite (hP.clearPreviousSegment h) (hP.clear _)

theorem editorProcess_closed (hP : CtxClosed env P) (fluid : Bool) (k : Key) {c : Ctx} (h : P c) :
    P (editorProcess env fluid k c).1 := by
  unfold editorProcess
  refine fst_ite h ?_
  extract_lets km handler r
  have hr : P r.1 := fst_ite (kbpProcess_closed km _ (fun a _ hc => editorAct_closed hP a hc) _ _ k h) h
  refine fst_ite hr (fst_ite ?_ hr)
  cases handler with
  | directCommit => exact hP.commit hr
  | addToInput => exact hP.beginEditing (hP.pushInput hr _)
  | none => exact hr

theorem alternatePunct_closed (hP : CtxClosed env P) (key : UInt8) (d : PunctDef) {c : Ctx} (h : P c) :
    P (alternatePunct c key d).1 := by
  unfold alternatePunct
  split
  · split
    · exact h
    · rename_i g hg
      refine fst_ite ?_ h
      split
      · exact h
      · rename_i l hl
        refine fst_ite h (hP.reselect h hg { sel := fun _ l' hl' _ => ?_ })
        have hl'' : g.menu = some l' := hl'
        rw [hl] at hl''
        cases hl''
        exact Nat.mod_lt _ (List.length_pos_iff.mpr ‹_›)
  · exact h

theorem pairPunct_closed (hP : CtxClosed env P) (k : Bool × UInt8) {c : Ctx} (h : P c) : P (pairPunct env k c) := by
  unfold pairPunct
  split
  · exact h
  · rename_i g hg
    refine ite_closed ?_ h
    split
    · exact h
    · rename_i hprep
      extract_lets odd c1
      have h1 : P c1 := by
        refine hP.reselect h hg { sel := fun _ l hl _ => ?_ }
        exact Nat.lt_of_lt_of_le (Nat.mod_lt _ Nat.two_pos)
          (Nat.le_trans (Nat.le_of_not_lt hprep) (prepare_le_length hl 2))
      exact hP.confirmCurrentSelection (hP.same h1)

theorem punctFinish_closed (hP : CtxClosed env P) (k : Bool × UInt8) (d : PunctDef) {c : Ctx} (h : P c) :
    P (punctFinish env k d c) := by
  unfold punctFinish
  cases d with
  | unique _ => exact hP.confirmCurrentSelection h
  | alt _ => exact h
  | commit _ => exact hP.commit h
  | pair _ _ => exact pairPunct_closed hP k h

theorem punctProcess_closed (hP : CtxClosed env P) (k : Key) {c : Ctx} (h : P c) : P (punctProcess env k c).1 := by
  unfold punctProcess
  refine fst_ite h (fst_ite h (fst_ite h (fst_ite h ?_)))
  extract_lets shape
  split
  · exact h
  · rename_i d _
    extract_lets r c1
    have hr : P r.1 := alternatePunct_closed hP _ d h
    have h1 : P c1 := hP.pushInput hr _
    exact fst_ite hr (fst_ite (punctFinish_closed hP _ d h1) h1)

theorem acSwitch_closed (hP : CtxClosed env P) (m : Bool) (st : AcStyle) {c : Ctx} (h : P c) :
    P (acSwitch env m st c) := by
  unfold acSwitch
  refine hP.setOption (ite_closed ?_ h) _ _
  have h0 : P { c with acInline := false } := hP.same h
  cases st with
  | inline => exact ite_closed (hP.same h) h0
  | commitText => exact hP.confirmCurrentSelection h0
  | commitCode => exact hP.commit (hP.clearNonConfirmedComposition h0)
  | clear => exact hP.clear _

theorem acToggleWithKey_closed (hP : CtxClosed env P) (code : Int) {c : Ctx} (h : P c) :
    P (acToggleWithKey env code c) := by
  unfold acToggleWithKey
  split
  · exact h
  · exact hP.same (acSwitch_closed hP _ _ h)

theorem acCapsLock_closed (hP : CtxClosed env P) (st : AcStyle) (k : Key) {c : Ctx} (h : P c) :
    P (acCapsLock env st k c).1 :=
  have h1 : P (acUnpress c) := hP.same h
  fst_ite (fst_ite (fst_ite h1 (acSwitch_closed hP _ _ (hP.same h1))) h) (fst_ite (fst_ite (hP.same h) h) h)

theorem acModifierKey_closed (hP : CtxClosed env P) (b : Bool) (k : Key) {c : Ctx} (h : P c) :
    P (acModifierKey env b k c).1 :=
  fst_ite (fst_ite (hP.same (ite_closed (acToggleWithKey_closed hP _ h) h)) h) (fst_ite (hP.same h) h)

theorem acOtherKey_closed (hP : CtxClosed env P) (k : Key) {c : Ctx} (h : P c) : P (acOtherKey env k c).1 :=
  have h1 : P (acUnpress c) := hP.same h
  fst_ite h1 (fst_ite (fst_ite h1 (fst_ite (hP.pushInput h1 _) h1)) h1)

theorem asciiProcess_closed (hP : CtxClosed env P) (k : Key) {c : Ctx} (h : P c) : P (asciiProcess env k c).1 := by
  unfold asciiProcess
  refine fst_ite (hP.same h) ?_
  extract_lets r
  have hr : P r.1 := by
    unfold r acCapsStep
    split
    · exact acCapsLock_closed hP _ k h
    · exact h
  exact fst_ite hr (fst_ite (fst_ite (acToggleWithKey_closed hP _ (hP.same hr)) hr)
    (fst_ite (acModifierKey_closed hP _ k hr) (fst_ite (acModifierKey_closed hP _ k hr) (acOtherKey_closed hP k hr))))

theorem acSettle_closed (hP : CtxClosed env P) {c : Ctx} (h : P c) : P (acSettle c) :=
  ite_closed (hP.same (hP.setOptionRaw h "ascii_mode" false)) h

theorem recognizerProcess_closed (hP : CtxClosed env P) (k : Key) {c : Ctx} (h : P c) :
    P (recognizerProcess env k c).1 := by
  unfold recognizerProcess
  refine fst_ite h (fst_ite ?_ h)
  split
  · exact hP.pushInput h _
  · exact h

theorem shapePost_closed (hP : CtxClosed env P) (k : Key) {c : Ctx} (h : P c) : P (shapePost k c).1 :=
  fst_ite h (fst_ite h (fst_ite h (hP.same h)))

variable (P) in
theorem foldl_closed {α : Type} (f : Ctx → α → Ctx) (hf : ∀ c a, P c → P (f c a)) :
    ∀ (l : List α) {c : Ctx}, P c → P (l.foldl f c)
  | [], _, h => h
  | a :: l, _, h => foldl_closed f hf l (hf _ a h)

/-- the key binder's option actions only call `set_option`: this lemma and the three after it ask of `P` only that
`Ctx.setOption` keeps it, not `CtxClosed` -/
theorem radioSelect_closed (hset : ∀ c n v, P c → P (Ctx.setOption env c n v)) (group : List String) (idx : Nat)
    {c : Ctx} (h : P c) : P (radioSelect env group idx c) := by
  unfold radioSelect
  exact foldl_closed P _ (fun _ _ hc => ite_closed (hset _ _ _ hc) hc) _ h

theorem kbToggle_closed (hset : ∀ c n v, P c → P (Ctx.setOption env c n v)) (opt : String) {c : Ctx} (h : P c) :
    P (kbToggle env opt c) := by
  unfold kbToggle
  split
  · refine ite_closed ?_ (hset _ _ _ h)
    extract_lets group
    split
    · exact radioSelect_closed hset _ _ h
    · exact ite_closed (radioSelect_closed hset _ _ h) h
  · exact hset _ _ _ h

theorem kbSet_closed (hset : ∀ c n v, P c → P (Ctx.setOption env c n v)) (opt : String) {c : Ctx} (h : P c) :
    P (kbSet env opt c) := by
  unfold kbSet
  split
  · exact ite_closed (radioSelect_closed hset _ _ h) (hset _ _ _ h)
  · exact hset _ _ _ h

theorem kbUnset_closed (hset : ∀ c n v, P c → P (Ctx.setOption env c n v)) (opt : String) {c : Ctx} (h : P c) :
    P (kbUnset env opt c) := by
  unfold kbUnset
  split
  · exact ite_closed (ite_closed (ite_closed h (radioSelect_closed hset _ _ h)) h) (hset _ _ _ h)
  · exact hset _ _ _ h

theorem kbReinterpret_closed (hP : CtxClosed env P) (k : Key) {c : Ctx} (h : P c) : P (kbReinterpret env k c).1 := by
  unfold kbReinterpret
  refine fst_ite h ?_
  extract_lets ch push c1
  refine fst_ite (hP.same h) ?_
  have h1 : P c1 := ite_closed (hP.pushInput h _) h
  exact hP.same h1

/-- the key binder's redirection keeps `P` whatever function plays the engine's ProcessKey, provided that function
keeps it -/
theorem kbPerform_closed (hP : CtxClosed env P) (reent : Key → Ctx → Ctx × Bool)
    (hre : ∀ k c, P c → P (reent k c).1) (a : KbAction) {c : Ctx} (h : P c) : P (kbPerform reent env a c) := by
  have hset : ∀ c n v, P c → P (Ctx.setOption env c n v) := fun _ _ _ hc => hP.setOption hc _ _
  unfold kbPerform
  cases a with
  | send keys => exact foldl_closed P _ (fun _ _ hc => hre _ _ hc) _ h
  | toggle o => exact kbToggle_closed hset o h
  | setOption o => exact kbSet_closed hset o h
  | unsetOption o => exact kbUnset_closed hset o h

theorem kbProcess_closed (hP : CtxClosed env P) (reent : Key → Ctx → Ctx × Bool)
    (hre : ∀ k c, P c → P (reent k c).1) (k : Key) {c : Ctx} (h : P c) : P (kbProcess reent env k c).1 := by
  unfold kbProcess
  refine fst_ite h ?_
  extract_lets r
  have h1 : P r.1 := kbReinterpret_closed hP k h
  refine fst_ite h1 ?_
  split
  · exact h1
  · exact kbPerform_closed hP reent hre _ h1

theorem procRunInner_closed (hP : Closed env P) (p : Proc) (k : Key) {c : Ctx} (h : P c) :
    P (procRunInner env p k c).1 := by
  unfold procRunInner
  cases p with
  | speller => exact spellerProcess_closed hP.toCtxClosed k h (fun h1 => hP.prevMatch h1 _)
  | selector => exact selectorProcess_closed hP.toCtxClosed k h
  | navigator => exact navigatorProcess_closed hP.toCtxClosed k h
  | expressEditor => exact editorProcess_closed hP.toCtxClosed false k h
  | fluidEditor => exact editorProcess_closed hP.toCtxClosed true k h
  | other => exact h
  | punctuator => exact punctProcess_closed hP.toCtxClosed k h
  | keyBinder => exact h
  | asciiComposer => exact asciiProcess_closed hP.toCtxClosed k h
  | recognizer => exact recognizerProcess_closed hP.toCtxClosed k h

theorem chainInner_closed (hP : Closed env P) (k : Key) (ps : List Proc) {c : Ctx} (h : P c) :
    P (chainInner env k ps c).1 := by
  induction ps generalizing c with
  | nil => exact h
  | cons p ps ih =>
    unfold chainInner
    have h1 := procRunInner_closed hP p k h
    extract_lets r
    split
    · exact h1
    · exact h1
    · exact ih h1

theorem processKeyNested_closed (hP : Closed env P) (k : Key) {c : Ctx} (h : P c) :
    P (processKeyNested env k c).1 := by
  have h1 := chainInner_closed hP k env.processors h
  exact acSettle_closed hP.toCtxClosed (fst_ite h1 (shapePost_closed hP.toCtxClosed _ h1))

theorem procRun_eq_inner {p : Proc} (hp : p ≠ .keyBinder) (k : Key) (c : Ctx) :
    procRun env p k c = procRunInner env p k c := by
  cases p <;> first | rfl | exact absurd rfl hp

theorem procRun_closed (hP : Closed env P) (p : Proc) (k : Key) {c : Ctx} (h : P c) : P (procRun env p k c).1 := by
  by_cases hp : p = .keyBinder
  · subst hp
    exact kbProcess_closed hP.toCtxClosed _ (fun k _ hc => processKeyNested_closed hP k hc) k h
  · rw [procRun_eq_inner hp]
    exact procRunInner_closed hP p k h

theorem chain_closed (hP : Closed env P) (k : Key) (ps : List Proc) {c : Ctx} (h : P c) : P (chain env k ps c).1 := by
  induction ps generalizing c with
  | nil => exact h
  | cons p ps ih =>
    unfold chain
    have h1 := procRun_closed hP p k h
    extract_lets r
    split
    · exact h1
    · exact h1
    · exact ih h1

variable (P) in
theorem onCurrentPage_closed {verb : Ctx → Nat → Ctx × Bool} (hv : ∀ c i, P c → P (verb c i).1)
    (i : Nat) {c : Ctx} (h : P c) : P (onCurrentPage env c i verb).1 := by
  unfold onCurrentPage
  refine fst_ite h (fst_ite h ?_)
  split
  · exact h
  · exact hv _ _ h

theorem apiStep_closed (hP : Closed env P) (op : Op) {c : Ctx} (h : P c) : P (apiStep env c op).1 := by
  have hC := hP.toCtxClosed
  unfold apiStep
  cases op with
  | key code mask => exact chain_closed hP _ _ h
  | select i => exact hC.select h _
  | selectOnPage i => exact onCurrentPage_closed P (fun _ i hc => hC.select hc i) _ h
  | highlight i => exact hC.highlight h _
  | highlightOnPage i => exact onCurrentPage_closed P (fun _ i hc => hC.highlight hc i) _ h
  | delete i => exact hC.deleteCandidate h _
  | deleteOnPage i => exact onCurrentPage_closed P (fun _ i hc => hC.deleteCandidate hc i) _ h
  | changePage backward =>
    dsimp only
    refine fst_ite h ?_
    split
    · exact h
    · rename_i g hg
      exact hC.highlight (hC.reselect h hg { sel := selOK_tagPaging }) _
  | setInput v => exact hC.setInput h _
  | setCaret p => exact hC.setCaretPos h _
  | setOption name v => exact hC.setOption h _ _
  | commitComposition => exact hC.commit h
  | clearComposition => exact hC.clear _
  | getCommit => exact fst_ite (hC.same h) h

theorem runOps_closed (hP : Closed env P) (ops : List Op) {c : Ctx} (h : P c) : P (runOps env c ops) :=
  foldl_closed P _ (fun _ op hc => apiStep_closed hP op hc) ops h

end RimeModel.Session
