import RimeModel.Session.GeoProc
/-!
`Speller::AutoSelectPreviousMatch` and the geometric invariant.

* `FindEarlierMatch` (`femSelect`, `femContinue`, `femGo`, `findEarlierMatch`) preserves `GeoInv`
  unconditionally: it only uses `set_input`, `ConfirmCurrentSelection` and `Commit`.
* The "reuse previous match" branch (`reusePreviousMatch`) pops the last segment and pushes back the copy of
  the last segment taken before the key was added.  It preserves `GeoInv` when the copy is *aligned*: it starts
  where the segments before the popped one end (`reusePreviousMatch_geo`).  Nothing in the C++ checks this,
  and it is false in general — see `Session/GeoPrevCx.lean` for machine-checked counterexamples.
-/
namespace RimeModel.Session
open Ctx
variable {env : Env}

theorem findEarlierMatch_geo (hrc : ComposeGeoSpec env.recompose) (fuel s e : Nat) (c : Ctx) (h : GeoInv c) :
    GeoInv (findEarlierMatch env fuel s e c).1 :=
  findEarlierMatch_closed (geo_ctxClosed hrc) fuel s e c h

/-- `ConcreteEngine::OnSelect` from a state that is only contiguous (the last end may lie beyond the composition's
input): when the closed segment does not end at the end of the raw input, OnSelect recomposes. -/
theorem onSelect_pre (hrc : ComposeGeoSpec env.recompose) {c : Ctx} (h : GeoPre c) {g0 : Seg}
    (hg0 : c.comp.segs.getLast? = some g0) (hne : g0.close.stop ≠ c.input.length) : GeoInv (onSelect env c) := by
  have hclose := segGeo_close (h.geo.getLast hg0)
  have h2 : GeoPre ((c.modLastSeg fun _ => g0.close).modComp fun k => k.forward.1) :=
    ⟨(forward_geo (modLastSeg_pre (f := fun _ => g0.close) h hg0 fun _ => ⟨hclose.1, hclose.2.1⟩).geo).1⟩
  unfold onSelect
  rw [hg0]
  exact ite_cases GeoInv (fun heq => absurd heq hne) (fun _ => ite_closed (update_geo hrc ⟨h2.geo⟩) (update_geo hrc h2))

/-- `Context::ConfirmCurrentSelection` from a state that is only contiguous, when the last segment has a selected
candidate and ends before the end of the raw input: the selection is followed by a recomposition -/
theorem confirmCurrentSelection_pre (hrc : ComposeGeoSpec env.recompose) {c : Ctx} (h : GeoPre c) {g : Seg}
    (hg : c.comp.segs.getLast? = some g) (hlt : g.stop < c.input.length) (hsel : g.selected ≠ none) :
    GeoInv (confirmCurrentSelection env c).1 := by
  have h1 : GeoPre (c.modLastSeg fun g => { g with status := .selected }) :=
    modLastSeg_pre h hg (fun hs => ⟨hs.same rfl rfl rfl, rfl⟩)
  have h2 : GeoInv (onSelect env (c.modLastSeg fun g => { g with status := .selected })) :=
    onSelect_pre hrc h1 (getLast?_modLast hg _) (Nat.ne_of_lt (Nat.lt_of_le_of_lt (close_fields _).2.2.2.1 hlt))
  unfold confirmCurrentSelection
  rw [hg]
  dsimp only
  split
  · exact h2.of_comp rfl
  · exact absurd ‹_› hsel

theorem replaceLastSeg_pre {c : Ctx} (h : GeoPre c) {p : Seg} (hp : SegGeo p)
    (hal : p.start = endOf c.comp.segs.dropLast) : GeoPre (c.replaceLastSeg p) :=
  ⟨(geoOK_snoc _ _).mpr ⟨h.geo.dropLast, hp, hal⟩⟩

/-- The reuse branch of AutoSelectPreviousMatch keeps the geometric invariant when the saved segment is
*aligned* with the new composition (`hal`) and ends before the end of the new raw input (`hlt`; true because
the saved segment lay within the raw input before the key was added).  The intermediate state may have its last
end beyond the composition's input; `ConfirmCurrentSelection` recomposes. -/
theorem reusePreviousMatch_geo (hrc : ComposeGeoSpec env.recompose) {c : Ctx} (h : GeoPre c) {p : Seg}
    (hp : SegGeo p) (hal : p.start = endOf c.comp.segs.dropLast) (hlt : p.stop < c.input.length)
    (hsel : p.selected ≠ none) : GeoInv (reusePreviousMatch env p c) := by
  unfold reusePreviousMatch
  have h2 : GeoInv (confirmCurrentSelection env (c.replaceLastSeg p)).1 :=
    confirmCurrentSelection_pre hrc (replaceLastSeg_pre h hp hal) List.getLast?_concat hlt hsel
  have hC := geo_ctxClosed hrc
  exact ite_closed (hC.setInput (hC.commit (hC.setInput h2 _)) _) h2

theorem selected_of_prevSelectable {p : Seg} {input : Bytes} (h : prevSelectable env p input = true) :
    p.selected ≠ none := by
  unfold prevSelectable at h
  split at h
  · rename_i cd hcd; rw [hcd]; exact fun h => by cases h
  · cases h

/-- when the reuse branch of AutoSelectPreviousMatch is taken with a saved segment `p` in state `c`
(the state after the key was added): the saved copy starts where the segments before the last one end -/
def ReuseAligned (env : Env) (prev : Option Seg) (c : Ctx) : Prop :=
  env.autoSelect = true → env.maxCodeLength = 0 →
  ∀ p, prev = some p → p.menu.isNone = false → c.hasMenu = false → prevSelectable env p c.input = true →
    p.start = endOf c.comp.segs.dropLast

/-- Speller::AutoSelectPreviousMatch keeps the geometric invariant whenever its reuse branch, if taken, is aligned -/
theorem autoSelectPreviousMatch_geo (hrc : ComposeGeoSpec env.recompose) {prev : Option Seg} {c : Ctx} (h : GeoInv c)
    (hp : ∀ p, prev = some p → SegGeo p ∧ p.stop < c.input.length) (hal : ReuseAligned env prev c) :
    GeoInv (autoSelectPreviousMatch env prev c).1 :=
  autoSelectPreviousMatch_closed (geo_ctxClosed hrc) h fun p hpp hauto hmax hnone hmenu hps =>
    reusePreviousMatch_geo hrc h.toGeoPre (hp p hpp).1 (hal hauto hmax p hpp hnone hmenu hps) (hp p hpp).2
      (selected_of_prevSelectable hps)

/-- a sufficient, locally checkable condition (and a repair for the C++: compare the two starts before reusing the
saved segment): the saved segment starts where the segment it replaces starts -/
theorem reuseAligned_of_same_start {prev : Option Seg} {c : Ctx} (h : GeoOK c.comp.segs)
    (hs : ∀ p, prev = some p → c.comp.segs ≠ [] ∧ p.start = c.comp.currentStart) : ReuseAligned env prev c := by
  intro _ _ p hp _ _ _
  have hne := (hs p hp).1
  have hst := (hs p hp).2
  rcases snoc_cases c.comp.segs with hnil | ⟨l, b, hl⟩
  · exact absurd hnil hne
  · have hcs : c.comp.currentStart = b.start := by
      unfold Comp.currentStart; rw [hl, List.getLast?_concat]
    rw [hl] at h
    rw [hst, hcs, hl, List.dropLast_concat]
    exact h.last_start

end RimeModel.Session
