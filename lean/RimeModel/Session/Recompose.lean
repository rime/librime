import RimeModel.Session.SegLoop
import RimeModel.Session.Commit
/-!
`composeR` (any list of ascii / matcher / abc / punct / affix / fallback segmentors, any search functions for the
patterns, any affix configurations, punct translator + oracle + filter) meets `ComposeSpec` and `ComposeEmptySpec` — the
session theorems (C02, C03) apply to schemas with the recognizer family — and, under `TranslateGeo` on the oracle and
`FilterSub` on the filter (a filter only removes or reorders candidates), `ComposeGeoSpec`; its segmentation loop does not
depend on the fuel (`composeR_fuel_adequate`).  `composeP` and `compose` are `composeR` with the segmentor lists abc, punct,
fallback and abc, fallback: they meet the specifications as instances.
-/
namespace RimeModel.Session

/-! ### after the loop: `Trim`, `Forward` -/

/-- what `Trim` and `Forward` keep, the steps between the loop and the translation keep -/
theorem trim_forward_keep {P : Comp → Prop} (hfwd : ∀ c, P c → P c.forward.1) (htrim : ∀ c, P c → P c.trim.1) {c : Comp}
    (h : P c) : P (forwardIfSelected (trimUnlessPlaceholder c)) := by
  have h1 : P (trimUnlessPlaceholder c) := by
    unfold trimUnlessPlaceholder
    split
    · exact ite_closed (htrim c h) h
    · exact h
  unfold forwardIfSelected
  split
  · exact ite_closed (hfwd _ h1) h1
  · exact h1

/-! ### `TranslateSegments` with the punct translator -/

/-- HYPOTHESIS on the translation oracle (the translators + filters of the schema, which are outside the
model): every candidate produced for a well-shaped segment (`start ≤ end`) ends at or after the segment's
start.  Real translators produce candidates with `start = segment.start < end ≤ segment.end`; only
`segment.start ≤ end` is needed here (it is what keeps `start ≤ end` when `Segment::Close` moves the
segment's end to the selected candidate's end). -/
def TranslateGeo (cfg : SegCfg) : Prop :=
  ∀ inp g, g.start ≤ g.stop → ∀ cd ∈ cfg.translate inp g, g.start ≤ cd.stop

/-- HYPOTHESIS on the schema's filters: every candidate they let through was produced by a translator -/
def FilterSub (f : List Cand → List Cand) : Prop := ∀ l, ∀ cd ∈ f l, cd ∈ l

theorem translateSegmentsP_ok (cfg : PSegCfg) {c : Comp} (h : SegsOK c.segs) :
    SegsOK (translateSegmentsP cfg c).segs := by
  intro g hg
  obtain ⟨g0, hg0, rfl⟩ := List.mem_map.mp hg
  split
  · exact h g0 hg0
  · exact fun l _ hne => List.length_pos_iff.mpr hne

/-- every candidate of the punct translator spans its segment -/
theorem punctTranslate_stop (m : List (UInt8 × PunctDef)) (inp : Bytes) (g : Seg) :
    ∀ cd ∈ punctTranslate m inp g, cd.stop = g.stop := by
  intro cd hcd
  unfold punctTranslate at hcd
  split at hcd
  · simp at hcd
  · split at hcd
    · split at hcd
      · rename_i d _
        unfold punctDefCands at hcd
        cases d <;> simp only [List.mem_cons, List.mem_map, List.mem_nil_iff, or_false] at hcd
        · rw [hcd]; rfl
        · obtain ⟨t, _, rfl⟩ := hcd; rfl
        · rw [hcd]; rfl
        · rcases hcd with rfl | rfl <;> rfl
      · simp at hcd
    · simp at hcd

/-- the merged, filtered candidate list of `composeP` meets the geometric requirement whenever the oracle does -/
theorem translateP_geo (cfg : PSegCfg) (htr : TranslateGeo cfg.toSegCfg) (hf : FilterSub cfg.filter) :
    ∀ inp g, g.start ≤ g.stop → ∀ cd ∈ translateP cfg inp g, g.start ≤ cd.stop := by
  intro inp g hg cd hcd
  unfold translateP at hcd
  rcases List.mem_append.mp (hf _ cd hcd) with h | h
  · rw [punctTranslate_stop _ _ _ cd h]; exact hg
  · exact htr inp g hg cd h

/-- changing the segments one by one, keeping their ends -/
theorem geoOK_map {f : Seg → Seg} (hf : ∀ g, (f g).start = g.start ∧ (f g).stop = g.stop ∧ (SegGeo g → SegGeo (f g))) :
    ∀ (l : List Seg), GeoOK l → GeoOK (l.map f) ∧ endOf (l.map f) = endOf l := by
  refine snoc_induction (fun h => ⟨h, rfl⟩) (fun l b ih h => ?_)
  rw [List.map_append, List.map_singleton, endOf_snoc, endOf_snoc, geoOK_snoc, (hf b).1, (ih h.init).2]
  exact ⟨⟨(ih h.init).1, (hf b).2.2 h.last, h.last_start⟩, (hf b).2.1⟩

/-- `TranslateSegments` changes only status, menu and selected index; the new menu's candidates end after the
segment's start -/
theorem translateSegmentsP_geo (cfg : PSegCfg) (htr : TranslateGeo cfg.toSegCfg) (hf : FilterSub cfg.filter) {c : Comp}
    (h : LoopInv c) : LoopInv (translateSegmentsP cfg c) := by
  have hm := geoOK_map (l := c.segs) (f := fun g => if g.status.rank ≥ Status.guess.rank then g else
      { g with status := .guess, menu := some (translateP cfg (substr c.input g.start (g.stop - g.start)) g), selIdx := 0 })
    (fun g => by
      split
      · exact ⟨rfl, rfl, id⟩
      · refine ⟨rfl, rfl, fun hg => ⟨hg.1, fun l hl cd hcd => ?_⟩⟩
        cases hl
        exact translateP_geo cfg htr hf _ g hg.1 cd hcd) h.1
  exact ⟨hm.1, Nat.le_trans (Nat.le_of_eq hm.2) h.2⟩

/-! ### `Compose` -/

/-- what `Forward`, `Trim`, every segmentor and the translation step keep, `Compose` establishes from what holds
after its `Reset`s -/
theorem composeR_keep {P : Comp → Prop} (cfg : RSegCfg) (hfwd : ∀ c, P c → P c.forward.1) (htrim : ∀ c, P c → P c.trim.1)
    (hsgm : ∀ s c, P c → P (sgmProceed cfg s c).1) (htr : ∀ c, P c → P (translateSegmentsP cfg.toPSegCfg c))
    {input : Bytes} {caret : Nat} {c : Comp} (h : P (resetStage input caret c)) : P (composeR cfg input caret c) :=
  htr _ (trim_forward_keep hfwd htrim
    (segLoopG_keep (fun _ hc => runSegmentors_keep cfg hsgm cfg.segmentors hc) hfwd caret _ h))

theorem composeR_keeps (cfg : RSegCfg) (input : Bytes) (caret : Nat) (c : Comp) :
    SegKeeps (resetStage input caret c) (composeR cfg input caret c) :=
  composeR_keep cfg (fun c h => h.trans (forward_keeps c)) (fun c h => h.trans ⟨trim_input c, trim_ok⟩)
    (fun s c h => h.trans (sgmProceed_keeps cfg s c)) (fun _ h => h.trans ⟨rfl, translateSegmentsP_ok _⟩) (.refl _)

/-- the Compose of a schema with the recognizer family satisfies the hypothesis of the session theorems, for every list
of segmentors, every pattern search function, every affix configuration, punctuation mapping, translation oracle and filter -/
theorem composeR_spec (cfg : RSegCfg) : ComposeSpec (composeR cfg) :=
  ⟨fun input caret _ h => (composeR_keeps cfg input caret _).2 (resetStage_ok h input caret),
    fun input caret c => by rw [(composeR_keeps cfg input caret c).1]; exact resetStage_input_le input caret c⟩

/-- recomposing an empty input with no segments yields no segments (what C03(c) needs) -/
theorem composeR_empty_spec (cfg : RSegCfg) : ComposeEmptySpec (composeR cfg) := by
  intro k hk
  have hr : (resetStage [] 0 k).segs = [] ∧ (resetStage [] 0 k).input = [] := by
    unfold resetStage Comp.reset
    simp [hk, popWhileEndGt]
  have hfin : (resetStage [] 0 k).hasFinishedSegmentation = true := by
    unfold Comp.hasFinishedSegmentation Comp.currentEnd
    rw [hr.1, hr.2]; rfl
  have hnil : ∀ c : Comp, c.segs = [] → forwardIfSelected (trimUnlessPlaceholder c) = c := by
    intro c hc
    unfold trimUnlessPlaceholder forwardIfSelected
    simp only [hc, List.getLast?_nil]
  show (translateSegmentsP _ (forwardIfSelected (trimUnlessPlaceholder (segLoopG _ 0 _ (resetStage [] 0 k))))).segs = []
  rw [segLoopG_finished _ _ hfin, hnil _ hr.1]
  show List.map _ (resetStage [] 0 k).segs = []
  rw [hr.1]; rfl

theorem composeR_loopInv (cfg : RSegCfg) (htr : TranslateGeo cfg.toSegCfg) (hf : FilterSub cfg.filter) {c : Comp}
    (h : GeoOK c.segs) (input : Bytes) (caret : Nat) : LoopInv (composeR cfg input caret c) :=
  composeR_keep (P := LoopInv) cfg (fun _ => forward_loopInv) (fun _ => trim_loopInv) (fun s c hc => (sgmProceed_geo cfg s c hc).1)
    (fun _ => translateSegmentsP_geo cfg.toPSegCfg htr hf) (resetStage_geo h input caret)

/-- the Compose with the recognizer family satisfies the hypothesis of the geometric session theorems, for every list of
segmentors, pattern search functions and affix configurations, every oracle whose candidates end after their segment's
start and every filter that only removes or reorders candidates -/
theorem composeR_geo_spec (cfg : RSegCfg) (htr : TranslateGeo cfg.toSegCfg) (hf : FilterSub cfg.filter) :
    ComposeGeoSpec (composeR cfg) :=
  ⟨fun input caret _ h => (composeR_loopInv cfg htr hf h input caret).1,
   fun input caret _ h => (composeR_loopInv cfg htr hf h input caret).bounded⟩

/-- the fuel `|input| + 2` that `calculateSegmentationR` passes is adequate for every composition `composeR` hands to the
loop: more fuel gives the same segmentation -/
theorem composeR_fuel_adequate (cfg : RSegCfg) (input : Bytes) (caret : Nat) {c : Comp} (h : GeoOK c.segs) (k : Nat) :
    let c2 := resetStage input caret c
    segLoopG (segStepR cfg) caret (c2.input.length + 2 + k) c2 = segLoopG (segStepR cfg) caret (c2.input.length + 2) c2 :=
  resetStage_fuel_adequate (segStepR_stepOK cfg) input caret h k

/-! ### the engines with a fixed list of segmentors -/

theorem punctTranslate_nil (inp : Bytes) (g : Seg) : punctTranslate [] inp g = [] := by
  unfold punctTranslate
  split
  · rfl
  · split
    · rfl
    · rfl

/-- without punctuation mapping and filters, the translation step is the one of `compose` -/
theorem translateSegments_eq (cfg : SegCfg) (c : Comp) :
    translateSegments cfg c = translateSegmentsP { toSegCfg := cfg } c := by
  unfold translateSegments translateSegmentsP translateP
  simp only [punctTranslate_nil, List.nil_append, id]

theorem composeP_eq_composeR (cfg : PSegCfg) :
    composeP cfg = composeR { toPSegCfg := cfg, segmentors := [.abc, .punct, .fallback] } := by
  funext input caret c
  unfold composeP composeR calculateSegmentationP calculateSegmentationR
  rw [segStepP_eq]

theorem compose_eq_composeR (cfg : SegCfg) :
    compose cfg = composeR { toSegCfg := cfg, segmentors := [.abc, .fallback] } := by
  funext input caret c
  unfold compose composeR calculateSegmentation calculateSegmentationR
  simp only [translateSegments_eq, segLoop_eq, segStep_eq]

/-- the Compose of a schema with punctuation components satisfies the hypothesis of the session theorems, for every
punctuation mapping, translation oracle, filter and alphabet configuration -/
theorem composeP_spec (cfg : PSegCfg) : ComposeSpec (composeP cfg) := by
  rw [composeP_eq_composeR]; exact composeR_spec _

theorem composeP_empty_spec (cfg : PSegCfg) : ComposeEmptySpec (composeP cfg) := by
  rw [composeP_eq_composeR]; exact composeR_empty_spec _

/-- the concrete Compose satisfies the hypothesis of the session theorems, for every translation
oracle and every alphabet configuration -/
theorem compose_spec (cfg : SegCfg) : ComposeSpec (compose cfg) := by
  rw [compose_eq_composeR]; exact composeR_spec _

theorem compose_empty_spec (cfg : SegCfg) : ComposeEmptySpec (compose cfg) := by
  rw [compose_eq_composeR]; exact composeR_empty_spec _

/-- the Compose with punctuation components satisfies the hypothesis of the geometric session theorems, for every
punctuation mapping and alphabet configuration, every oracle whose candidates end after their segment's start and
every filter that only removes or reorders candidates -/
theorem composeP_geo_spec (cfg : PSegCfg) (htr : TranslateGeo cfg.toSegCfg) (hf : FilterSub cfg.filter) :
    ComposeGeoSpec (composeP cfg) := by
  rw [composeP_eq_composeR]; exact composeR_geo_spec _ htr hf

/-- the concrete Compose satisfies the hypothesis of the geometric session theorems, for every alphabet
configuration and every translation oracle whose candidates end after their segment's start -/
theorem compose_geo_spec (cfg : SegCfg) (htr : TranslateGeo cfg) : ComposeGeoSpec (compose cfg) := by
  rw [compose_eq_composeR]; exact composeR_geo_spec _ htr (fun _ _ h => h)

/-- the fuel `|input| + 2` that `calculateSegmentationP` passes is adequate for every composition `composeP` hands to the loop -/
theorem composeP_fuel_adequate (cfg : PSegCfg) (input : Bytes) (caret : Nat) {c : Comp} (h : GeoOK c.segs) (k : Nat) :
    let c2 := resetStage input caret c
    segLoopG (segStepP cfg) caret (c2.input.length + 2 + k) c2 = segLoopG (segStepP cfg) caret (c2.input.length + 2) c2 :=
  resetStage_fuel_adequate (by rw [segStepP_eq]; exact segStepR_stepOK _) input caret h k

/-! ### the confirmed position — the `k` of GetMatch's `input.substr(k)` — lies within the segmentation
(the in-range statements for `input.substr(k)` and the affix segmentor's `substr(j, k - j)` are in Props/C01.lean) -/

theorem confirmedFold_le {bound : Nat} (l : List Seg) : ∀ (k : Nat), k ≤ bound → (∀ g ∈ l, g.stop ≤ bound) →
    l.foldl (fun k g => if g.status.rank ≥ Status.selected.rank then g.stop else k) k ≤ bound := by
  induction l with
  | nil => exact fun _ hk _ => hk
  | cons a rest ih =>
    exact fun _ hk h => ih _ (ite_closed (P := (· ≤ bound)) (h a List.mem_cons_self) hk)
      (fun g hg => h g (List.mem_cons_of_mem _ hg))

/-- the confirmed position lies within the segmentation -/
theorem confirmedPos_le_end {c : Comp} (h : GeoOK c.segs) : c.confirmedPos ≤ endOf c.segs :=
  confirmedFold_le c.segs 0 (Nat.zero_le _) h.stop_le_endOf

end RimeModel.Session
