import RimeModel.Session.GeoCtx
import RimeModel.Session.RecogCompose
/-!
The segmentors of `ConcreteEngine::CalculateSegmentation` — abc, punct, ascii, fallback, matcher, affix — and the
operations of `Segmentation` they are made of (`Reset`, `AddSegment`, `Forward`).  Each segmentor is described by what it
returns (`…_cases`, `AddsSeg`), and shown to keep two things.  `SegKeeps`: the input, and that no segment has a dangling
selected index.  `GeoKeeps`: the loop invariant `LoopInv` (contiguous segments that end within the input), without moving
the END of the segmentation to the left.  The second half is what the termination measure needs, and it is where the matcher
needs an argument: it pops segments, but only when `GetMatch` has found the match's start among the segment starts — then
the segment it adds is accepted and reaches the end of the input.  The affix segmentor re-tiles the last segment `[j, k)`
into prefix / code / suffix pieces that end at `k` again.
-/
namespace RimeModel.Session

theorem selOK_of_menu_none {g : Seg} (h : g.menu = none) : SelOK g := by
  intro l hl; rw [h] at hl; simp at hl

/-- what the segmentation loop maintains: contiguous segments that end within the input -/
def LoopInv (c : Comp) : Prop := GeoOK c.segs ∧ endOf c.segs ≤ c.input.length

theorem LoopInv.bounded {c : Comp} (h : LoopInv c) : Bounded c := (bounded_iff_end h.1).mpr h.2

/-- `c'` has the input of `c`, and no segment with a dangling selected index unless `c` has one: what every segmentor
does to the composition, whatever else it does -/
def SegKeeps (c c' : Comp) : Prop := c'.input = c.input ∧ (SegsOK c.segs → SegsOK c'.segs)

theorem SegKeeps.refl (c : Comp) : SegKeeps c c := ⟨rfl, id⟩

theorem SegKeeps.trans {a b c : Comp} (h1 : SegKeeps a b) (h2 : SegKeeps b c) : SegKeeps a c :=
  ⟨h2.1.trans h1.1, fun h => h2.2 (h1.2 h)⟩

theorem SegKeeps.segs (c : Comp) {l : List Seg} (h : SegsOK c.segs → SegsOK l) : SegKeeps c { c with segs := l } :=
  ⟨rfl, h⟩

/-- from `c` to `c'` the loop invariant is kept and the end of the segmentation does not move to the left: the other thing
every segmentor does -/
def GeoKeeps (c c' : Comp) : Prop := LoopInv c → LoopInv c' ∧ endOf c.segs ≤ endOf c'.segs

theorem GeoKeeps.refl (c : Comp) : GeoKeeps c c := fun h => ⟨h, Nat.le_refl _⟩

theorem GeoKeeps.trans {a b c : Comp} (h1 : GeoKeeps a b) (h2 : GeoKeeps b c) : GeoKeeps a c :=
  fun h => ⟨(h2 (h1 h).1).1, Nat.le_trans (h1 h).2 (h2 (h1 h).1).2⟩

/-! ### `Segmentation::Forward`, `Segmentation::Trim` -/

theorem forward_keeps (c : Comp) : SegKeeps c c.forward.1 := ⟨forward_input c, forward_ok⟩

theorem forward_loopInv {c : Comp} (h : LoopInv c) : LoopInv c.forward.1 := by
  have hf := forward_geo h.1
  exact ⟨hf.1, by rw [hf.2, forward_input]; exact h.2⟩

theorem trim_loopInv {c : Comp} (h : LoopInv c) : LoopInv c.trim.1 := by
  have ht := trim_geo h.1
  exact ⟨ht.1, by rw [trim_input]; exact Nat.le_trans ht.2 h.2⟩

theorem forward_currentStart (c : Comp) : c.forward.1.currentStart = endOf c.segs := by
  unfold Comp.forward
  split
  · rename_i hnone
    show c.currentStart = _
    unfold Comp.currentStart endOf
    rw [hnone]
  · rename_i b hb
    split
    · rename_i heq
      show c.currentStart = _
      rw [currentStart_of_getLast? hb, endOf_of_getLast? hb]; exact heq
    · show Comp.currentStart { c with segs := c.segs ++ [Seg.mk' b.stop b.stop] } = _
      rw [currentStart_snoc, endOf_of_getLast? hb]; rfl

/-! ### `Segmentation::Reset` -/

theorem popWhileEndGt_ok (pos : Nat) : ∀ {l : List Seg}, SegsOK l → SegsOK (popWhileEndGt pos l).1
  | [], h => by simpa [popWhileEndGt] using h
  | g :: rest, h => by
    have hr : SegsOK rest := fun x hx => h x (by simp [hx])
    unfold popWhileEndGt
    split
    · exact popWhileEndGt_ok pos hr
    · exact h

theorem reset_ok {c : Comp} (h : SegsOK c.segs) (ni : Bytes) : SegsOK (c.reset ni).segs := by
  unfold Comp.reset
  have hp := (popWhileEndGt_ok (commonPrefixLen c.input ni) h.reverse).reverse
  dsimp only
  split
  · exact forward_ok (c := { c with segs := _ }) hp
  · exact hp

theorem reset_input (c : Comp) (ni : Bytes) : (c.reset ni).input = ni := by
  unfold Comp.reset
  rfl

theorem commonPrefixLen_le_right : ∀ (a b : Bytes), commonPrefixLen a b ≤ b.length
  | [], _ => by simp [commonPrefixLen]
  | _ :: _, [] => by simp [commonPrefixLen]
  | x :: as, y :: bs => by
    unfold commonPrefixLen
    have := commonPrefixLen_le_right as bs
    split
    · exact Nat.succ_le_succ this
    · exact Nat.zero_le _

theorem popWhileEndGt_geo (pos : Nat) {r : List Seg} (h : RGeo r) :
    RGeo (popWhileEndGt pos r).1 ∧ rend (popWhileEndGt pos r).1 ≤ pos := by
  induction r with
  | nil => exact ⟨h, Nat.zero_le _⟩
  | cons g rest ih =>
    unfold popWhileEndGt
    split
    · exact ih h.tail
    · rename_i hle
      exact ⟨h, Nat.le_of_not_lt hle⟩

/-- `Reset(new_input)` keeps a contiguous prefix of the segments, all of which end within the common
prefix of the old and the new input — hence within the new input -/
theorem reset_geo {c : Comp} (h : GeoOK c.segs) (ni : Bytes) : LoopInv (c.reset ni) := by
  unfold Comp.reset
  have hp := popWhileEndGt_geo (commonPrefixLen c.input ni) ((geoOK_iff_rgeo _).mp h)
  have hle := commonPrefixLen_le_right c.input ni
  have hg : GeoOK (popWhileEndGt (commonPrefixLen c.input ni) c.segs.reverse).1.reverse :=
    (rgeo_iff_geoOK _).mp hp.1
  have he : endOf (popWhileEndGt (commonPrefixLen c.input ni) c.segs.reverse).1.reverse ≤ ni.length := by
    rw [endOf_reverse]; exact Nat.le_trans hp.2 hle
  dsimp only
  split
  · have hf := forward_geo (c := { c with segs := (popWhileEndGt (commonPrefixLen c.input ni) c.segs.reverse).1.reverse }) hg
    exact ⟨hf.1, by show endOf _ ≤ ni.length; rw [hf.2]; exact he⟩
  · exact ⟨hg, he⟩

/-- the composition `Compose` hands to `CalculateSegmentation`: after `Reset(active_input)` and the
optional `Reset(input)` -/
def resetStage (input : Bytes) (caret : Nat) (c : Comp) : Comp :=
  let c1 := c.reset (input.take caret)
  if caret < input.length ∧ caret = c1.confirmedPos then c1.reset input else c1

theorem resetStage_ok {c : Comp} (h : SegsOK c.segs) (input : Bytes) (caret : Nat) :
    SegsOK (resetStage input caret c).segs :=
  ite_closed (P := fun c : Comp => SegsOK c.segs) (reset_ok (reset_ok h _) _) (reset_ok h _)

theorem resetStage_input_le (input : Bytes) (caret : Nat) (c : Comp) :
    (resetStage input caret c).input.length ≤ input.length := by
  refine ite_closed (P := fun c : Comp => c.input.length ≤ input.length) ?_ ?_
  · rw [reset_input]; exact Nat.le_refl _
  · rw [reset_input, List.length_take]; exact Nat.min_le_right _ _

theorem resetStage_geo {c : Comp} (h : GeoOK c.segs) (input : Bytes) (caret : Nat) :
    LoopInv (resetStage input caret c) :=
  ite_closed (reset_geo (reset_geo h _).1 _) (reset_geo h _)

/-! ### `Segmentation::AddSegment` -/

theorem setLast_of_getLast? {l : List Seg} {b : Seg} (h : l.getLast? = some b) (g : Seg) :
    setLast l g = l.dropLast ++ [g] := by
  rw [eq_snoc_of_getLast? h, setLast_concat, List.dropLast_concat]

/-- `AddSegment(g)`: refused (wrong start, or shorter than the last segment), or `g` takes the place of the last segment,
or — when both end at the same place — only its tags go into the last segment -/
theorem addSegment_cases (c : Comp) (g : Seg) :
    ((c.addSegment g).1 = c ∧ (g.start ≠ c.currentStart ∨ g.stop < c.currentEnd)) ∨
      (g.start = c.currentStart ∧ ∃ g', (c.addSegment g).1 = { c with segs := c.segs.dropLast ++ [g'] } ∧
        ((g' = g ∧ (c.segs = [] ∨ c.currentEnd < g.stop)) ∨
          ∃ b, c.segs.getLast? = some b ∧ b.stop = g.stop ∧ g' = { b with tags := b.tags.union g.tags })) := by
  unfold Comp.addSegment
  by_cases hs : g.start = c.currentStart
  · rw [if_neg (fun h => h hs)]
    rcases hl : c.segs.getLast? with _ | b
    · have hnil : c.segs = [] := List.getLast?_eq_none_iff.mp hl
      exact Or.inr ⟨hs, g, by rw [hnil]; rfl, Or.inl ⟨rfl, Or.inl hnil⟩⟩
    · have he : c.currentEnd = b.stop := endOf_of_getLast? hl
      dsimp only
      by_cases h1 : b.stop > g.stop
      · rw [if_pos h1]
        exact Or.inl ⟨rfl, Or.inr (by rw [he]; exact h1)⟩
      · rw [if_neg h1]
        by_cases h2 : b.stop < g.stop
        · rw [if_pos h2, setLast_of_getLast? hl]
          exact Or.inr ⟨hs, g, rfl, Or.inl ⟨rfl, Or.inr (by rw [he]; exact h2)⟩⟩
        · rw [if_neg h2, setLast_of_getLast? hl]
          exact Or.inr ⟨hs, _, rfl, Or.inr ⟨b, rfl, Nat.le_antisymm (Nat.le_of_not_lt h1) (Nat.le_of_not_lt h2), rfl⟩⟩
  · rw [if_pos hs]
    exact Or.inl ⟨rfl, Or.inl hs⟩

theorem addSegment_input (c : Comp) (g : Seg) : (c.addSegment g).1.input = c.input := by
  rcases addSegment_cases c g with ⟨h, _⟩ | ⟨_, _, h, _⟩ <;> rw [h]

theorem addSegment_keeps (c : Comp) {g : Seg} (hg : SelOK g) : SegKeeps c (c.addSegment g).1 := by
  rcases addSegment_cases c g with ⟨he, _⟩ | ⟨_, g', he, hg'⟩ <;> rw [he]
  · exact .refl c
  · refine ⟨rfl, fun h => SegsOK.append h.dropLast (SegsOK.singleton ?_)⟩
    rcases hg' with ⟨rfl, _⟩ | ⟨b, hb, _, rfl⟩
    · exact hg
    · exact fun l hl hne => h.getLast hb l hl hne

/-- `Forward(); AddSegment(g)` -/
theorem forward_addSegment_keeps (c : Comp) {g : Seg} (hg : g.menu = none) : SegKeeps c (c.forward.1.addSegment g).1 :=
  (forward_keeps c).trans (addSegment_keeps _ (selOK_of_menu_none hg))

theorem addSegment_loopInv {c : Comp} (h : LoopInv c) {g : Seg} (hg : SegGeo g) (hb : g.stop ≤ c.input.length) :
    LoopInv (c.addSegment g).1 := by
  have ha := addSegment_geo h.1 hg
  refine ⟨ha.1, ?_⟩
  rw [addSegment_input]
  rcases ha.2 with he | he <;> rw [he]
  · exact h.2
  · exact hb

theorem addSegment_endOf_ge (c : Comp) (g : Seg) : endOf c.segs ≤ endOf (c.addSegment g).1.segs := by
  rcases addSegment_cases c g with ⟨he, _⟩ | ⟨_, g', he, hg'⟩ <;> rw [he]
  · exact Nat.le_refl _
  · show _ ≤ endOf (_ ++ [g'])
    rw [endOf_snoc]
    rcases hg' with ⟨rfl, hnil | hlt⟩ | ⟨b, hb, hbs, rfl⟩
    · rw [hnil]; exact Nat.zero_le _
    · exact Nat.le_of_lt hlt
    · rw [endOf_of_getLast? hb]; exact Nat.le_refl _

/-- a segment that starts at the current start and ends at the end of the input becomes (or merges into) the last one -/
theorem addSegment_endOf_full {c : Comp} (h : LoopInv c) {g : Seg} (hs : g.start = c.currentStart)
    (he : g.stop = c.input.length) : endOf (c.addSegment g).1.segs = c.input.length := by
  rcases addSegment_cases c g with ⟨_, hne | hlt⟩ | ⟨_, g', heq, hg'⟩
  · exact absurd hs hne
  · rw [he] at hlt
    exact absurd (Nat.lt_of_lt_of_le hlt h.2) (Nat.lt_irrefl _)
  · rw [heq]
    show endOf (_ ++ [g']) = _
    rw [endOf_snoc, ← he]
    rcases hg' with ⟨rfl, _⟩ | ⟨b, _, hbs, rfl⟩
    · rfl
    · exact hbs

/-- `AddSegment` of a segment without menu that starts at the current start and ends after the current end: it becomes
the last segment -/
theorem addSegment_longer {c : Comp} (h : GeoOK c.segs) {g : Seg} (hm : g.menu = none) (hs : g.start = c.currentStart)
    (hlt : endOf c.segs < g.stop) :
    GeoOK (c.addSegment g).1.segs ∧ (c.addSegment g).1.segs.getLast? = some g := by
  have hle := currentStart_le_end h
  have ha := (addSegment_geo h (g := g) ⟨by rw [hs]; exact Nat.le_of_lt (Nat.lt_of_le_of_lt hle hlt), candGeo_of_menu_none hm⟩).1
  rcases addSegment_cases c g with ⟨_, hne | hlt'⟩ | ⟨_, g', heq, hg'⟩
  · exact absurd hs hne
  · exact absurd hlt (Nat.lt_asymm hlt')
  · rw [heq] at ha ⊢
    rcases hg' with ⟨rfl, _⟩ | ⟨b, hb, hbs, _⟩
    · exact ⟨ha, List.getLast?_concat⟩
    · rw [endOf_of_getLast? hb, hbs] at hlt; exact absurd hlt (Nat.lt_irrefl _)

/-- `Forward(); AddSegment(g)` of a non-empty segment without menu that starts where the segmentation ends (`k`): it
becomes the last -/
theorem forward_addSegment_geo {c : Comp} {k : Nat} (h : GeoOK c.segs) (hk : endOf c.segs = k) {g : Seg} (hm : g.menu = none)
    (hs : g.start = k) (hlt : k < g.stop) :
    GeoOK (c.forward.1.addSegment g).1.segs ∧ (c.forward.1.addSegment g).1.segs.getLast? = some g := by
  have hf := forward_geo h
  exact addSegment_longer hf.1 hm (by rw [forward_currentStart, hk]; exact hs) (by rw [hf.2, hk]; exact hlt)

theorem GeoOK.endOf_dropLast {l : List Seg} {b : Seg} (h : GeoOK l) (hb : l.getLast? = some b) :
    endOf l.dropLast = b.start := by
  rw [eq_snoc_of_getLast? hb] at h
  exact h.last_start.symm

/-! ### `AbcSegmentor::Proceed`, `PunctSegmentor::Proceed`, `AsciiSegmentor::Proceed` -/

/-- what the abc, punct and ascii segmentors do: nothing, or `AddSegment` of one segment without menu, which ends within
the input whenever the current start lies within it -/
def AddsSeg (f : Comp → Comp) : Prop :=
  ∀ c, f c = c ∨ ∃ g, g.menu = none ∧ g.start ≤ g.stop ∧ (c.currentStart ≤ c.input.length → g.stop ≤ c.input.length) ∧
    f c = (c.addSegment g).1

theorem AddsSeg.keeps {f : Comp → Comp} (hf : AddsSeg f) (c : Comp) : SegKeeps c (f c) := by
  rcases hf c with he | ⟨g, hm, _, _, he⟩ <;> rw [he]
  · exact .refl c
  · exact addSegment_keeps c (selOK_of_menu_none hm)

theorem AddsSeg.geo {f : Comp → Comp} (hf : AddsSeg f) (c : Comp) : GeoKeeps c (f c) := by
  intro h
  rcases hf c with he | ⟨g, hm, hg, hb, he⟩ <;> rw [he]
  · exact GeoKeeps.refl c h
  · exact ⟨addSegment_loopInv h ⟨hg, candGeo_of_menu_none hm⟩ (hb (Nat.le_trans (currentStart_le_end h.1) h.2)),
      addSegment_endOf_ge c g⟩

theorem abcScan_le (cfg : SegCfg) (input : Bytes) (j fuel : Nat) : ∀ (e : Bool) (k : Nat),
    k ≤ input.length → abcScan cfg input j fuel e k ≤ input.length := by
  induction fuel with
  | zero => exact fun _ _ hk => hk
  | succ fuel ih =>
    intro e k hk
    unfold abcScan
    split
    · exact hk
    · rename_i ch hch
      exact ite_closed (P := (· ≤ input.length)) hk
        (ite_closed (P := (· ≤ input.length)) hk (ih _ _ (List.getElem?_eq_some_iff.mp hch).1))

theorem abcProceed_adds (cfg : SegCfg) : AddsSeg (abcProceed cfg) := by
  intro c
  unfold abcProceed
  dsimp only
  split
  · rename_i hjk
    exact Or.inr ⟨_, rfl, Nat.le_of_lt hjk, abcScan_le cfg c.input _ _ true _, rfl⟩
  · exact Or.inl rfl

/-- PunctSegmentor::Proceed adds `[k, k+1)` only when `input[k]` exists -/
theorem punctProceed_adds (m : List (UInt8 × PunctDef)) : AddsSeg fun c => (punctProceed m c).1 := by
  intro c
  unfold punctProceed
  dsimp only
  by_cases hk : c.currentStart = c.input.length
  · rw [if_pos hk]; exact Or.inl rfl
  · rw [if_neg hk]
    split
    · exact Or.inl rfl
    · rename_i ch hch
      by_cases h1 : (ch < 0x20 || ch ≥ 0x7f) = true
      · rw [if_pos h1]; exact Or.inl rfl
      · rw [if_neg h1]
        split
        · exact Or.inl rfl
        · exact Or.inr ⟨punctSeg c.currentStart, rfl, Nat.le_succ _, fun _ => (List.getElem?_eq_some_iff.mp hch).1, rfl⟩

theorem asciiProceed_adds : AddsSeg fun c => (asciiProceed c).1 := by
  intro c
  unfold asciiProceed
  dsimp only
  by_cases ha : (!c.ascii) = true
  · rw [if_pos ha]; exact Or.inl rfl
  · rw [if_neg ha]
    by_cases hlt : c.currentStart < c.input.length
    · rw [if_pos hlt]
      exact Or.inr ⟨asciiRawSeg c.currentStart c.input.length, rfl, Nat.le_of_lt hlt, fun _ => Nat.le_refl _, rfl⟩
    · rw [if_neg hlt]; exact Or.inl rfl

/-! ### `FallbackSegmentor::Proceed` -/

theorem dropEmptyLast_cases (c : Comp) :
    dropEmptyLast c = c ∨
      ∃ b, c.segs.getLast? = some b ∧ b.start = b.stop ∧ dropEmptyLast c = { c with segs := c.segs.dropLast } := by
  unfold dropEmptyLast
  split
  · rename_i b hb
    split
    · rename_i he; exact Or.inr ⟨b, hb, he, rfl⟩
    · exact Or.inl rfl
  · exact Or.inl rfl

theorem dropEmptyLast_keeps (c : Comp) : SegKeeps c (dropEmptyLast c) := by
  rcases dropEmptyLast_cases c with he | ⟨_, _, _, he⟩ <;> rw [he]
  · exact .refl c
  · exact ⟨rfl, SegsOK.dropLast⟩

/-- `FallbackSegmentor::Proceed` leaves the segmentation alone, or — the current segment being empty and not at the end
of the input — drops it and takes one more byte as raw input: into the raw segment before it, or as a new segment -/
theorem fallbackProceed_cases (c : Comp) :
    fallbackProceed c = c ∨
      (c.currentSegLen = 0 ∧ c.currentStart ≠ c.input.length ∧
        (fallbackProceed c = addRaw (dropEmptyLast c) c.currentStart ∨
          ∃ last, (dropEmptyLast c).segs.getLast? = some last ∧
            fallbackProceed c =
              { dropEmptyLast c with segs := setLast (dropEmptyLast c).segs (extendRaw last c.currentStart) })) := by
  unfold fallbackProceed
  by_cases h0 : c.currentSegLen > 0
  · exact Or.inl (if_pos h0)
  · by_cases he : c.currentStart = c.input.length
    · exact Or.inl ((if_neg h0).trans (if_pos he))
    · refine Or.inr ⟨Nat.eq_zero_of_not_pos h0, he, ?_⟩
      rw [if_neg h0, if_neg he]
      dsimp only
      split
      · rename_i last hlast
        by_cases hr : last.tags.raw = true
        · exact Or.inr ⟨last, hlast, if_pos hr⟩
        · exact Or.inl (if_neg hr)
      · exact Or.inl rfl

theorem fallbackProceed_keeps (c : Comp) : SegKeeps c (fallbackProceed c) := by
  have h1 := dropEmptyLast_keeps c
  rcases fallbackProceed_cases c with he | ⟨_, _, he | ⟨_, _, he⟩⟩ <;> rw [he]
  · exact .refl c
  · exact h1.trans (forward_addSegment_keeps _ rfl)
  · exact h1.trans ⟨rfl, fun h => segsOK_setLast h (selOK_of_menu_none rfl)⟩

theorem endOf_eq_currentStart {c : Comp} (h : GeoOK c.segs) (h0 : c.currentSegLen = 0) : endOf c.segs = c.currentStart := by
  rcases hl : c.segs.getLast? with _ | b
  · unfold endOf Comp.currentStart; rw [hl]
  · rw [endOf_of_getLast? hl, currentStart_of_getLast? hl]
    unfold Comp.currentSegLen at h0
    rw [hl] at h0
    exact Nat.le_antisymm (Nat.sub_eq_zero_iff_le.mp h0) (h.getLast hl).1

theorem dropEmptyLast_geo {c : Comp} (h : GeoOK c.segs) :
    GeoOK (dropEmptyLast c).segs ∧ endOf (dropEmptyLast c).segs = endOf c.segs := by
  rcases dropEmptyLast_cases c with he | ⟨b, hb, hbb, he⟩ <;> rw [he]
  · exact ⟨h, rfl⟩
  · exact ⟨h.dropLast, by rw [endOf_of_getLast? hb, ← hbb]; exact h.endOf_dropLast hb⟩

/-- the raw segment ends one byte after the current start: within the input, the current start not being the input's end -/
theorem fallbackProceed_geo (c : Comp) : GeoKeeps c (fallbackProceed c) := by
  intro h
  rcases fallbackProceed_cases c with he | ⟨h0, hne, hc⟩
  · rw [he]; exact GeoKeeps.refl c h
  · have hk := endOf_eq_currentStart h.1 h0
    have hd := dropEmptyLast_geo h.1
    have hle := h.2
    suffices hs : GeoOK (fallbackProceed c).segs ∧ endOf (fallbackProceed c).segs = c.currentStart + 1 by
      exact ⟨⟨hs.1, by rw [hs.2, (fallbackProceed_keeps c).1]; exact Nat.lt_of_le_of_ne (hk ▸ hle) hne⟩,
        by rw [hs.2, hk]; exact Nat.le_succ _⟩
    rcases hc with he | ⟨last, hlast, he⟩ <;> rw [he]
    · have hr := forward_addSegment_geo (g := rawSeg c.currentStart) hd.1 (hd.2.trans hk) rfl rfl (Nat.lt_succ_self _)
      exact ⟨hr.1, endOf_of_getLast? hr.2⟩
    · have hls : last.start ≤ c.currentStart := by
        rw [← hk, ← hd.2, endOf_of_getLast? hlast]
        exact (hd.1.getLast hlast).1
      refine ⟨geoOK_setLast hd.1 hlast ⟨Nat.le_succ_of_le hls, candGeo_of_menu_none rfl⟩ rfl, ?_⟩
      show endOf (setLast _ _) = _
      rw [setLast_of_getLast? hlast, endOf_snoc]
      rfl

/-! ### `Matcher::Proceed` -/

theorem popWhileStartGt_sub (pos : Nat) : ∀ (l : List Seg), ∀ g ∈ popWhileStartGt pos l, g ∈ l
  | [], g, h => by simp [popWhileStartGt] at h
  | a :: rest, g, h => by
    unfold popWhileStartGt at h
    split at h
    · exact List.mem_cons_of_mem _ (popWhileStartGt_sub pos rest g h)
    · exact h

theorem popWhileStartGt_ok (pos : Nat) {l : List Seg} (h : SegsOK l) : SegsOK (popWhileStartGt pos l.reverse).reverse :=
  fun g hg => h g (List.mem_reverse.mp (popWhileStartGt_sub pos _ g (List.mem_reverse.mp hg)))

theorem matcherProceed_cases (pats : List RecPattern) (c : Comp) :
    matcherProceed pats c = c ∨
      ∃ m, getMatch pats c.input c = some m ∧
        matcherProceed pats c =
          (Comp.addSegment { c with segs := (popWhileStartGt m.start c.segs.reverse).reverse } (matchSeg m)).1 := by
  unfold matcherProceed
  split
  · exact Or.inl rfl
  · split
    · exact Or.inl rfl
    · rename_i m hm; exact Or.inr ⟨m, hm, rfl⟩

theorem matcherProceed_keeps (pats : List RecPattern) (c : Comp) : SegKeeps c (matcherProceed pats c) := by
  rcases matcherProceed_cases pats c with he | ⟨_, _, he⟩ <;> rw [he]
  · exact .refl c
  · exact (SegKeeps.segs c (popWhileStartGt_ok _)).trans (addSegment_keeps _ (selOK_of_menu_none rfl))

theorem RGeo.seg {r : List Seg} (h : RGeo r) {g : Seg} (hg : g ∈ r) : SegGeo g :=
  ((rgeo_iff_geoOK r).mp h).seg (List.mem_reverse.mpr hg)

theorem popWhileStartGt_rgeo (pos : Nat) {r : List Seg} (h : RGeo r) :
    RGeo (popWhileStartGt pos r) ∧ rend (popWhileStartGt pos r) ≤ rend r := by
  induction r with
  | nil => exact ⟨h, Nat.le_refl _⟩
  | cons g rest ih =>
    unfold popWhileStartGt
    split
    · refine ⟨(ih h.tail).1, Nat.le_trans (ih h.tail).2 ?_⟩
      show rend rest ≤ g.stop
      rw [← h.1]
      exact h.2.1.1
    · exact ⟨h, Nat.le_refl _⟩

/-- when some segment starts at `pos`, the popping stops at a segment that starts at `pos` -/
theorem popWhileStartGt_found (pos : Nat) {r : List Seg} (h : RGeo r) {g : Seg} (hg : g ∈ r) (hgs : g.start = pos) :
    ∃ b rest, popWhileStartGt pos r = b :: rest ∧ b.start = pos := by
  induction r with
  | nil => cases hg
  | cons a rest ih =>
    unfold popWhileStartGt
    split
    · rename_i hgt
      have hmem : g ∈ rest := by
        rcases List.mem_cons.mp hg with heq | h'
        · rw [heq] at hgs; rw [hgs] at hgt; exact absurd hgt (Nat.lt_irrefl _)
        · exact h'
      exact ih h.tail hmem
    · rename_i hle
      refine ⟨a, rest, rfl, ?_⟩
      rcases List.mem_cons.mp hg with heq | h'
      · rw [← heq]; exact hgs
      · refine Nat.le_antisymm (Nat.le_of_not_lt hle) ?_
        rw [← hgs, h.1]
        exact Nat.le_trans (h.tail.seg h').1 (h.tail.stop_le_rend g h')

theorem popWhileStartGt_id (pos : Nat) : ∀ {r : List Seg}, (∀ b, r.head? = some b → b.start ≤ pos) →
    popWhileStartGt pos r = r
  | [], _ => rfl
  | a :: rest, h => by
    unfold popWhileStartGt
    rw [if_neg (Nat.not_lt.mpr (h a rfl))]

theorem matcherProceed_geo (pats : List RecPattern) (c : Comp) : GeoKeeps c (matcherProceed pats c) := by
  intro h
  rcases matcherProceed_cases pats c with he | ⟨m, hm, he⟩ <;> rw [he]
  · exact GeoKeeps.refl c h
  · obtain ⟨hlt, hstop, hstart⟩ := getMatch_spec hm
    have hR : RGeo c.segs.reverse := (geoOK_iff_rgeo _).mp h.1
    have hp := popWhileStartGt_rgeo m.start hR
    have hc1 : LoopInv ({ c with segs := (popWhileStartGt m.start c.segs.reverse).reverse } : Comp) := by
      refine ⟨(rgeo_iff_geoOK _).mp hp.1, ?_⟩
      show endOf (List.reverse _) ≤ c.input.length
      rw [endOf_reverse]
      exact Nat.le_trans hp.2 (by rw [rend_reverse]; exact h.2)
    refine ⟨addSegment_loopInv hc1 ⟨Nat.le_of_lt hlt, candGeo_of_menu_none rfl⟩ (Nat.le_of_eq hstop), ?_⟩
    rcases hstart with hj | hseg
    · -- the match starts at the current end: nothing is popped
      have hid : popWhileStartGt m.start c.segs.reverse = c.segs.reverse := by
        refine popWhileStartGt_id _ fun b hb => ?_
        rw [List.head?_reverse] at hb
        rw [← currentStart_of_getLast? hb, hj]
        exact currentStart_le_end h.1
      rw [hid, List.reverse_reverse]
      exact addSegment_endOf_ge c _
    · -- the match starts where one of the segments starts: the popping stops there, and the match is accepted
      obtain ⟨g, hg, hgs⟩ := matchAtSeg_mem hseg
      obtain ⟨b, rest, hpop, hbs⟩ := popWhileStartGt_found m.start hR (List.mem_reverse.mpr hg) hgs
      rw [addSegment_endOf_full hc1 (g := matchSeg m) (by rw [hpop, List.reverse_cons, currentStart_snoc]; exact hbs.symm) hstop]
      exact h.2

/-! ### `AffixSegmentor::Proceed` -/

/-- the inheritance branch changes at most the tags of the last segment -/
theorem affixInherit_cases (a : AffixCfg) (c : Comp) :
    affixInherit a c = c ∨
      ∃ t : Seg → Tags, affixInherit a c = { c with segs := modLast c.segs fun g => { g with tags := t g } } := by
  unfold affixInherit
  by_cases h2 : c.segs.length ≥ 2
  · rw [if_pos h2]
    split
    · exact Or.inl rfl
    · rename_i prev _
      by_cases hp : (prev.tags.partial_ && prev.tags.has a.tag) = true
      · rw [if_pos hp]; exact Or.inr ⟨_, rfl⟩
      · rw [if_neg hp]; exact Or.inl rfl
  · rw [if_neg h2]; exact Or.inl rfl

theorem affixInherit_keeps (a : AffixCfg) (c : Comp) : SegKeeps c (affixInherit a c) := by
  rcases affixInherit_cases a c with he | ⟨_, he⟩ <;> rw [he]
  · exact .refl c
  · exact ⟨rfl, fun h => segsOK_modLast h (fun g hg l hl hne => hg l hl hne)⟩

theorem endOf_modLast_same {l : List Seg} {f : Seg → Seg} (hf : ∀ g, (f g).stop = g.stop) : endOf (modLast l f) = endOf l := by
  rcases snoc_cases l with rfl | ⟨l', b, rfl⟩
  · rfl
  · rw [modLast_concat, endOf_snoc, endOf_snoc]; exact hf b

theorem affixInherit_geo (a : AffixCfg) (c : Comp) : GeoKeeps c (affixInherit a c) := by
  intro h
  rcases affixInherit_cases a c with he | ⟨t, he⟩ <;> rw [he]
  · exact GeoKeeps.refl c h
  · have he' : endOf (modLast c.segs fun g => { g with tags := t g }) = endOf c.segs := endOf_modLast_same (fun _ => rfl)
    exact ⟨⟨geoOK_modLast h.1 (fun g _ hg => ⟨hg.same rfl rfl rfl, rfl⟩), Nat.le_trans (Nat.le_of_eq he') h.2⟩,
      Nat.le_of_eq he'.symm⟩

/-- the suffix split pushes the suffix segment after cutting the code segment (the last one) short, or dropping it when
nothing of it is left -/
theorem affixSuffix_cases (a : AffixCfg) (k : Nat) (c : Comp) :
    ∃ l, affixSuffix a k c = pushSeg { c with segs := l } (affixSuffixSeg a (k - a.suffix.length)) ∧
      ((c.segs.getLast? = none ∧ l = c.segs) ∨ ∃ b, c.segs.getLast? = some b ∧
        ((k - a.suffix.length = b.start ∧ l = c.segs.dropLast) ∨
          (k - a.suffix.length ≠ b.start ∧ l = setLast c.segs { b with stop := k - a.suffix.length }))) := by
  unfold affixSuffix
  dsimp only
  split
  · rename_i hnone; exact ⟨_, rfl, Or.inl ⟨hnone, rfl⟩⟩
  · rename_i b hb
    by_cases hk : k - a.suffix.length = b.start
    · rw [if_pos hk]; exact ⟨_, rfl, Or.inr ⟨b, hb, Or.inl ⟨hk, rfl⟩⟩⟩
    · rw [if_neg hk]; exact ⟨_, rfl, Or.inr ⟨b, hb, Or.inr ⟨hk, rfl⟩⟩⟩

theorem affixSuffix_keeps (a : AffixCfg) (k : Nat) (c : Comp) : SegKeeps c (affixSuffix a k c) := by
  obtain ⟨l, he, hl⟩ := affixSuffix_cases a k c
  rw [he]
  refine (SegKeeps.segs c fun h => ?_).trans (forward_addSegment_keeps _ rfl)
  rcases hl with ⟨_, rfl⟩ | ⟨b, hb, ⟨_, rfl⟩ | ⟨_, rfl⟩⟩
  · exact h
  · exact h.dropLast
  · exact segsOK_setLast h (fun l hl hne => h.getLast hb l hl hne)

theorem affixSplit_keeps (a : AffixCfg) (j k : Nat) (c : Comp) : SegKeeps c (affixSplit a c j k) :=
  (SegKeeps.segs c SegsOK.dropLast).trans ((forward_addSegment_keeps _ rfl).trans (forward_addSegment_keeps _ rfl))

/-- the five outcomes of `AffixSegmentor::Proceed`: nothing; the inheritance branch; the last segment `[j, k)` is just
the prefix and is re-tagged; it is split into prefix and code; it is split into prefix, code and suffix -/
theorem affixProceed_cases (a : AffixCfg) (c : Comp) :
    (affixProceed a c).1 = c ∨ (affixProceed a c).1 = affixInherit a c ∨
      ∃ b active, c.segs.getLast? = some b ∧ active = substr c.input c.currentStart (c.currentEnd - c.currentStart) ∧
        ((affixProceed a c).1 =
            { c with segs := setLast c.segs { b with tags := (b.tags.erase a.tag).insert (a.tag ++ "_prefix"), prompt := a.tips } } ∨
          (a.prefix_ ≠ [] ∧ isPrefixOf a.prefix_ active = true ∧ active.length ≠ a.prefix_.length ∧
            ((affixProceed a c).1 = affixSplit a c c.currentStart c.currentEnd ∨
              (a.suffix ≠ [] ∧ isSuffixOf a.suffix (active.drop a.prefix_.length) = true ∧
                (affixProceed a c).1 = affixSuffix a c.currentEnd (affixSplit a c c.currentStart c.currentEnd))))) := by
  unfold affixProceed
  split
  · exact Or.inl rfl
  · rename_i b hb
    by_cases htag : (!b.tags.has a.tag) = true
    · rw [if_pos htag]; exact Or.inr (Or.inl rfl)
    · rw [if_neg htag]
      dsimp only
      by_cases hpre : (decide (a.prefix_ = []) ||
          !isPrefixOf a.prefix_ (substr c.input c.currentStart (c.currentEnd - c.currentStart))) = true
      · rw [if_pos hpre]; exact Or.inl rfl
      · rw [if_neg hpre]
        refine Or.inr (Or.inr ⟨b, _, hb, rfl, ?_⟩)
        by_cases hlen : (substr c.input c.currentStart (c.currentEnd - c.currentStart)).length = a.prefix_.length
        · rw [if_pos hlen]; exact Or.inl rfl
        · rw [if_neg hlen]
          simp only [Bool.or_eq_true, decide_eq_true_eq, Bool.not_eq_true', not_or, Bool.not_eq_false] at hpre
          refine Or.inr ⟨hpre.1, hpre.2, hlen, ?_⟩
          by_cases hsuf : (decide (a.suffix ≠ []) && isSuffixOf a.suffix
              ((substr c.input c.currentStart (c.currentEnd - c.currentStart)).drop a.prefix_.length)) = true
          · rw [if_pos hsuf]
            simp only [Bool.and_eq_true, decide_eq_true_eq] at hsuf
            exact Or.inr ⟨hsuf.1, hsuf.2, rfl⟩
          · rw [if_neg hsuf]; exact Or.inl rfl

theorem affixProceed_keeps (a : AffixCfg) (c : Comp) : SegKeeps c (affixProceed a c).1 := by
  rcases affixProceed_cases a c with he | he | ⟨b, _, hb, _, he | ⟨_, _, _, he | ⟨_, _, he⟩⟩⟩ <;> rw [he]
  · exact .refl c
  · exact affixInherit_keeps a c
  · exact ⟨rfl, fun h => segsOK_setLast h (fun l hl hne => h.getLast hb l hl hne)⟩
  · exact affixSplit_keeps a _ _ c
  · exact (affixSplit_keeps a _ _ c).trans (affixSuffix_keeps a _ _)

theorem isPrefixOf_length {p s : Bytes} (h : isPrefixOf p s = true) : p.length ≤ s.length := by
  unfold isPrefixOf at h
  have h1 : s.take p.length = p := by simpa using h
  have h2 := congrArg List.length h1
  rw [List.length_take] at h2
  exact h2 ▸ Nat.min_le_right _ _

theorem isSuffixOf_length {p s : Bytes} (h : isSuffixOf p s = true) : p.length ≤ s.length := by
  unfold isSuffixOf at h
  simp only [Bool.and_eq_true, decide_eq_true_eq] at h
  exact h.1

/-- the prefix + code split of the last segment `[j, k)`: the code segment is the new last segment -/
theorem affixSplit_geo (a : AffixCfg) {c : Comp} {b : Seg} (h : GeoOK c.segs) (hb : c.segs.getLast? = some b)
    (hp0 : 0 < a.prefix_.length) (hpk : b.start + a.prefix_.length < b.stop) :
    GeoOK (affixSplit a c b.start b.stop).segs ∧
      (affixSplit a c b.start b.stop).segs.getLast? = some (affixCodeSeg a (b.start + a.prefix_.length) b.stop) := by
  have h1 := forward_addSegment_geo (c := { c with segs := c.segs.dropLast }) (g := affixPrefixSeg a b.start) h.dropLast
    (h.endOf_dropLast hb) rfl rfl (Nat.lt_add_of_pos_right hp0)
  exact forward_addSegment_geo h1.1 (endOf_of_getLast? h1.2) rfl rfl hpk

/-- the suffix split: the code segment `[s, k)` (last) is cut at `k - |suffix|` (or dropped when that leaves it empty) and
the suffix segment is pushed: the segmentation ends at `k` again -/
theorem affixSuffix_geo (a : AffixCfg) {c : Comp} {g : Seg} (hgeo : GeoOK c.segs) (hlast : c.segs.getLast? = some g)
    (hmenu : g.menu = none) (hs0 : 0 < a.suffix.length) (hsk : g.start + a.suffix.length ≤ g.stop) :
    GeoOK (affixSuffix a g.stop c).segs ∧ endOf (affixSuffix a g.stop c).segs = g.stop := by
  obtain ⟨l, he, hl⟩ := affixSuffix_cases a g.stop c
  have hl' : GeoOK l ∧ endOf l = g.stop - a.suffix.length := by
    rcases hl with ⟨hnone, _⟩ | ⟨b, hb, hc⟩
    · rw [hlast] at hnone; cases hnone
    · obtain rfl : g = b := Option.some.inj (hlast.symm.trans hb)
      rcases hc with ⟨heq, rfl⟩ | ⟨_, rfl⟩
      · exact ⟨hgeo.dropLast, (hgeo.endOf_dropLast hlast).trans heq.symm⟩
      · refine ⟨geoOK_setLast hgeo hlast ⟨?_, candGeo_of_menu_none hmenu⟩ rfl, ?_⟩
        · exact Nat.le_sub_of_add_le hsk
        · rw [setLast_of_getLast? hlast, endOf_snoc]
  have hr := forward_addSegment_geo (c := { c with segs := l }) (g := affixSuffixSeg a (g.stop - a.suffix.length)) hl'.1 hl'.2
    rfl rfl (Nat.lt_add_of_pos_right hs0)
  rw [he]
  exact ⟨hr.1, (endOf_of_getLast? hr.2).trans (Nat.sub_add_cancel (Nat.le_trans (Nat.le_add_left _ _) hsk))⟩

theorem substr_length {s : Bytes} {j k : Nat} (hk : k ≤ s.length) : (substr s j (k - j)).length = k - j := by
  unfold substr
  rw [List.length_take, List.length_drop]
  exact Nat.min_eq_left (Nat.sub_le_sub_right hk j)

theorem affixProceed_geo (a : AffixCfg) (c : Comp) : GeoKeeps c (affixProceed a c).1 := by
  intro h
  rcases affixProceed_cases a c with he | he | ⟨b, active, hb, hact, hc⟩
  · rw [he]; exact GeoKeeps.refl c h
  · rw [he]; exact affixInherit_geo a c h
  · have hj : c.currentStart = b.start := currentStart_of_getLast? hb
    have hk : c.currentEnd = b.stop := endOf_of_getLast? hb
    have hkle : b.stop ≤ c.input.length := Nat.le_trans (Nat.le_of_eq hk.symm) h.2
    -- in each of the three outcomes the segmentation is contiguous and ends at `k` again
    suffices hs : GeoOK (affixProceed a c).1.segs ∧ endOf (affixProceed a c).1.segs = b.stop by
      exact ⟨⟨hs.1, by rw [hs.2, (affixProceed_keeps a c).1]; exact hkle⟩, by rw [hs.2]; exact Nat.le_of_eq hk⟩
    rcases hc with he | ⟨hp, hpre, hne, hc⟩
    · rw [he]
      show GeoOK (setLast c.segs _) ∧ endOf (setLast c.segs _) = _
      rw [setLast_of_getLast? hb, endOf_snoc]
      exact ⟨by rw [← setLast_of_getLast? hb]; exact geoOK_setLast h.1 hb ((h.1.getLast hb).same rfl rfl rfl) rfl, rfl⟩
    · have hplen := isPrefixOf_length hpre
      rw [hact, hj, hk, substr_length hkle] at hplen hne
      have hpk : b.start + a.prefix_.length < b.stop := Nat.add_lt_of_lt_sub' (Nat.lt_of_le_of_ne hplen (Ne.symm hne))
      have hsp := affixSplit_geo a h.1 hb (List.length_pos_iff.mpr hp) hpk
      rw [hj, hk] at hc
      rcases hc with he | ⟨hs, hsuf, he⟩ <;> rw [he]
      · exact ⟨hsp.1, (endOf_of_getLast? hsp.2).trans rfl⟩
      · have hslen := isSuffixOf_length hsuf
        rw [List.length_drop, hact, hj, hk, substr_length hkle] at hslen
        exact affixSuffix_geo a (c := affixSplit a c b.start b.stop)
          (g := affixCodeSeg a (b.start + a.prefix_.length) b.stop) hsp.1 hsp.2 rfl (List.length_pos_iff.mpr hs)
          (Nat.add_le_of_le_sub' (Nat.le_of_lt hpk) (Nat.sub_sub b.stop b.start _ ▸ hslen))

/-! ### any segmentor -/

theorem sgmProceed_keeps (cfg : RSegCfg) (s : Sgm) (c : Comp) : SegKeeps c (sgmProceed cfg s c).1 := by
  cases s
  · exact asciiProceed_adds.keeps c
  · exact matcherProceed_keeps _ c
  · exact (abcProceed_adds _).keeps c
  · exact (punctProceed_adds _).keeps c
  · exact affixProceed_keeps _ c
  · exact fallbackProceed_keeps c

theorem sgmProceed_geo (cfg : RSegCfg) (s : Sgm) (c : Comp) : GeoKeeps c (sgmProceed cfg s c).1 := by
  cases s
  · exact asciiProceed_adds.geo c
  · exact matcherProceed_geo _ c
  · exact (abcProceed_adds _).geo c
  · exact (punctProceed_adds _).geo c
  · exact affixProceed_geo _ c
  · exact fallbackProceed_geo c

end RimeModel.Session
