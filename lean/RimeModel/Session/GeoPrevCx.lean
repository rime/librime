import RimeModel.Session.GeoPrev
import RimeModel.Session.Recompose
/-!
Machine-checked COUNTEREXAMPLES: with `speller/auto_select: true` and no `max_code_length`, the "reuse previous
match" branch of `Speller::AutoSelectPreviousMatch` breaks the geometric invariant in the model.

The saved copy of the last segment is pushed back in place of the *new* last segment.  When the key that was
added did not extend the saved segment but opened a new segment after it (the saved segment is not an `abc`
segment: a punctuation segment with alternatives, or a raw segment that a translator gave candidates to), the
saved segment is still in the composition, and the copy lands *behind itself*: `[0,1) [0,1) [1,2)`.

So `NoPrevMatch` in the geometric theorems cannot simply be dropped: some hypothesis restricting which segments
carry a menu is needed.  Both histories below start from a fresh session.
-/
namespace RimeModel.Session

def chainB : List Seg → Bool
  | [] => true
  | [_] => true
  | a :: b :: rest => b.start == a.stop && chainB (b :: rest)

theorem chainB_of_chain : ∀ {l : List Seg}, Chain l → chainB l = true
  | [], _ => rfl
  | [_], _ => rfl
  | a :: b :: rest, h => by
    unfold chainB
    have h' : b.start = a.stop ∧ Chain (b :: rest) := h
    rw [Bool.and_eq_true]
    exact ⟨by rw [h'.1]; exact beq_self_eq_true _, chainB_of_chain h'.2⟩

/-! ### 1. punctuation: `/` (a list of alternatives: the segment stays open with a menu), then a letter without candidates -/

/-- `/` ↦ [、, /]; no dictionary entry at all (so the letter `a` has no candidates) -/
def cxPunctMap : List (UInt8 × PunctDef) := [(47, .alt [[0xe3, 0x80, 0x81], [47]])]

def cxPunctCfg : PSegCfg :=
  { alphabet := [97, 98, 99], initials := [97, 98, 99], finals := [], delimiters := [39],
    translate := fun _ _ => [], punct := cxPunctMap }

def cxPunctEnv : Env :=
  { alphabet := [97, 98, 99], initials := [97, 98, 99], delimiters := [39], autoSelect := true, maxCodeLength := 0,
    processors := [.speller, .punctuator, .selector, .navigator, .fluidEditor],
    punct := { half := cxPunctMap, full := cxPunctMap }, recompose := composeP cxPunctCfg }

/-- the keys `/` `a` -/
def cxPunctOps : List Op := [.key 47 0, .key 97 0]

/-- after `/`: one punctuation segment `[0,1)` with a menu of two candidates -/
theorem cxPunct_before :
    (runOps cxPunctEnv {} [.key 47 0]).comp.segs.map (fun g => (g.start, g.stop, g.tags.punct, g.status)) =
      [(0, 1, true, .guess)] ∧ (runOps cxPunctEnv {} [.key 47 0]).hasMenu = true := by
  decide

/-- after `/` `a`: the punctuation segment twice, then the letter — `[0,1) [0,1) [1,2)` -/
theorem cxPunct_after :
    (runOps cxPunctEnv {} cxPunctOps).comp.segs.map (fun g => (g.start, g.stop, g.tags.punct, g.status)) =
      [(0, 1, true, .guess), (0, 1, true, .selected), (1, 2, false, .guess)] := by
  decide

/-- the reuse branch is what did it: AutoSelectPreviousMatch returns true on the state after the key was added -/
theorem cxPunct_reuse_taken :
    let c1 := runOps cxPunctEnv {} [.key 47 0]
    let c2 := (Ctx.pushInput cxPunctEnv c1 97).beginEditing
    c2.comp.segs.map (fun g => (g.start, g.stop)) = [(0, 1), (1, 2)] ∧ c2.hasMenu = false ∧
    (spellerPrev cxPunctEnv c1).map (fun p => (p.start, p.stop, prevSelectable cxPunctEnv p c2.input)) = some (0, 1, true) ∧
    (autoSelectPreviousMatch cxPunctEnv (spellerPrev cxPunctEnv c1) c2).2 = true := by
  decide

/-- the preedit shows the punctuation twice: `、、a` -/
theorem cxPunct_preedit :
    ((view cxPunctEnv (runOps cxPunctEnv {} cxPunctOps)).preedit.map (·.text)) =
      some [0xe3, 0x80, 0x81, 0xe3, 0x80, 0x81, 97] := by
  decide

theorem cxPunct_hyps : TranslateGeo cxPunctCfg.toSegCfg ∧ FilterSub cxPunctCfg.filter :=
  ⟨fun _ _ _ cd h => by simp [cxPunctCfg] at h, fun _ _ h => h⟩

/-- **the geometric invariant fails** in a state reachable with the punctuation components, `auto_select: true` and no
`max_code_length` (every other hypothesis of `geometry_reachable_punct` holds) -/
theorem prev_match_breaks_geometry_punct :
    ∃ (env : Env) (cfg : PSegCfg) (ops : List Op), env.recompose = composeP cfg ∧ TranslateGeo cfg.toSegCfg ∧
      FilterSub cfg.filter ∧ ¬ GeoInv (runOps env {} ops) := by
  refine ⟨cxPunctEnv, cxPunctCfg, cxPunctOps, rfl, cxPunct_hyps.1, cxPunct_hyps.2, ?_⟩
  intro h
  have hc := chainB_of_chain h.geo.1
  revert hc
  decide

/-! ### 2. abc + fallback segmentors only: a translator that gives a candidate to a *raw* segment

`TranslateGeo` alone does not exclude it: the oracle below answers `1` (a raw segment: `1` is not a letter) with one
candidate spanning the segment, and has nothing for the letter `a`. -/

def cxRawCfg : SegCfg :=
  { alphabet := [97, 98, 99], initials := [97, 98, 99], finals := [], delimiters := [39],
    translate := fun inp g => if inp = [49] then [{ text := [0xe4, 0xb8, 0x80], start := g.start, stop := g.stop }] else [] }

def cxRawEnv : Env :=
  { alphabet := [97, 98, 99], initials := [97, 98, 99], delimiters := [39], autoSelect := true, maxCodeLength := 0,
    processors := [.speller, .selector, .navigator, .fluidEditor], recompose := compose cxRawCfg }

/-- set_input("1"), then the key `a` -/
def cxRawOps : List Op := [.setInput [49], .key 97 0]

theorem cxRaw_after :
    (runOps cxRawEnv {} cxRawOps).comp.segs.map (fun g => (g.start, g.stop, g.tags.raw, g.status)) =
      [(0, 1, true, .guess), (0, 1, true, .selected), (1, 2, false, .guess)] := by
  decide

theorem cxRaw_hyps : TranslateGeo cxRawCfg := by
  intro inp g hle cd hcd
  simp only [cxRawCfg] at hcd
  split at hcd
  · simp only [List.mem_singleton] at hcd
    rw [hcd]; exact hle
  · simp at hcd

/-- **the geometric invariant fails** for the Compose with the abc and fallback segmentors and an oracle satisfying
`TranslateGeo`, with `auto_select: true` and no `max_code_length` -/
theorem prev_match_breaks_geometry_raw :
    ∃ (env : Env) (cfg : SegCfg) (ops : List Op), env.recompose = compose cfg ∧ TranslateGeo cfg ∧
      ¬ GeoInv (runOps env {} ops) := by
  refine ⟨cxRawEnv, cxRawCfg, cxRawOps, rfl, cxRaw_hyps, ?_⟩
  intro h
  have hc := chainB_of_chain h.geo.1
  revert hc
  decide

end RimeModel.Session
