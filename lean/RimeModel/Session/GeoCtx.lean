import RimeModel.Session.Geo
import RimeModel.Session.Inv
/-!
The geometric invariant at the level of `Ctx`, and its preservation by the context primitives of which the others
are built (context.cc + the engine's notifier reactions; `CtxClosed`, Session/Closed.lean), generic in the
recomposition function.
-/
namespace RimeModel.Session

/-- what the geometric theorems assume of `ConcreteEngine::Compose`: from a contiguous segment list (whose
last end may lie anywhere — `Segment::Reopen` can move it to the caret just before Compose runs) it
produces a contiguous list that lies within the new composition input.  Discharged for the concrete ports
in `Session/Recompose.lean` (`compose_geo_spec`, `composeP_geo_spec`, `composeR_geo_spec`), under `TranslateGeo`. -/
structure ComposeGeoSpec (rc : Bytes → Nat → Comp → Comp) : Prop where
  geo : ∀ input caret c, GeoOK c.segs → GeoOK (rc input caret c).segs
  bounded : ∀ input caret c, GeoOK c.segs → Bounded (rc input caret c)

/-- what holds of a state just before the engine recomposes it (no upper bound on the ends) -/
structure GeoPre (c : Ctx) : Prop where
  geo : GeoOK c.comp.segs

/-- what holds at API boundaries -/
structure GeoInv (c : Ctx) : Prop extends GeoPre c where
  bounded : Bounded c.comp

open Ctx
variable {env : Env}

theorem GeoInv.of_comp {c c' : Ctx} (h : GeoInv c) (hc : c'.comp = c.comp) : GeoInv c' :=
  ⟨⟨by rw [hc]; exact h.geo⟩, by rw [hc]; exact h.bounded⟩

theorem GeoPre.of_comp {c c' : Ctx} (h : GeoPre c) (hc : c'.comp = c.comp) : GeoPre c' :=
  ⟨by rw [hc]; exact h.geo⟩

theorem GeoInv.end_le {c : Ctx} (h : GeoInv c) : endOf c.comp.segs ≤ c.comp.input.length :=
  (bounded_iff_end h.geo).mp h.bounded

theorem GeoInv.mk' {c : Ctx} (h : GeoOK c.comp.segs) (he : endOf c.comp.segs ≤ c.comp.input.length) : GeoInv c :=
  ⟨⟨h⟩, (bounded_iff_end h).mpr he⟩

/-- the segment at index `i`: `start ≤ end ≤ |composition input|`, its slice is not clipped, the first starts at 0 and
the next one starts where it ends -/
theorem GeoInv.seg_in_range {c : Ctx} (h : GeoInv c) {i : Nat} {g : Seg} (hg : c.comp.segs[i]? = some g) :
    g.start ≤ g.stop ∧ g.stop ≤ c.comp.input.length ∧
      (substr c.comp.input g.start (g.stop - g.start)).length = g.stop - g.start ∧
      (i = 0 → g.start = 0) ∧ (∀ g', c.comp.segs[i + 1]? = some g' → g'.start = g.stop) := by
  have hmem : g ∈ c.comp.segs := List.mem_of_getElem? hg
  have h2 := h.bounded g hmem
  refine ⟨(h.geo.seg hmem).1, h2, ?_, ?_, fun g' hg' => h.geo.1.getElem?_succ i g g' hg hg'⟩
  · unfold substr
    rw [List.length_take, List.length_drop]
    exact Nat.min_eq_left (Nat.sub_le_sub_right h2 _)
  · intro hi
    subst hi
    exact h.geo.2.1 g (by rw [List.head?_eq_getElem?]; exact hg)

theorem update_geo (hrc : ComposeGeoSpec env.recompose) {c : Ctx} (h : GeoPre c) : GeoInv (update env c) :=
  ⟨⟨hrc.geo _ _ _ h.geo⟩, hrc.bounded _ _ _ h.geo⟩

theorem modLastSeg_pre {c : Ctx} (h : GeoPre c) {f : Seg → Seg} {g : Seg} (hg : c.comp.segs.getLast? = some g)
    (hf : SegGeo g → SegGeo (f g) ∧ (f g).start = g.start) : GeoPre (c.modLastSeg f) :=
  ⟨geoOK_modLast h.geo (fun _ hg' hs => by cases hg.symm.trans hg'; exact hf hs)⟩

theorem modLastSeg_geo {c : Ctx} (h : GeoInv c) {f : Seg → Seg} {g : Seg} (hg : c.comp.segs.getLast? = some g)
    (hf : SegGeo g → SegGeo (f g) ∧ (f g).start = g.start ∧ (f g).stop ≤ g.stop) : GeoInv (c.modLastSeg f) := by
  have hf := hf (h.geo.getLast hg)
  refine GeoInv.mk' (modLastSeg_pre h.toGeoPre hg (fun _ => ⟨hf.1, hf.2.1⟩)).geo (Nat.le_trans ?_ h.end_le)
  show endOf (modLast c.comp.segs f) ≤ endOf c.comp.segs
  rw [eq_snoc_of_getLast? hg, modLast_concat, endOf_snoc, endOf_snoc]
  exact hf.2.2

theorem modComp_forward_geo {c : Ctx} (h : GeoInv c) : GeoInv (c.modComp (fun k => k.forward.1)) := by
  have hf := forward_geo h.geo
  refine GeoInv.mk' hf.1 ?_
  show endOf c.comp.forward.1.segs ≤ c.comp.forward.1.input.length
  rw [hf.2, forward_input]
  exact h.end_le

theorem beginEditingRev_geo {l : List Seg} (h : RGeo l) :
    RGeo (beginEditingRev l) ∧ rend (beginEditingRev l) = rend l := by
  induction l with
  | nil => exact ⟨h, rfl⟩
  | cons g rest ih =>
    unfold beginEditingRev
    split
    · exact ⟨h, rfl⟩
    · split
      · exact ⟨⟨h.1, h.2.1.same rfl rfl rfl, h.2.2⟩, rfl⟩
      · have ih := ih h.tail
        exact ⟨⟨by rw [ih.2]; exact h.1, h.2.1, ih.1⟩, rfl⟩

theorem beginEditing_geo {c : Ctx} (h : GeoInv c) : GeoInv c.beginEditing := by
  have hr := beginEditingRev_geo ((geoOK_iff_rgeo _).mp h.geo)
  refine GeoInv.mk' ?_ ?_
  · show GeoOK (beginEditingRev c.comp.segs.reverse).reverse
    exact (rgeo_iff_geoOK _).mp hr.1
  · show endOf (beginEditingRev c.comp.segs.reverse).reverse ≤ c.comp.input.length
    rw [endOf_reverse, hr.2, rend_reverse]
    exact h.end_le

theorem reopenPreviousSegment_geo (hrc : ComposeGeoSpec env.recompose) {c : Ctx} (h : GeoInv c) :
    GeoInv (reopenPreviousSegment env c).1 := by
  unfold reopenPreviousSegment
  have ht : GeoOK c.comp.trim.1.segs := (trim_geo h.geo).1
  generalize c.comp.trim = kt at ht
  refine fst_ite (update_geo hrc ?_) h
  have h1 : GeoPre { c with comp := kt.1 } := ⟨ht⟩
  split
  · exact ite_cases GeoPre (fun _ => modLastSeg_pre h1 ‹_› (fun hs => segGeo_reopen hs _)) (fun _ => h1)
  · exact h1

theorem reopenSelRev_geo (caret : Nat) {l : List Seg} (hl : RGeo l) :
    ∀ r, reopenSelRev caret l = some r → RGeo r := by
  induction l with
  | nil => exact fun _ h => nomatch h
  | cons g rest ih =>
    unfold reopenSelRev
    refine some_ite (fun _ h => nomatch h) (some_ite (some_ite (fun _ h => nomatch h) ?_) (ih hl.tail))
    intro r h
    cases h
    have hg := segGeo_reopen hl.2.1 caret
    exact ⟨by rw [hg.2]; exact hl.1, hg.1, hl.2.2⟩

theorem reopenPreviousSelection_geo (hrc : ComposeGeoSpec env.recompose) {c : Ctx} (h : GeoInv c) :
    GeoInv (reopenPreviousSelection env c).1 := by
  unfold reopenPreviousSelection
  split
  · exact h
  · rename_i r hr
    exact update_geo hrc ⟨(rgeo_iff_geoOK _).mp (reopenSelRev_geo _ ((geoOK_iff_rgeo _).mp h.geo) r hr)⟩

theorem dropNonConfirmedRev_geo {l : List Seg} (h : RGeo l) :
    RGeo (dropNonConfirmedRev l).1 ∧ rend (dropNonConfirmedRev l).1 ≤ rend l := by
  induction l with
  | nil => exact ⟨h, Nat.le_refl _⟩
  | cons g rest ih =>
    unfold dropNonConfirmedRev
    split
    · have ih := ih h.tail
      refine ⟨ih.1, Nat.le_trans ih.2 ?_⟩
      show rend rest ≤ g.stop
      rw [← h.1]; exact h.2.1.1
    · exact ⟨h, Nat.le_refl _⟩

theorem clearNonConfirmedComposition_geo {c : Ctx} (h : GeoInv c) : GeoInv (clearNonConfirmedComposition c).1 := by
  unfold clearNonConfirmedComposition
  have hd := dropNonConfirmedRev_geo ((geoOK_iff_rgeo _).mp h.geo)
  generalize dropNonConfirmedRev c.comp.segs.reverse = p at hd
  refine fst_ite (modComp_forward_geo (GeoInv.mk' ((rgeo_iff_geoOK _).mp hd.1) ?_)) h
  show endOf p.1.reverse ≤ c.comp.input.length
  rw [endOf_reverse]
  exact Nat.le_trans hd.2 (by rw [rend_reverse]; exact h.end_le)

end RimeModel.Session
