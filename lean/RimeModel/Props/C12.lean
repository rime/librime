import RimeModel.C12.Lemmas
import RimeModel.C12.Cover
import RimeModel.C12.Example
/-!
# C12 — redeploying yields what a clean deploy of the current sources yields

Model: `RimeModel/C12/Model.lean` (ported from `deployment_tasks.cc`,
`dict_compiler.cc`), plan and hypotheses: `RimeModel/C12/Spec.lean`.

Hypotheses, all explicit:
* `CompilerOK E` — the config compiler records in `__build_info/timestamps` the mtime of every resource it read
  and its output depends on nothing else (C14's subject);
* `CkOK E` — "checksum injective on the contents at hand" (CRC32 collisions, and the concatenation the code
  feeds it, are outside);
* `Stamped cat S` for every source state of the history — "edits change mtime", as far as the deployer records
  it: a file seen twice with the same recorded time `recorded mtime` (what `BuildInfoPlugin` writes and
  `ConfigNeedsUpdate` compares, re-read from the source on every run: `Gen.DeployFacts.timestampBits`) has the same
  content; `PosTimes` — no file is recorded with time 0.
  With 64-bit timestamps (`timestampBits = 64`, librime after the fix proposed in hooks/C12_fix_proposal2.diff)
  `recorded` is the identity (`recorded_of_64`) and these are literally the property's "distinct modification
  times" plus "no file has mtime 0" (`stamped_of_64`, `posTimes_of_64`).
  With the `(int)` cast (`timestampBits = 32`) they are that only for mtimes less than 2³² s (136 years) apart
  (`castInt_inj_of_close`), wherever they lie — before or after 2038-01-19 (recorded negative) or 2106-02-07
  (recorded small); two mtimes a multiple of 2³² s apart are recorded alike, a multiple of 2³² s is recorded as
  "absent" (`old_int_cast_counterexample`): there the property fails on the real code (corpus/C12/int_cast_*.json);
* `SourcesOK E S` — the final sources are deployable: `default` has a schema list, every listed schema has a
  valid source, every reachable valid schema compiles and has its dictionary and pack sources
  (reuse-without-source and failed builds are excluded: there a stale artefact survives by design);
* `Functional (plan E S)` (idempotence / no-stale-use only) — no artefact file is claimed with two different
  contents: one prism name per schema, a pack belongs to one primary dictionary, …
-/
namespace C12
open RimeModel.C12

set_option linter.unusedSectionVars false

variable {K : Type} [DecidableEq K] {cat : Rid → Stamp → Content}

/-! ### the recorded time -/

/-- the translator understood how the tree at hand stores and reads the source timestamps, and writer and reader
agree (fails to build — fail closed — when `gen/deploy_facts.py` reports the shape as unknown) -/
theorem timestamp_width_known :
    RimeModel.Gen.DeployFacts.timestampBits = 32 ∨ RimeModel.Gen.DeployFacts.timestampBits = 64 := by decide

/-- 64-bit timestamps: the recorded time is the mtime itself -/
theorem recorded_of_64 (h : RimeModel.Gen.DeployFacts.timestampBits = 64) (t : Time) : recorded t = t := by
  simp [recorded, h]

/-- `(int)` timestamps: the recorded time is the truncated mtime -/
theorem recorded_of_32 (h : RimeModel.Gen.DeployFacts.timestampBits = 32) (t : Time) : recorded t = castInt t := by
  simp [recorded, h]

/-- with 64-bit timestamps the hypothesis `Stamped` is the property's own "edits change the modification time":
any assignment of contents to (file, mtime) pairs will do -/
theorem stamped_of_64 (h : RimeModel.Gen.DeployFacts.timestampBits = 64) (S : Src)
    (hS : ∀ r c t, S r = some (c, t) → c = cat r t) : Stamped cat S := by
  intro r c t hr
  rw [recorded_of_64 h]
  exact hS r c t hr

/-- with 64-bit timestamps the hypothesis `PosTimes` is "no file has mtime 0" -/
theorem posTimes_of_64 (h : RimeModel.Gen.DeployFacts.timestampBits = 64) (S : Src)
    (hS : ∀ r c t, S r = some (c, t) → t ≠ 0) : PosTimes S := by
  intro r c t hr
  rw [recorded_of_64 h]
  exact hS r c t hr

/-- **record of a defect found by this check** (librime ≤ 45d2b2d, `timestampBits = 32`): under the `(int)` cast two
different mtimes are recorded alike, and a non-zero mtime is recorded as 0 = "absent" — so an edit that moves the
mtime by 2³² s, or a source dated 2106-02-07T06:28:16Z, is invisible to `ConfigNeedsUpdate` (the model's
`stampStale` answers "not stale" for a changed / an added file). -/
theorem old_int_cast_counterexample :
    (1500000098 : Int) ≠ 1500000098 + 4294967296 ∧ castInt 1500000098 = castInt (1500000098 + 4294967296) ∧
    (4294967296 : Int) ≠ 0 ∧ castInt 4294967296 = 0 := by decide

/-! #### the `(int)` cast (`last_build_time` in both variants; the source timestamps of the 32-bit one) -/

/-- the cast is the identity on the range of an `int` (every date from 1901-12-13 to 2038-01-19) -/
theorem castInt_id (t : Int) (h1 : -2147483648 ≤ t) (h2 : t < 2147483648) : castInt t = t := by
  unfold castInt; omega

/-- the recorded time is always an `int` -/
theorem castInt_range (t : Int) : -2147483648 ≤ castInt t ∧ castInt t < 2147483648 := by
  unfold castInt; omega

/-- two mtimes are recorded alike exactly when they are a multiple of 2³² s apart -/
theorem castInt_eq_iff (t t' : Int) : castInt t = castInt t' ↔ (t - t') % 4294967296 = 0 := by
  unfold castInt
  rw [Int.sub_left_inj, Int.emod_eq_emod_iff_emod_sub_eq_zero, Int.add_sub_add_right]

/-- so the recorded time tells apart any two different mtimes less than 2³² s (≈ 136 years) apart, on whichever
side of 2038 or 2106 they lie: "distinct modification times" survive the cast -/
theorem castInt_inj_of_close (t t' : Int) (h1 : t - t' < 4294967296) (h2 : t' - t < 4294967296)
    (h : castInt t = castInt t') : t = t' := by
  rw [castInt_eq_iff] at h
  omega

/-- a clock reading between 2038-01-19 and 2106-02-07 is stored as a negative number -/
theorem castInt_neg_2038 (t : Int) (h1 : 2147483648 ≤ t) (h2 : t < 4294967296) : castInt t < 0 := by
  unfold castInt; omega

/-- past the epoch, the stored time is never later than the time itself -/
theorem castInt_le_self (t : Int) (h : 0 ≤ t) : castInt t ≤ t := by
  unfold castInt; omega

/-- a date in 2040 is recorded as a negative number, one in 2106 as a small one -/
example : castInt 2208988812 = -2085978484 ∧ castInt 4294967301 = 5 ∧ castInt 1500000000 = 1500000000 := by decide

/-- **C12, main clause.**  Deploying sources `S` over any consistent staging directory `A` leaves every
artefact that a clean deployment (empty staging directory) of `S` produces — compiled configs, tables,
prisms, reverse dbs, packs — with identical recorded fingerprints and identical content, and returns the same
verdict. -/
theorem deploy_eq_clean {E : Env K} (hC : CompilerOK E) (hK : CkOK E) {S : Src} (hS : SourcesOK E S)
    (hSt : Stamped cat S) {A : Arts K} (hA : Consistent E cat A) (now now' : Time) :
    AgreeOn (deploy E S now A).1 (deploy E S now' Arts.empty).1 ∧
    (deploy E S now A).2.1 = (deploy E S now' Arts.empty).2.1 := by
  have h1 := workspaceUpdate_spec hC hK hS hSt hA now
  have h2 := workspaceUpdate_spec hC hK hS hSt (consistent_empty E cat) now'
  unfold deploy
  rw [h1.1, h2.1, h1.2.1, h2.2.1]
  have := AgreeOn.applyAssigns (plan E S) (AgreeOn.empty A)
  exact ⟨⟨this.cfg, this.table, this.prism, this.reverse⟩, rfl⟩

/-- Consistency is an invariant of deployment (so the hypothesis of `deploy_eq_clean` holds along any
history that starts from an empty — or any consistent — staging directory). -/
theorem deploy_consistent {E : Env K} (hC : CompilerOK E) (hK : CkOK E) {S : Src} (hS : SourcesOK E S)
    (hSt : Stamped cat S) {A : Arts K} (hA : Consistent E cat A) (now : Time) :
    Consistent E cat (deploy E S now A).1 :=
  (workspaceUpdate_spec hC hK hS hSt hA now).2.2.1

/-- consistency speaks of the tools only: the compiler and the checksums -/
theorem consistent_congr {E E' : Env K} (h : SameTools E E') {A : Arts K} (hA : Consistent E cat A) :
    Consistent E' cat A := by
  cases E
  cases E'
  obtain ⟨rfl, rfl, rfl, rfl⟩ := h
  exact ⟨hA.cfg, hA.table, hA.prism, hA.reverse⟩

theorem runHistory_consistent {E0 : Env K} (h : List (Step K)) :
    ∀ {A : Arts K}, Consistent E0 cat A →
      (∀ e ∈ h, SameTools E0 e.1 ∧ CompilerOK e.1 ∧ CkOK e.1 ∧ SourcesOK e.1 e.2.1 ∧ Stamped cat e.2.1) →
      Consistent E0 cat (runHistory A h) := by
  intro A hA hh
  refine foldl_inv (P := Consistent E0 cat) h (fun e he A hA => ?_) hA
  obtain ⟨t, c, k, s, st⟩ := hh e he
  exact consistent_congr ⟨t.1 ▸ rfl, t.2.1 ▸ rfl, t.2.2.1 ▸ rfl, t.2.2.2 ▸ rfl⟩
    (deploy_consistent c k s st (consistent_congr t hA) e.2.2)

/-- **C12 over histories.**  For any history of source states, each followed by a deployment, starting from
an empty staging directory (or any consistent one), the artefacts after the last deployment are those of a
clean deployment of the final sources — provided every state of the history is deployable and mtimes identify
contents along the history. -/
theorem history_eq_clean {E0 : Env K} (h : List (Step K)) (last : Step K) {A : Arts K}
    (hA : Consistent E0 cat A)
    (hh : ∀ e ∈ h ++ [last], SameTools E0 e.1 ∧ CompilerOK e.1 ∧ CkOK e.1 ∧ SourcesOK e.1 e.2.1 ∧
      Stamped cat e.2.1) (now' : Time) :
    AgreeOn (runHistory A (h ++ [last])) (deploy last.1 last.2.1 now' Arts.empty).1 := by
  obtain ⟨t, c, k, s, st⟩ := hh last (by simp)
  have hc := runHistory_consistent (cat := cat) h hA (fun e he => hh e (by simp [he]))
  simp only [runHistory, List.foldl_append, List.foldl_cons, List.foldl_nil]
  exact (deploy_eq_clean c k s st (consistent_congr t hc) last.2.2 now').1

/-- **No stale artefact in use.**  After a deployment, for every schema reachable from the schema list whose
source is valid, every artefact it resolves (compiled schema, table, reverse db, prism, packs) is the one
built from the *current* sources and records their fingerprints — provided no file is claimed with two
contents. -/
theorem no_stale_use {E : Env K} (hC : CompilerOK E) (hK : CkOK E) {S : Src} (hS : SourcesOK E S)
    (hSt : Stamped cat S) {A : Arts K} (hA : Consistent E cat A) (hF : Functional (plan E S)) (now : Time)
    {c0 : CfgArt} {l : List String} (hc0 : E.compile .default S = some c0) (hl : c0.schemaList = some l)
    {sid : String} (hr : Reach E S l sid) (hp : E.schemaPresent sid = true) (hok : E.schemaOk sid = true) :
    ∀ a ∈ schemaAssigns E S sid, (deploy E S now A).1.Holds a := by
  intro a ha
  unfold deploy
  rw [(workspaceUpdate_spec hC hK hS hSt hA now).1]
  exact holds_lastBuild (castInt now)
    (holds_applyAssigns hF A ((mem_plan_iff hc0 hl).2 (Or.inr ⟨sid, hr, hp, hok, ha⟩)))

/-- the same, spelled out for the primary table and the prism of a schema -/
theorem no_stale_use_dict {E : Env K} (hC : CompilerOK E) (hK : CkOK E) {S : Src} (hS : SourcesOK E S)
    (hSt : Stamped cat S) {A : Arts K} (hA : Consistent E cat A) (hF : Functional (plan E S)) (now : Time)
    {c0 : CfgArt} {l : List String} (hc0 : E.compile .default S = some c0) (hl : c0.schemaList = some l)
    {sid : String} (hr : Reach E S l sid) (hp : E.schemaPresent sid = true) (hok : E.schemaOk sid = true)
    {c : CfgArt} (hc : E.compile (.schema sid) S = some c) {d : String} (hd : c.dict = some d) :
    (deploy E S now A).1.cfg (.schema sid) = some c ∧
    (deploy E S now A).1.table d = some ⟨E.ck E.zero (filesOf E d), none, filesOf E d⟩ ∧
    (deploy E S now A).1.prism c.prism =
      some ⟨E.ck E.zero (filesOf E d), E.fck c, Syl.of (filesOf E d), c⟩ := by
  have h := no_stale_use hC hK hS hSt hA hF now hc0 hl hr hp hok
  simp only [schemaAssigns, hc, hd, dictAssigns, List.forall_mem_cons, List.forall_mem_append] at h
  exact ⟨h.1, h.2.1.1, h.2.1.2.2.1⟩

/-- **A deployment with no source change rewrites no build artefact and succeeds as before.**  Deploying the
same sources again leaves the staging directory as it is (only `last_build_time` moves), returns the same
verdict, and its log contains no write at all — provided no file is claimed with two contents. -/
theorem deploy_idempotent_no_write {E : Env K} (hC : CompilerOK E) (hK : CkOK E) {S : Src} (hS : SourcesOK E S)
    (hSt : Stamped cat S) {A : Arts K} (hA : Consistent E cat A) (hF : Functional (plan E S)) (now now' : Time) :
    (deploy E S now' (deploy E S now A).1).1 = { (deploy E S now A).1 with lastBuild := castInt now' } ∧
    (deploy E S now' (deploy E S now A).1).2.1 = (deploy E S now A).2.1 ∧
    NoWrites (deploy E S now' (deploy E S now A).1).2.2 := by
  have h1 := workspaceUpdate_spec hC hK hS hSt hA now
  have h2 := workspaceUpdate_spec hC hK hS hSt h1.2.2.1 now'
  -- the first deployment leaves the whole plan in place, so the second assigns what is there already
  have hholds : ∀ a ∈ plan E S, (workspaceUpdate E S now A).1.Holds a := by
    intro a ha
    rw [h1.1]
    exact holds_lastBuild (castInt now) (holds_applyAssigns hF A ha)
  unfold deploy
  exact ⟨by rw [h2.1, applyAssigns_of_holds _ hholds], by rw [h2.2.1, h1.2.1], h2.2.2.2 hholds⟩

/-! ### the pre-filter of `start_maintenance(False)` -/

/-- **`DetectModifications`** fires exactly when the stored `last_build_time` is negative (the maximum starts
from `time_t last_modified = 0`) or one of the scanned mtimes (the two data directories and their top-level
`*.yaml` files other than `user.yaml`, as 64-bit `time_t`) is later than it. -/
theorem detect_modifications_lemma (mtimes : List Time) (lastBuild : Stamp) :
    detectModifications mtimes lastBuild = true ↔ lastBuild < 0 ∨ ∃ t ∈ mtimes, t > lastBuild := by
  unfold detectModifications
  simp only [decide_eq_true_eq]
  rw [foldl_max_gt]

/-- the year-2038 behaviour of the pre-filter, as the code has it: a deployment that finishes between 2038-01-19
and 2106-02-07 stores a negative `last_build_time`, after which the pre-filter always fires (it errs on the side
of deploying; the deployment itself then rewrites nothing — `deploy_idempotent_no_write`). -/
theorem detect_fires_after_2038 {E : Env K} {S : Src} (now : Int) (A : Arts K) (mtimes : List Time)
    (h1 : 2147483648 ≤ now) (h2 : now < 4294967296)
    (hdep : ∃ c l, E.compile .default S = some c ∧ c.schemaList = some l)
    (hA : configNeedsUpdate S (A.cfg .default) = true) :
    detectModifications mtimes (deploy E S now A).1.lastBuild = true := by
  obtain ⟨c, l, hc, hl⟩ := hdep
  rw [detect_modifications_lemma, deploy_lastBuild now hc hl hA]
  exact Or.inl (castInt_neg_2038 now h1 h2)

/-- when a data directory, or an entry of one, cannot be examined (a dangling link: `fs::canonical` throws), the
pre-filter answers "modified" — it never answers "nothing to do" on information it could not read, so the full
deployment (to which the theorems above apply) runs. -/
theorem detect_fires_on_unreadable_entry : detectModificationsOnError = true := rfl

/-- so an edit of a scanned `*.yaml` made after a deployment finished (mtime later than the `time(NULL)`
that deployment stored; the clock past the epoch) is always detected; an edit whose mtime is not later (made while
the deployment ran, or restored with an old mtime), and any `*.txt` / sub-directory file, is not — by
construction. -/
theorem detect_after_deploy {E : Env K} {S : Src} (now : Int) (hnow : 0 ≤ now) (A : Arts K) (mtimes : List Time)
    (t : Int) (ht : t ∈ mtimes) (hlater : t > now)
    (hdep : (E.compile .default S).isSome ∧ ∀ c, E.compile .default S = some c → c.schemaList.isSome)
    (hA : configNeedsUpdate S (A.cfg .default) = true) :
    detectModifications mtimes (deploy E S now A).1.lastBuild = true := by
  obtain ⟨c, hc⟩ := Option.isSome_iff_exists.1 hdep.1
  obtain ⟨l, hl⟩ := Option.isSome_iff_exists.1 (hdep.2 c hc)
  rw [detect_modifications_lemma, deploy_lastBuild now hc hl hA]
  exact Or.inr ⟨t, ht, Int.lt_of_le_of_lt (castInt_le_self now hnow) hlater⟩

/-! ### non-vacuity: a concrete workspace (two schemas, one a dependency of the other, a shared default, a
pack) meets every hypothesis; the staging directory left by deploying an *earlier* version of the sources is
consistent, and redeploying after the edit really decides a mix of "rebuild" and "reuse". -/
section NonVacuity
open RimeModel.C12.Ex

/-- the staging directory after deploying the earlier sources `exS0` into an empty one -/
example : Consistent exE exCat (deploy exE exS0 15 (Arts.empty : Arts ExK)).1 :=
  deploy_consistent exCompilerOK exCkOK (exSourcesOK _ (Or.inr rfl)) (exStamped _ (Or.inr rfl))
    (consistent_empty exE exCat) 15

/-- all hypotheses of `deploy_eq_clean`, `no_stale_use`, `deploy_idempotent_no_write` at once -/
example : CompilerOK exE ∧ CkOK exE ∧ SourcesOK exE exS ∧ Stamped exCat exS ∧ Functional (plan exE exS) ∧
    (plan exE exS).length = 10 :=
  ⟨exCompilerOK, exCkOK, exSourcesOK _ (Or.inl rfl), exStamped _ (Or.inl rfl), exFunctional, by decide +kernel⟩

/-- the incremental deployment after editing `sa.schema.yaml` rebuilds that config and the prism of `sa`,
and reuses the table, the pack and everything of `sb` (whose source is dated 2040: recorded as a negative `int`,
compared through the same cast) -/
example : (deploy exE exS 20 (deploy exE exS0 15 (Arts.empty : Arts ExK)).1).2.2 =
    [.cfgDecision .default false, .cfgDecision (.schema "sa") true, .wroteCfg (.schema "sa"),
     .dictDecision "da" false true, .wrotePrism "sa", .packDecision "pk" false,
     .cfgDecision (.schema "sb") false, .dictDecision "db" false false] := by decide +kernel

/-- the conclusion of `history_eq_clean` instantiated on the two-step history -/
example : AgreeOn (runHistory (Arts.empty : Arts ExK) ([(exE, exS0, 15)] ++ [(exE, exS, 20)]))
    (deploy exE exS 99 Arts.empty).1 :=
  history_eq_clean (E0 := exE) (cat := exCat) [(exE, exS0, 15)] (exE, exS, 20) (consistent_empty exE exCat)
    (List.forall_mem_cons.2
      ⟨⟨⟨rfl, rfl, rfl, rfl⟩, exCompilerOK, exCkOK, exSourcesOK _ (Or.inr rfl), exStamped _ (Or.inr rfl)⟩,
        List.forall_mem_cons.2
          ⟨⟨⟨rfl, rfl, rfl, rfl⟩, exCompilerOK, exCkOK, exSourcesOK _ (Or.inl rfl), exStamped _ (Or.inl rfl)⟩,
            fun _ h => nomatch h⟩⟩)
    99

example : detectModifications [10, 11, 12, 21] 20 = true ∧ detectModifications [10, 11, 12] 20 = false ∧
    detectModifications [10, 2208988812] 20 = true ∧ detectModifications [10] (castInt 2208988812) = true := by
  decide

end NonVacuity

end C12
