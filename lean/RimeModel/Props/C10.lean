import RimeModel.C10.Model
import RimeModel.C10.Lemmas
import RimeModel.C10.Rank
import RimeModel.C10.Examples
import RimeModel.C10.Encoder
/-!
# C10 — what the user commits is learned, ranked no worse next time, can be forgotten

Theorems about the model in `RimeModel/C10/Model.lean` and `RimeModel/C10/Encoder.lean` (line-by-line ports of `UserDictionary::UpdateEntry`,
the LevelDb transaction layer it writes through, `Memory::OnCommit`, `Script/TableTranslator::Memorize`,
`CreateDictEntry` and the user/system merge of the translations).  All statements are for arbitrary
dictionaries, arbitrary prior states of the user dictionary (any history) and arbitrary compositions.

The floating-point record fields are abstract (`DeeOps`): nothing below depends on `formula_d`;
`rank_no_worse_partial` assumes an explicit order law of the weight function (`Gain`), which the harness
samples on the real `formula_d` / `formula_p`.
-/
namespace RimeModel.C10
namespace C10

variable {D : Type}

/-- **the count after a commit, exactly** (what the code does): the stored count of every key is the fold of
the `UpdateEntry` calls the commit issues for that key, in order, over the count stored when the commit began
(0 for an absent record) — each call reads what the earlier calls of the same transaction wrote. -/
theorem commit_count_fold (ops : DeeOps D) (st : Style) (u : UD D) (segs : List Seg) (now : Int) (k : Key) :
    (afterCommit ops st u segs now).count k =
      (updatesOf (commitUpdates st segs) k).foldl newCount ((beforeCommit u).count k) := by
  rw [afterCommit_eq, count_applyUpdates ops _ _ (closed_newTransaction u now), newTransaction_pending]

/-- **+1 on exactly the committed keys, at full strength.**  For every key `k`, with `c` the count stored when
the commit began and `m = commitTimes … k` the number of times the commit commits `k`: a key that is not
committed (`m = 0`; possibly touched with `commits 0` as an element) keeps its count; a committed key ends at
`|c| + m` — a deleted record (`c < 0`) is revived, and every commit entry (script style) / every selected
element (table style) that carries the key raises it by one; see `commit_times_script`, `commit_times_table`. -/
theorem commit_plus_one (ops : DeeOps D) (st : Style) (u : UD D) (segs : List Seg) (now : Int) (k : Key) :
    (afterCommit ops st u segs now).count k =
      if commitTimes st segs k = 0 then (beforeCommit u).count k
      else (((beforeCommit u).count k).natAbs : Int) + commitTimes st segs k := by
  rw [commit_count_fold]
  exact fold_newCount _ (updatesOf_commitUpdates st segs k) _

/-- script style: how often a key is committed = the number of commit entries `Memory::OnCommit` saves with that
key (text and concatenated code) -/
theorem commit_times_script (segs : List Seg) (k : Key) :
    commitTimes Style.script segs k = ((groupCommit segs).filter (fun c => c.key = k)).length := by
  unfold commitTimes commitUpdates
  generalize groupCommit segs = ces
  induction ces with
  | nil => rfl
  | cons c rest ih =>
    rw [List.flatMap_cons, updatesOf_append, ones_append, ih, List.filter_cons]
    show ones (updatesOf (memorizeScript c) k) + _ = _
    rw [ones_updatesOf_memorizeScript]
    by_cases h : c.key = k
    · rw [if_pos h, if_pos (decide_eq_true h), List.length_cons, Nat.add_comm]
    · rw [if_neg h, if_neg (mt of_decide_eq_true h), Nat.zero_add]

/-- table style: how often a key is committed = the number of its occurrences among the elements (the
candidates the user picked) of the saved commit entries -/
theorem commit_times_table (segs : List Seg) (k : Key) :
    commitTimes Style.table segs k = (((groupCommit segs).flatMap (·.elements)).filter (fun e => e.key = k)).length := by
  have e : commitUpdates Style.table segs =
      ((groupCommit segs).flatMap (·.elements)).map (fun e => (e.key, (1 : Int))) := List.map_flatMap.symm
  rw [commitTimes, e, ones_updatesOf_map, if_pos rfl]

/-- every commit entry the script translator memorizes is raised by at least one -/
theorem commit_entry_raised (ops : DeeOps D) (u : UD D) (segs : List Seg) (now : Int) (c : CommitEntry)
    (h : c ∈ groupCommit segs) :
    (afterCommit ops Style.script u segs now).count c.key ≥ (((beforeCommit u).count c.key).natAbs : Int) + 1 := by
  have hm : commitTimes Style.script segs c.key ≠ 0 := by
    rw [commit_times_script]
    exact Nat.ne_of_gt (List.length_pos_of_mem (List.mem_filter.2 ⟨h, decide_eq_true rfl⟩))
  rw [commit_plus_one, if_neg hm]
  exact Int.add_le_add_left (Int.natCast_pos.2 (Nat.pos_of_ne_zero hm)) _

/-- **frame**: a key that is not the key of any `UpdateEntry` call of the commit keeps its record, bit for bit. -/
theorem commit_frame (ops : DeeOps D) (st : Style) (u : UD D) (segs : List Seg) (now : Int) (k : Key)
    (h : k ∉ (commitUpdates st segs).map (·.1)) :
    (afterCommit ops st u segs now).get? k = (beforeCommit u).get? k := by
  rw [afterCommit_eq, get?_applyUpdates ops _ _ (closed_newTransaction u now) k h, newTransaction_pending]

/-- **no entry of another code is altered**: a key whose code is not the code of a committed entry or of one
of its touched elements keeps its record. -/
theorem commit_frame_code (ops : DeeOps D) (st : Style) (u : UD D) (segs : List Seg) (now : Int) (k : Key)
    (h : k.code ∉ (commitUpdates st segs).map (·.1.code)) :
    (afterCommit ops st u segs now).get? k = (beforeCommit u).get? k := by
  apply commit_frame
  intro hm
  obtain ⟨p, hp, e⟩ := List.mem_map.1 hm
  exact h (List.mem_map.2 ⟨p, hp, congrArg Key.code e⟩)

/-! ## deletion -/

/-- **deletion marks the record**: outside a transaction (a candidate list exists only after a translator
query, which closes the pending transaction and empties the batch — `closed_*` in `C10/Lemmas.lean` show that
`inTxn = false → batch = []` is an invariant of every operation of `Model.lean`) deleting an entry stores `c' = min(-1, -c)`
durably at once, opens no transaction and leaves every other record alone. -/
theorem delete_marks (ops : DeeOps D) (u : UD D) (e : Entry) (h : u.inTxn = false) (hb : u.batch = []) :
    (u.onDelete ops e).durable.count e.key = min (-1) (-(u.durable.count e.key)) ∧
    (u.onDelete ops e).durable.count e.key < 0 ∧
    (u.onDelete ops e).inTxn = false ∧
    ∀ k, k ≠ e.key → (u.onDelete ops e).durable.get? k = u.durable.get? k := by
  unfold UD.onDelete
  have hcl : u.Closed := fun _ => hb
  have hd := updateEntry_durable ops u e.key (-1) hcl h
  have hc : (u.updateEntry ops e.key (-1)).durable.count e.key = min (-1) (-(u.durable.count e.key)) := by
    rw [hd, Db.count_put, if_pos rfl, updateValue_commits]
    rfl
  refine ⟨hc, ?_, (store_inTxn u _ _ _).trans h, fun k hk => ?_⟩
  · rw [hc]
    exact Int.lt_of_le_of_lt (Int.min_le_left _ _) (by decide)
  · rw [hd, Db.get?_put, if_neg (fun e' => hk e'.symm)]

/-- **a deleted entry is never offered by the user dictionary**: if the stored count of `k` is negative, no
candidate of the (sorted, rotated) user-dictionary result for any code carries key `k` — whatever the
weights, the present tick and the rest of the db. -/
theorem deleted_hidden (ops : DeeOps D) (db : Db D) (hn : db.keys.Nodup) (present : Nat) (code : Code) (k : Key)
    (h : db.count k < 0) :
    ∀ c ∈ rotateExact (sortByWeight (userExact ops db present code)), c.key ≠ k := by
  intro c hc hk
  obtain ⟨v, hg, _, hv, _, _⟩ := (mem_userExact ops db hn present code c).1 ((mem_lookup c _).1 hc)
  unfold Db.count at h
  rw [← hk, hg] at h
  exact absurd hv (Int.not_le.2 h)

/-- **revive**: committing a deleted entry again (`c < 0`, committed `m ≥ 1` times) stores `-c + m > 0`, and the
entry is offered by the user dictionary again. -/
theorem revive (ops : DeeOps D) (st : Style) (u : UD D) (segs : List Seg) (now : Int) (present : Nat) (k : Key)
    (hdel : (beforeCommit u).count k < 0)
    (h : commitTimes st segs k ≥ 1) :
    (afterCommit ops st u segs now).count k = -((beforeCommit u).count k) + commitTimes st segs k ∧
    ∃ c ∈ rotateExact (sortByWeight (userExact ops (afterCommit ops st u segs now) present k.code)), c.key = k := by
  have hm : commitTimes st segs k ≠ 0 := Nat.ne_of_gt h
  refine ⟨?_, offered_of_count_pos ops _ present k (afterCommit_count_pos ops st u segs now k hm)⟩
  rw [commit_plus_one, if_neg hm, Int.ofNat_natAbs_of_nonpos (Int.le_of_lt hdel)]

/-! ## grouping: what a commit stores -/

/-- **an assembled phrase is stored under the concatenated code and found for the whole input.**
A composition of recognized selections — all `kSelected` but the last, which reaches the end of the input
and is `kConfirmed`; one selection = a whole-input commit — is saved by `Memory::OnCommit` as exactly one
commit entry whose text and code are the concatenations.  In the script style its stored count becomes
`|c| + 1`, so the record is visible and the user-dictionary scan for the concatenated code — the code of the whole input —
offers it, as one candidate. -/
theorem assembled_phrase_stored (ops : DeeOps D) (u : UD D) (init : List Sel) (last : Sel) (now : Int) (present : Nat)
    (hrec : ∀ s ∈ init, s.recognized = true) (hlast : last.recognized = true)
    (hne : (init ++ [last]).flatMap (·.entry.text) ≠ []) :
    let key : Key := { code := (init ++ [last]).flatMap (·.entry.code), text := (init ++ [last]).flatMap (·.entry.text) }
    (groupCommit (selectedSegs init last)).map (·.key) = [key] ∧
    (afterCommit ops Style.script u (selectedSegs init last) now).count key = ((beforeCommit u).count key).natAbs + 1 ∧
    ∃ c ∈ rotateExact (sortByWeight (userExact ops (afterCommit ops Style.script u (selectedSegs init last) now) present key.code)),
      c.key = key := by
  intro key
  have hkey : (assemble (init ++ [last])).key = key := assemble_key _
  have hne' : (assemble (init ++ [last])).key.text ≠ [] := by rw [hkey]; exact hne
  have hm : commitTimes Style.script (selectedSegs init last) key = 1 := by
    rw [commitTimes, commitUpdates_selected init last hrec hlast hne', ones_updatesOf_memorizeScript, if_pos hkey]
  refine ⟨?_, ?_, offered_of_count_pos ops _ present key (afterCommit_count_pos ops _ u _ now key (by rw [hm]; decide))⟩
  · rw [groupCommit_selected init last hrec hlast hne', List.map_singleton, hkey]
  · rw [commit_plus_one, hm]
    rfl

/-- **table style**: `TableTranslator::Memorize` (no encoder) gives `+1` to every *element* of the commit
entries — the candidates the user picked, once per occurrence (that nothing is stored under the concatenated code is `commit_frame`). -/
theorem table_commit_plus_one (ops : DeeOps D) (u : UD D) (segs : List Seg) (now : Int) (k : Key)
    (h : k ∈ ((groupCommit segs).flatMap (·.elements)).map (·.key)) :
    (afterCommit ops Style.table u segs now).count k =
      (((beforeCommit u).count k).natAbs : Int) +
        (((groupCommit segs).flatMap (·.elements)).filter (fun e => e.key = k)).length := by
  have hm : commitTimes Style.table segs k ≠ 0 := by
    rw [commit_times_table]
    obtain ⟨e, he, hk⟩ := List.mem_map.1 h
    exact Nat.ne_of_gt (List.length_pos_of_mem (List.mem_filter.2 ⟨he, decide_eq_true hk⟩))
  rw [commit_plus_one, if_neg hm, commit_times_table]

/-! ## ranking -/

/- Full statement (not proved): for the real `formula_d` / `formula_p`, after a whole-input commit the text's
position in the candidate list is ≤ its previous position.  What is missing is the real-analysis fact `Gain`
about `exp`/`pow` under IEEE rounding and `%g` storage; it is a hypothesis below (sampled on the real formulas
by the harness, which also shows that plain monotonicity in `dee` is *false* at the branch point d = 20 of
`formula_p`, while `Gain` holds).  Also not covered: predictive (word-completion) user entries mixed into the
whole-input group, and spelling-algebra credibility offsets between entries of one group. -/

/-- **ranked no worse, list level (script translator).**  `Ub` / `Ua`: the exact-match user candidates of the
whole-input code before / after the commit of `T`, each sorted by weight descending with *any* order among
equal weights; `S`: the system phrases of that code; `sent`/`sent'`: what sentence composition would offer.
If within the code only `T`'s record changed (`hkeep`, which is `commit_frame`) and the committed entry gained on
every entry that did not outweigh it (`hgain`), the first candidate carrying `T`'s text is no later in the new
list than in the old one (a list without the text counts as position = its length: an assembled phrase). -/
theorem rank_no_worse_list (Ub Ua : List UCand) (T : Key) (t : UCand) (S : List Cand) (sent sent' : Option Bytes) (sfe : Bool)
    (hsb : SortedDesc Ub) (hsa : SortedDesc Ua)
    (hnb : (Ub.map (·.key)).Nodup) (hna : (Ua.map (·.key)).Nodup)
    (hcodeb : ∀ c ∈ Ub, c.key.code = T.code) (hcodea : ∀ c ∈ Ua, c.key.code = T.code)
    (hexb : ∀ c ∈ Ub, c.exact = true) (hexa : ∀ c ∈ Ua, c.exact = true)
    (ht : t ∈ Ua) (hk : t.key = T)
    (hkeep : ∀ c ∈ Ua, c.key ≠ T → ∃ c0 ∈ Ub, c0.key = c.key)
    (hgain : ∀ t0 ∈ Ub, t0.key = T → ∀ c ∈ Ua, c.key ≠ T → ∀ c0 ∈ Ub, c0.key = c.key →
      c0.weight ≤ t0.weight → c.weight < t.weight) :
    (scriptTop true sent' Ua S sfe).findIdx (fun c => decide (c.text = T.text)) ≤
      (scriptTop true sent Ub S sfe).findIdx (fun c => decide (c.text = T.text)) := by
  obtain ⟨pre, eb, hpre⟩ := scriptTop_exact sent Ub S sfe hexb
  obtain ⟨pre', ea, hpre'⟩ := scriptTop_exact sent' Ua S sfe hexa
  have hp' : pre' = [] := by
    rcases hpre' with h | h
    · exact h
    · rw [h] at ht; cases ht
  rw [ea, eb, hp', List.nil_append]
  exact rank_core Ub Ua T t pre S S hsb hsa hna hcodeb hcodea ht hk hkeep hgain hpre

/-- the same for the table translator: exact user phrases (sorted), exact table entries, predictive user
phrases, table completions -/
theorem rank_no_worse_table_list (Ub Ua : List UCand) (T : Key) (t : UCand) (Sx Sp Sx' Sp' : List Cand) (Up Up' : List UCand)
    (hsb : SortedDesc Ub) (hsa : SortedDesc Ua)
    (hnb : (Ub.map (·.key)).Nodup) (hna : (Ua.map (·.key)).Nodup)
    (hcodeb : ∀ c ∈ Ub, c.key.code = T.code) (hcodea : ∀ c ∈ Ua, c.key.code = T.code)
    (ht : t ∈ Ua) (hk : t.key = T)
    (hkeep : ∀ c ∈ Ua, c.key ≠ T → ∃ c0 ∈ Ub, c0.key = c.key)
    (hgain : ∀ t0 ∈ Ub, t0.key = T → ∀ c ∈ Ua, c.key ≠ T → ∀ c0 ∈ Ub, c0.key = c.key →
      c0.weight ≤ t0.weight → c.weight < t.weight) :
    (tableList Ua Sx' Up' Sp').findIdx (fun c => decide (c.text = T.text)) ≤
      (tableList Ub Sx Up Sp).findIdx (fun c => decide (c.text = T.text)) := by
  simp only [tableList, List.append_assoc]
  exact rank_core Ub Ua T t [] _ _ hsb hsa hna hcodeb hcodea ht hk hkeep hgain (Or.inl rfl)

/-- With the default `max_homographs` (1) the sentence-mode list for any `max_homographs` is `tableSentenceList`, the list
`table_sentence_rank_counterexample` speaks about: the table entries of a prefix are shown only when the user dictionary has none. -/
theorem tableSentenceListH_one (sentence : Option Bytes) (prefixes : List (List UCand × List Cand)) :
    tableSentenceListH 1 sentence prefixes = tableSentenceList sentence prefixes := by
  unfold tableSentenceListH tableSentenceList
  congr 2
  funext p
  generalize p.1 = us
  cases us with
  | nil => rfl
  | cons x xs => exact List.append_nil _

/-- Whatever `max_homographs` is, sentence mode lists every visible user phrase of every prefix (a learned phrase is
never displaced by the table entries of its prefix). -/
theorem sentence_mode_user_phrase_listed (mh : Nat) (sentence : Option Bytes) (prefixes : List (List UCand × List Cand))
    (p : List UCand × List Cand) (hp : p ∈ prefixes) (u : UCand) (hu : u ∈ p.1) :
    u.toCand ∈ tableSentenceListH mh sentence prefixes := by
  unfold tableSentenceListH
  refine List.mem_append_right _ ?_
  refine List.mem_flatMap.mpr ⟨p, hp, ?_⟩
  exact List.mem_append_left _ (List.mem_map.mpr ⟨u, hu, rfl⟩)

/-! ### table translator with `enable_encoder` (`RimeModel/C10/Encoder.lean`) -/

/-- A constructed phrase that is committed is stored under its plain key: blessing the prefixed key of `k` gives `k` back,
and the prefixed key is recognised as constructed. -/
theorem bless_addPrefix (k : Key) (c : Bytes) (r : Code) (hc : k.code = c :: r) :
    k.addPrefix.constructed = true ∧ k.addPrefix.bless = k := by
  have e : k.addPrefix = { k with code := (encPrefix ++ c) :: r } := by unfold Key.addPrefix; rw [hc]
  constructor
  · rw [e]; simp [Key.constructed, stripPrefix_append]
  · rw [e]
    simp only [Key.bless, stripPrefix_append]
    -- η for `Key`, with `hc` for the code
    cases k
    simp_all

/-- **encoder: the elements of a commit are counted as without encoder.**  When no element of the commit entry is a
constructed phrase and the encoder derives no code, `Memorize` with the encoder issues exactly the `UpdateEntry` calls of
`Memorize` without (`memorizeTable`: +1 on every element).  The step from equal calls to equal states of `UD.onCommitEnc` and `UD.onCommit` is
not stated. -/
theorem memorizeTableEnc_plain (cfg : EncCfg) (oracle : Bytes → List Bytes) (hist : List (String × Bytes)) (c : CommitEntry)
    (hp : ∀ e ∈ c.elements, e.key.constructed = false) (ho : ∀ p, oracle p = []) :
    memorizeTableEnc cfg oracle hist c = (memorizeTable c).map (fun p => Upd.plain p.1 p.2) := by
  unfold memorizeTableEnc memorizeTable
  have h2 : ((encodeCalls cfg hist c).flatMap fun pc =>
      (oracle pc.1).map fun code => Upd.enc { code := [code], text := pc.1 } (if pc.2 then 1 else 0)) = [] := by
    apply List.flatMap_eq_nil_iff.mpr
    intro pc _
    rw [ho]; rfl
  rw [h2, List.append_nil, List.map_map]
  apply List.map_congr_left
  intro e he
  simp [bless_plain _ (hp e he)]

/-- **encoder: frame.**  Inside the transaction of a commit, encoding a phrase — `UpdateEntry(entry, n, kEncodedPrefix)`
— writes one record, under the plain key `k` of the phrase if that exists and under the prefixed key otherwise; every other
key reads what it read before (no entry of another code or text is altered), and the durable db is left alone. -/
theorem encoded_update_frame (ops : DeeOps D) (u : UD D) (k : Key) (n : Int) (h : u.inTxn = true) (k' : Key)
    (h1 : k' ≠ k) (h2 : k' ≠ k.addPrefix) :
    (u.updateEntryPrefixed ops k n).1.fetch k' = u.fetch k' ∧ (u.updateEntryPrefixed ops k n).1.durable = u.durable := by
  have hc : u.Closed := closed_of_inTxn u h
  cases hf : u.fetch k with
  | some v =>
    rw [updateEntryPrefixed_of_some ops u k n v hf]
    exact ⟨(fetch_store u k _ n hc k').trans (if_neg (fun e => h1 e.symm)), store_durable _ _ _ _ h⟩
  | none =>
    rw [updateEntryPrefixed_of_none ops u k n hf]
    exact ⟨(fetch_store u _ _ n hc k').trans (if_neg (fun e => h2 e.symm)), store_durable _ _ _ _ h⟩

/-- **encoder: what is stored.**  A phrase without a plain record is written under the prefixed key from a fresh value:
its count is `n` (1 for an assembled commit, 0 for a phrase out of the commit history) whatever the prefixed key held before
— constructed records are rewritten, never counted up.  A phrase with a plain record (it was committed as a whole before) is
counted up there like any committed entry: `|c| + 1`, or unchanged for `n = 0`. -/
theorem encoded_update_count (ops : DeeOps D) (u : UD D) (k : Key) (n : Int) (h : u.inTxn = true) :
    (u.fetch k = none →
      (u.updateEntryPrefixed ops k n).2 = k.addPrefix ∧
      (u.updateEntryPrefixed ops k n).1.fetchCount k.addPrefix = newCount 0 n) ∧
    (∀ v, u.fetch k = some v →
      (u.updateEntryPrefixed ops k n).2 = k ∧
      (u.updateEntryPrefixed ops k n).1.fetchCount k = newCount v.commits n) := by
  have hc : u.Closed := closed_of_inTxn u h
  constructor
  · intro hf
    rw [updateEntryPrefixed_of_none ops u k n hf]
    refine ⟨rfl, ?_⟩
    unfold UD.fetchCount
    rw [fetch_store _ _ _ _ hc, if_pos rfl]
    exact updateValue_commits ops u.tick none n
  · intro v hf
    rw [updateEntryPrefixed_of_some ops u k n v hf]
    refine ⟨rfl, ?_⟩
    rw [fetchCount_eq_pending, count_updateEntry ops u k n hc, if_pos rfl, ← fetchCount_eq_pending]
    unfold UD.fetchCount
    rw [hf]

/-- non-vacuity: on an empty dictionary, the commit of two elements `甲`(`ab`) `乙`(`c`) with the history encoder on
raises both elements to 1 and stores the phrase under the prefixed encoded code `ac` with count 1 -/
example :
    let segs : List Seg := [{ status := 2, sel := some { recognized := true, entry := { text := [1], code := [[97, 98]] }, comps := none } },
                            { status := 3, sel := some { recognized := true, entry := { text := [2], code := [[99]] }, comps := none } }]
    let r := UD.onCommitEnc Examples.unitOps { commitHistory := true, maxPhraseLength := 3 } (fun _ => [[97, 99]])
      [("table", [1, 2])] UD.empty segs 0
    r.2 = [({ code := [[97, 98]], text := [1] }, 1), ({ code := [[99]], text := [2] }, 1),
           ({ code := [encPrefix ++ [97, 99]], text := [1, 2] }, 1)] := by
  decide +kernel

/- Full statement for the table style (FALSE, see `table_sentence_rank_counterexample`):

     theorem rank_no_worse_table  — for every state `u`, every recognized whole-input candidate `sel` of a table-style
       translation (a dictionary entry *or a composed sentence*), every answer `s`, `s'` of sentence composition before
       and after:  findIdx sel.text (list after the commit) ≤ findIdx sel.text (list before).

   It holds for dictionary entries (`rank_no_worse_table_list`: the committed entry is a stored record).  It fails for a
   composed sentence: `TableTranslator::Memorize` without encoder stores `+1` on the elements and no phrase, so whether
   the text comes back is up to sentence composition, and Poet may recompose another path of equal weight.  Excluded
   from `rank_no_worse_partial` below (script style, where the sentence *is* stored as a phrase); recorded as the open
   finding `C10:rank:worse:table-sentence-recomposed`. -/

/-- **ranked no worse after a whole-input commit** (partial: under `Gain`, exact matches only; script style —
a table-style composed sentence, of which no phrase is stored, is excluded: `table_sentence_rank_counterexample`).
From any state `u` of the user dictionary with distinct keys: the user commits a recognized candidate `sel`
that covers the whole input (one segment, confirmed; script style), the transaction is closed, and the same
input is looked up again.  `P`/`P'` are the present ticks of the two lookups, `Ub`/`Ua` the user candidates of
the whole-input code out of the durable db before / after, in any weight-sorted order; the system phrases `S`
are the same.  If the committed record satisfies the order law `Gain` and no element of the commit entry other
than the entry itself has the same code (true for a plain phrase, and for a sentence since its components are
proper parts), then the committed text is offered, and no later than before. -/
theorem rank_no_worse_partial (ops : DeeOps D) (u : UD D) (hn : u.durable.keys.Nodup)
    (sel : Sel) (hrec : sel.recognized = true) (hne : sel.entry.text ≠ [])
    (helems : ∀ e ∈ (assemble [sel]).elements, e.code = sel.entry.code → e.key = sel.entry.key)
    (now : Int) (P P' : Nat)
    (hgain : ∀ vT vT', (beforeCommit u).get? sel.entry.key = some vT →
      (afterCommit ops Style.script u (selectedSegs [] sel) now).get? sel.entry.key = some vT' → Gain ops P P' vT vT')
    (Ub Ua : List UCand)
    (hpb : Ub.Perm (userExact ops (beforeCommit u) P sel.entry.code)) (hsb : SortedDesc Ub)
    (hpa : Ua.Perm (userExact ops (afterCommit ops Style.script u (selectedSegs [] sel) now) P' sel.entry.code))
    (hsa : SortedDesc Ua)
    (S : List Cand) (sent sent' : Option Bytes) (sfe : Bool) :
    (∃ c ∈ scriptTop true sent' Ua S sfe, c.text = sel.entry.text ∧ c.user = true) ∧
    (scriptTop true sent' Ua S sfe).findIdx (fun c => decide (c.text = sel.entry.text)) ≤
      (scriptTop true sent Ub S sfe).findIdx (fun c => decide (c.text = sel.entry.text)) := by
  -- what the commit stores
  have hkey : (assemble ([] ++ [sel])).key = sel.entry.key := rfl
  have hups := commitUpdates_selected [] sel (fun s hs => nomatch hs) hrec (by rw [hkey]; exact hne)
  have hm : commitTimes Style.script (selectedSegs [] sel) sel.entry.key ≠ 0 := by
    rw [commitTimes, hups, ones_updatesOf_memorizeScript, if_pos hkey]
    decide
  obtain ⟨vT', hT', hv'⟩ := get?_of_count_pos _ _ (afterCommit_count_pos ops Style.script u _ now _ hm)
  -- frame within the code
  have hframe : ∀ k, k.code = sel.entry.key.code → k ≠ sel.entry.key →
      (afterCommit ops Style.script u (selectedSegs [] sel) now).get? k = (beforeCommit u).get? k := by
    intro k hcode hk
    apply commit_frame
    rw [hups]
    intro hm
    obtain ⟨p, hp, e⟩ := List.mem_map.1 hm
    rcases mem_memorizeScript _ p hp with rfl | ⟨el, hel, rfl⟩
    · exact hk (e.symm.trans hkey)
    · exact hk (e ▸ helems el hel ((congrArg Key.code e).trans hcode))
  obtain ⟨hnb, hna, hb, ha, t, ht, hk, hkeep, hgn⟩ :=
    rank_bridge ops (beforeCommit u) (afterCommit ops Style.script u (selectedSegs [] sel) now)
      (commitPending_keys_nodup u hn) (afterCommit_keys_nodup ops Style.script u (selectedSegs [] sel) now hn) P P'
      sel.entry.key vT' hT' (Int.le_of_lt hv') hframe (fun vT hvT => hgain vT vT' hvT hT') Ub Ua hpb hpa
  refine ⟨?_, rank_no_worse_list Ub Ua sel.entry.key t S sent sent' sfe hsb hsa hnb hna (fun c hc => (hb c hc).1)
    (fun c hc => (ha c hc).1) (fun c hc => (hb c hc).2) (fun c hc => (ha c hc).2) ht hk hkeep hgn⟩
  obtain ⟨pre', ea, _⟩ := scriptTop_exact sent' Ua S sfe (fun c hc => (ha c hc).2)
  refine ⟨t.toCand, ?_, congrArg Key.text hk, rfl⟩
  rw [ea]
  exact List.mem_append_right _ (List.mem_append_left _ (List.mem_map.2 ⟨t, ht, rfl⟩))

/-! ## non-vacuity and the lost update -/

section Examples

open Examples in
/-- hypotheses of `assembled_phrase_stored` are satisfiable: two partial selections -/
example : (groupCommit (selectedSegs [selBC] selA)).map (·.key) = [{ code := [[98], [99], [97]], text := [66, 67, 65] }] := by
  decide +kernel

open Examples in
/-- … and the commit touches the multi-syllable element with `commits 0`, the single one too, then `+1` -/
example : commitUpdates Style.script (selectedSegs [selBC] selA) =
    [(eBC.key, 0), (eA.key, 0), ({ code := [[98], [99], [97]], text := [66, 67, 65] }, 1)] := by
  decide +kernel

open Examples in
/-- one commit whose composition is `A` · raw segment · `BC` · `A`: `Memory::OnCommit` saves two commit entries, `A`
and `BCA`; `A` is committed once and later touched (`commits 0`) as an element of `BCA`.  The touch reads the
pending `+1` and keeps it: the stored count of `A` goes from 0 to 1. -/
example :
    (groupCommit lostUpdateSegs).map (·.key) = [eA.key, { code := [[98], [99], [97]], text := [66, 67, 65] }] ∧
    updatesOf (commitUpdates Style.script lostUpdateSegs) eA.key = [1, 0] ∧
    commitTimes Style.script lostUpdateSegs eA.key = 1 ∧
    (afterCommit unitOps Style.script UD.empty lostUpdateSegs 0).count eA.key = 1 := by
  decide +kernel

open Examples in
/-- **history: the lost update.**  With the fetch of `UpdateEntry` reading the durable db only (librime before the
fix `let a user db transaction read its own pending writes`), the same commit left the committed entry `A` at
count 0: the later `UpdateEntry(A, 0)` re-read the stale stored record and overwrote the `+1` in the write batch.
`commit_plus_one` is false of that model; this check found the defect as `C10:commit:plus-one:lost-update`. -/
theorem old_lost_update_counterexample :
    commitTimes Style.script lostUpdateSegs eA.key = 1 ∧
    (oldAfterCommit unitOps Style.script UD.empty lostUpdateSegs 0).count eA.key = 0 := by
  decide +kernel

open Examples in
/-- the same key committed by two commit entries of one commit (`A` · raw · `A`) is raised twice -/
example :
    let segs : List Seg := [{ status := 1, sel := some selA }, { status := 1, sel := none }, { status := 3, sel := some selA }]
    commitTimes Style.script segs eA.key = 2 ∧
    (afterCommit unitOps Style.script UD.empty segs 0).count eA.key = 2 := by
  decide +kernel

open Examples in
/-- deleting, then committing again: `0 → -1 → 2` -/
example :
    let u1 := (UD.empty : UD Unit).onDelete unitOps eA
    u1.durable.count eA.key = -1 ∧
    (afterCommit unitOps Style.script u1 (selectedSegs [] selA) 0).count eA.key = 2 := by
  decide +kernel

/-- the model's own lists (`sortByWeight` of the scan) meet the sortedness / permutation hypotheses of
`rank_no_worse_partial`, for every db -/
theorem model_lists_sorted (ops : DeeOps D) (db : Db D) (present : Nat) (code : Code) :
    (sortByWeight (userExact ops db present code)).Perm (userExact ops db present code) ∧
    SortedDesc (sortByWeight (userExact ops db present code)) :=
  ⟨sortByWeight_perm _, sortByWeight_sorted _⟩

open Examples in
/-- `Gain` is satisfiable: for the instance whose weight is the commit count, a committed record gains on
every record that did not outweigh it -/
example (P P' : Nat) (vT : Value Unit) : Gain unitOps P P' vT (valueCommit unitOps 0 vT 1) := by
  intro v h
  simp only [unitOps, valueCommit] at h ⊢
  split <;> omega

open Examples in
/-- a concrete run of the ranking law: `A2` (count 2) is ahead of `A` (count 1) for code `a`; after two more
commits of `A` the order is reversed, after one it is at least no worse -/
example :
    let before := sortByWeight (userExact unitOps uTwo.durable 1 [[97]])
    let u3 := (uTwo.onCommit unitOps Style.script (selectedSegs [] selA) 0).commitPending
    let u4 := (u3.onCommit unitOps Style.script (selectedSegs [] selA) 0).commitPending
    let after1 := sortByWeight (userExact unitOps u3.durable 1 [[97]])
    let after2 := sortByWeight (userExact unitOps u4.durable 1 [[97]])
    before.map (·.key.text) = [[90], [65]] ∧
    (scriptTop true none before [] false).findIdx (fun c => decide (c.text = [65])) = 1 ∧
    (scriptTop true none after1 [] false).findIdx (fun c => decide (c.text = [65])) ≤ 1 ∧
    (scriptTop true none after2 [] false).findIdx (fun c => decide (c.text = [65])) = 0 := by
  decide +kernel

open Examples in
/-- **the full table-style ranking statement is false**: the 3-call witness
`input dcccccc; select the sentence 天土方; type dcccccc` on the model.  The commit saves one commit entry whose
elements 天 `dcc`, 土 `ccc`, 方 `c` each get `+1`; nothing is stored under the sentence's text.  Before, the list is
`天土方 · 天 · 要 · 低 · 擦 · 萌` (the sentence at position 0).  After, sentence composition — an oracle of the model;
the answers are the ones the real Poet gave — returns 天方土 (`dcc+c+ccc`, the same three entries, equal weight), the
list is `天方土 · 天(user) · 低 · 擦 · 萌`, and the committed text is not in it: its position (= length 5) is later
than before. -/
theorem table_sentence_rank_counterexample :
    (groupCommit sentenceSegs).map (·.elements) = [[eTian, eTu, eFang]] ∧
    commitUpdates Style.table sentenceSegs = [(eTian.key, 1), (eTu.key, 1), (eFang.key, 1)] ∧
    (afterCommit unitOps Style.table UD.empty sentenceSegs 0).keys.all (fun k => k.text ≠ [1, 2, 3]) = true ∧
    (witnessList UD.empty.durable [1, 2, 3]).map (·.text) = [[1, 2, 3], [1], [4], [5], [6], [7]] ∧
    (witnessList (afterCommit unitOps Style.table UD.empty sentenceSegs 0) [1, 3, 2]).map (·.text) =
      [[1, 3, 2], [1], [5], [6], [7]] ∧
    ¬ ((witnessList (afterCommit unitOps Style.table UD.empty sentenceSegs 0) [1, 3, 2]).findIdx
          (fun c => decide (c.text = [1, 2, 3])) ≤
       (witnessList UD.empty.durable [1, 2, 3]).findIdx (fun c => decide (c.text = [1, 2, 3]))) := by
  decide +kernel

end Examples

end C10
end RimeModel.C10
