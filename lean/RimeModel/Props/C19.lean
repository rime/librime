import RimeModel.C19.Model
import RimeModel.C19.Sort
import RimeModel.C19.Facts
import RimeModel.C19.Lemmas
import RimeModel.C19.RoundTrip
import RimeModel.Gen.KeyTables
/-!
C19 — key names and key sequences round-trip through their textual form.
Property theorems only.  `byVal`, `byName`, `modifierNames`, `kModifierMask`, `voidSymbol` are
decoded from `RimeModel.Gen.KeyTables`, regenerated from /repo's `src/rime/key_table.cc` on every
run (/verif/gen/c19_tables.py); the generated-fact theorems below are therefore re-checked by the
kernel against what the source says now.  Bytes: 43 = '+', 123 = '{', 125 = '}', 0 = NUL.

Domain (`InDomain e`): `e.keycode` is the keyval of some table row (`Named`), is not `XK_VoidSymbol`,
and every set bit of `e.modifier` has a name in `modifier_name[]` (`NamedMask`).
-/
namespace C19
open RimeModel.C19

/-! ### generated-fact theorems (kernel-evaluated, linear or n·log n) -/

/-- the translator accounted for every row of the source: it writes `false` here when its two independent counts
disagree; nothing about the tables themselves is checked by this line -/
theorem extraction_ok : Gen.extractionOk = true := by decide

/-- one sort of `keys_by_keyval` by row code: equal names would be neighbours, and `keys_by_name` sorts to the same list -/
theorem tables_checked : tablesOk Gen.byValCodes Gen.byNameCodes = true := by decide +kernel

/-- every row of `keys_by_keyval` passes the row check (`rowOk`) -/
theorem rows_checked : Gen.byValCodes.all rowOk = true := by decide +kernel

/-- key names are pairwise distinct -/
theorem byVal_names_nodup : (byVal.map (·.name)).Nodup :=
  (tablesOk_spec tables_checked).1

/-- `keys_by_name` and `keys_by_keyval` hold the same rows -/
theorem byName_perm_byVal : byName.Perm byVal :=
  (tablesOk_spec tables_checked).2

/-- no key name is empty or contains NUL, '+', '{' or '}' -/
theorem names_wellformed : ∀ r ∈ byVal, r.name ≠ [] ∧ ∀ b ∈ r.name, b ≠ 0 ∧ b ≠ 43 ∧ b ≠ 123 ∧ b ≠ 125 := by
  intro r hr
  obtain ⟨c, hc, rfl⟩ := List.mem_map.mp hr
  exact (rowOk_spec (List.all_eq_true.mp rows_checked c hc)).1

/-- every one-byte key name is the 7-bit ASCII character of its own key code -/
theorem one_byte_names_ascii : ∀ r ∈ byVal, ∀ c, r.name = [c] → r.keyval = c.toNat ∧ c.toNat < 128 := by
  intro r hr
  obtain ⟨c, hc, rfl⟩ := List.mem_map.mp hr
  exact (rowOk_spec (List.all_eq_true.mp rows_checked c hc)).2

/-- `XK_VoidSymbol` occurs in `keys_by_keyval` as the last row and nowhere else, so the scan of
`RimeGetKeycodeByName` always stops inside the array -/
theorem byVal_terminated :
    ∃ pre t, byVal = pre ++ [t] ∧ t.keyval = voidSymbol ∧ ∀ r ∈ pre, r.keyval ≠ voidSymbol :=
  terminatedOk_spec voidSymbol byVal (by decide +kernel)

/-- for every named modifier slot `i`: looking its name up gives back exactly bit `i` (so modifier
names are pairwise distinct), the name is non-empty and free of NUL, '+', '{', '}', and bit `i`
survives `& kModifierMask` -/
theorem modifier_names_ok : ∀ (i : Nat) (n : Bytes), modifierNames[i]? = some (some n) →
    modifierByName n = 1 <<< i ∧ (n ≠ [] ∧ ∀ b ∈ n, b ≠ 0 ∧ b ≠ 43 ∧ b ≠ 123 ∧ b ≠ 125) ∧
      kModifierMask.testBit i = true := by
  intro i n h
  have := modsOkFrom_spec modifierNames 0 (by decide +kernel) i n h
  rw [Nat.zero_add] at this
  exact this

/-- modifier names are pairwise distinct -/
theorem modifier_names_distinct : ∀ (i j : Nat) (n : Bytes), modifierNames[i]? = some (some n) →
    modifierNames[j]? = some (some n) → i = j := by
  intro i j n hi hj
  have h1 := (modifier_names_ok i n hi).1
  have h2 := (modifier_names_ok j n hj).1
  rw [h1, Nat.shiftLeft_eq, Nat.shiftLeft_eq, Nat.one_mul, Nat.one_mul] at h2
  exact (Nat.pow_right_inj (by decide : 1 < 2)).mp h2

/-- `kModifierMask` fits a 32-bit int -/
theorem mask_lt : kModifierMask < 2 ^ 32 := by decide +kernel

/-- all facts the proofs use, for the tables of the current working tree -/
theorem table_facts : TableFacts :=
  ⟨byVal_names_nodup, byName_perm_byVal, names_wellformed, one_byte_names_ascii, byVal_terminated,
   modifier_names_ok, mask_lt⟩

/-! ### the property -/

/-- KeyEvent round trip: for EVERY key code that has a name (other than `XK_VoidSymbol`) and EVERY
combination of named modifier bits, `Parse(repr())` gives back the same event. -/
theorem parse_repr_event (k m : Nat) (hk : Named k) (hv : k ≠ voidSymbol) (hm : NamedMask m) :
    parse (repr ⟨k, m⟩) = some ⟨k, m⟩ :=
  parse_repr_event_of table_facts k m hk hv hm

/-- non-vacuity: Shift+Control+Release on `apostrophe` (a key code with an alias) is in the domain -/
example : parse (repr ⟨0x27, 0x40000005⟩) = some ⟨0x27, 0x40000005⟩ :=
  parse_repr_event 0x27 0x40000005 (by decide +kernel) (by decide +kernel) (by decide +kernel)

/-- KeySequence round trip: any sequence of events of the domain, written in key-sequence notation
(plain printable characters, `{…}` escapes), parses back to the same sequence. -/
theorem parse_repr_seq (es : List KeyEvent) (h : ∀ e ∈ es, InDomain e) :
    seqParse (seqRepr es) = some es :=
  parse_repr_seq_of table_facts es h

/-- non-vacuity: `a`, Shift+`b`, `space`, `Return`, `braceleft` — covering the one-byte name, the
escaped combination, the unescaped printable with a long name, a named non-printable and the brace
that must be escaped -/
example : seqParse (seqRepr [⟨0x61, 0⟩, ⟨0x62, 1⟩, ⟨0x20, 0⟩, ⟨0xff0d, 0⟩, ⟨0x7b, 0⟩]) =
    some [⟨0x61, 0⟩, ⟨0x62, 1⟩, ⟨0x20, 0⟩, ⟨0xff0d, 0⟩, ⟨0x7b, 0⟩] :=
  parse_repr_seq _ (by decide +kernel)

/-- Rejection: a text of two or more bytes whose last '+'-separated token is not the name of a key
(`Parse` accepts no hexadecimal form — `RimeGetKeycodeByName` only scans the table), or one of
whose earlier tokens is not a modifier name, does not parse.  Tokens are compared as C strings
(`cstr`: up to the first NUL), exactly as `strcmp(token.c_str(), …)` sees them.  (The empty text
fails too; a one-byte text is always accepted by the size-1 shortcut.) -/
theorem parse_unknown_fails (text : Bytes) (h2 : 2 ≤ text.length)
    (h : ¬ IsKeyName (cstr (lastToken text)) ∨ ∃ t ∈ modifierTokens text, ¬ IsModifierName (cstr t)) :
    parse text = none :=
  parse_unknown_fails_of text h2 h

/-- the empty text does not parse -/
theorem parse_empty_fails : parse [] = none := rfl

/-- non-vacuity: "Shift+0x61" (hex is what `repr` prints for unnamed codes, but no key is named so) -/
example : parse [83, 104, 105, 102, 116, 43, 48, 120, 54, 49] = none :=
  parse_unknown_fails _ (by decide) (Or.inl (by decide +kernel))

/-- non-vacuity: "Shft+a" (unknown modifier) -/
example : parse [83, 104, 102, 116, 43, 97] = none :=
  parse_unknown_fails _ (by decide) (Or.inr ⟨[83, 104, 102, 116], by decide, by decide +kernel⟩)

/-- The domain restriction to named key codes is necessary: an unnamed code is printed in hex and
the hex form is not read back (`repr` of 0x1234 is "0x1234", which `Parse` rejects). -/
theorem unnamed_keycode_not_roundtrip : parse (repr ⟨0x1234, 0⟩) = none := by decide +kernel

/-- … and so is the exclusion of `XK_VoidSymbol`: it has a name, which `Parse` rejects because its
value doubles as the "unknown key" result. -/
theorem voidSymbol_not_roundtrip : parse (repr ⟨voidSymbol, 0⟩) = none :=
  parse_repr_void_of table_facts (by decide)

end C19
