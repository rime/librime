import RimeModel.Gen.UserDbMembers
/-!
C17 — "the merge and the text export/import paths read no uninitialised state": the obligation about the
C++ source text.  `Gen.C17.members` is regenerated from src/rime/dict/user_db.h and user_db.cc on every run
(/verif/gen/c17_members.py): one row per data member of `UserDbMerger` and `UserDbImporter` with how it gets
its first value (default member initialiser, constructor init list, a constructor-body assignment that
precedes every read, or a class type with a default constructor).  A member with none of these — or a
declaration the translator does not understand — makes the row `initialised := false` and this theorem
unprovable.  The same table drives the poisoned-construction probe of the harness (`probe` op), so the
translator's reading is cross-checked against the compiled constructor at run time.
Theorems only.
-/
namespace C17Members
open RimeModel.Gen.C17

/-- GENERATED-FACT obligation: every data member of `UserDbMerger` / `UserDbImporter` is initialised before
any member function can read it. -/
theorem all_members_initialised : ∀ m ∈ members, m.initialised = true := by
  decide

/-- the table is not empty and contains the merge counter (non-vacuity of the obligation above) -/
theorem table_covers_merger :
    (members.any fun m => m.cls == "UserDbMerger" && m.name == "merged_entries_") = true ∧
    (members.any fun m => m.cls == "UserDbImporter") = true := by
  decide +kernel

end C17Members
