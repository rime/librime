import RimeModel.C09.AlgebraLemmas
import RimeModel.C09.PrismLemmas
import RimeModel.C09.GlueLemmas
import RimeModel.C09.RegexLemmas
/-!
C09 — spelling algebra and the prism preserve the spelling-to-syllable relation.
Property theorems, then examples that meet their hypotheses.  Model: RimeModel/C09/Model.lean (algebra), RimeModel/C09/Prism.lean (prism);
specification vocabulary (`Script.spells`, `SortedBy`, `mergeCandidates`, `bfsLt`, …): RimeModel/C09/Spec.lean.

A rule is one of the six kinds plus an ARBITRARY function `run : spelling → notApplied | applied r | threw`
(the regular-expression engine is not modelled), so every theorem below holds for all regular
expressions; syllabaries, rule lists, queries and limits are unbounded.  For `erase` the model also
gives the pattern a meaning on a fragment of the regex syntax (RimeModel/C09/Regex.lean:
`Erasion.run` = whole-string `regex_match`); `erase_own_name_round` and `erase_literal_exact` are
about that concrete rule.
-/
namespace C09
open RimeModel.C09

/-! ## the spelling algebra -/

/-- Every spelling of the table `Projection::Apply` leaves denotes at least one syllable, all the
syllables it denotes are members of the syllabary, none occurs twice under one spelling, no tips are
set; and the spellings are strictly sorted (hence pairwise distinct) — for every syllabary and every
rule list. -/
theorem script_values_in_syllabary (syl : List Bytes) (rules : List Rule) :
    let S := (Projection.apply rules (Script.ofSyllabary syl)).2
    SortedBy blt S.keys ∧ S.keys.Nodup ∧
    ∀ k v, (k, v) ∈ S →
      v ≠ [] ∧ (∀ x ∈ v, x.str ∈ syl ∧ x.props.tips = []) ∧ (v.map (·.str)).Nodup := by
  intro S
  have h : S.WF syl := wf_apply rules (wf_ofSyllabary syl)
  exact ⟨h.1, h.1.nodup blt_order, fun k v hkv => h.2 (k, v) hkv⟩

/-- One round of a non-deleting calculation (derive, fuzz, abbrev) never removes a spelling nor a
syllable under it: whatever `k ↦ y` the table held, it still holds. -/
theorem nondeleting_monotone (r : Rule) (hr : r.kind.deletion = false) (S T : Script)
    (hround : round r S = some T) (k y : Bytes) (h : S.spells k y) : T.spells k y :=
  spells_round_keep hround h (by simp [hr])

/-- `Derivation` overrides `deletion()` to `false`; `Fuzzing` and `Abbreviation` inherit it (calculus.h) -/
theorem nondeleting_kinds (k : Kind) : k.deletion = false ↔ (k = .derive ∨ k = .fuzz ∨ k = .abbrev) := by
  cases k <;> simp [Kind.deletion]

/-- A whole projection made of non-deleting calculations never removes a spelling or a syllable under it
(including when a calculation throws and `Apply` stops early). -/
theorem nondeleting_monotone_rules (rules : List Rule) (hr : ∀ r ∈ rules, r.kind.deletion = false)
    (S : Script) (k y : Bytes) (h : S.spells k y) : (Projection.apply rules S).2.spells k y :=
  apply_induction (P := fun T => T.spells k y) rules h
    fun r hmem S T hS hround => nondeleting_monotone r (hr r hmem) S T hround k y hS

/-- Own-name law, one round: if syllable `y` was spelled by its own name before the round and is not
afterwards, the calculation is a deleting one (xlit, xform, erase) and it applied to the spelling `y`. -/
theorem own_name_round (r : Rule) (S T : Script) (hround : round r S = some T) (y : Bytes)
    (h : S.spells y y) (hn : ¬ T.spells y y) : r.kind.deletion = true ∧ (r.run y).isApplied = true :=
  Decidable.byContradiction fun hkeep => hn (spells_round_keep hround h hkeep)

/-- Own-name law: a syllable of the syllabary that the final table no longer spells by its own name
was matched by some replacing or erasing rule of the list. -/
theorem own_name_law (syl : List Bytes) (rules : List Rule) (y : Bytes) (hy : y ∈ syl)
    (hn : ¬ (Projection.apply rules (Script.ofSyllabary syl)).2.spells y y) :
    ∃ r ∈ rules, r.kind.deletion = true ∧ (r.run y).isApplied = true :=
  exists_deleting_of_not_spells_apply rules _ (ofSyllabary_spells_self hy) hn

/-- Own-name law for `erase` with a pattern of the modelled fragment: a syllable that loses its own
spelling in an erase round is matched by the pattern AS A WHOLE (`regex_match`) — a pattern that merely
occurs inside the spelling erases nothing. -/
theorem erase_own_name_round (re : Re) (S T : Script) (hround : round (Erasion.rule re) S = some T) (y : Bytes)
    (h : S.spells y y) (hn : ¬ T.spells y y) : y ≠ [] ∧ re.fullMatch y = true :=
  (Erasion.isApplied_run re y).mp (own_name_round (Erasion.rule re) S T hround y h hn).2

/-- `erase` with a literal pattern `w` (no anchors needed) applies to the spelling `w` and to no other:
not to a longer spelling that contains `w`. -/
theorem erase_literal_exact (w s : Bytes) :
    (Erasion.run (Re.lits w) s).isApplied = true ↔ (s = w ∧ s ≠ []) := by
  rw [Erasion.isApplied_run, fullMatch_lits_iff]
  exact and_comm

/-- the kinds that keep `Calculation::deletion() = true` (calculus.h): those the own-name law can name -/
theorem deleting_kinds (k : Kind) : k.deletion = true ↔ (k = .xlit ∨ k = .xform ∨ k = .erase) := by
  cases k <;> simp [Kind.deletion]

/-- `Script::Merge(s, sp, v)`: afterwards the type recorded for syllable `t` under spelling `s` is the
MINIMUM over the candidates — the element the vector held before (if any) and, for each element `x`
of `v` naming `t`, `max(sp.type, x.type)` — and it is one of them. -/
theorem type_is_min (S : Script) (hS : SortedBy blt S.keys) (s : Bytes) (sp : Props) (v : List Spelling) (t : Bytes)
    (h : mergeCandidates sp v ((S.get? s).getD []) t ≠ []) :
    ∃ w z, (S.merge s sp v).get? s = some w ∧ propsOf w t = some z ∧
      (∀ c ∈ mergeCandidates sp v ((S.get? s).getD []) t, z.type.rank ≤ c.type.rank) ∧
      (∃ c ∈ mergeCandidates sp v ((S.get? s).getD []) t, z.type = c.type) := by
  obtain ⟨z, hz, h1, h2⟩ := mergeVec_least (f := (·.type)) (le := fun a b => a.rank ≤ b.rank) (fun _ => Nat.le_refl _)
    Nat.le_trans absorb_type sp v ((S.get? s).getD []) t h
  exact ⟨_, z, get?_merge_self s sp v hS, hz, h1, h2⟩

/-- `Script::Merge(s, sp, v)`: the credibility recorded for `t` under `s` is the MAXIMUM over the
candidates (old element; `x.credibility + sp.credibility` for each `x` of `v` naming `t`), attained. -/
theorem cred_is_max (S : Script) (hS : SortedBy blt S.keys) (s : Bytes) (sp : Props) (v : List Spelling) (t : Bytes)
    (h : mergeCandidates sp v ((S.get? s).getD []) t ≠ []) :
    ∃ w z, (S.merge s sp v).get? s = some w ∧ propsOf w t = some z ∧
      (∀ c ∈ mergeCandidates sp v ((S.get? s).getD []) t, c.cred ≤ z.cred) ∧
      (∃ c ∈ mergeCandidates sp v ((S.get? s).getD []) t, z.cred = c.cred) := by
  obtain ⟨z, hz, h3, h4⟩ := mergeVec_least (f := (·.cred)) (le := fun a b => b ≤ a) (fun _ => Int.le_refl _)
    (fun h1 h2 => Int.le_trans h2 h1) absorb_cred sp v ((S.get? s).getD []) t h
  exact ⟨_, z, get?_merge_self s sp v hS, hz, h3, h4⟩

/-- the candidate a merged element contributes: type = max(rule type, element type), credibility = sum -/
theorem merge_candidate (sp xp : Props) :
    (mergeProps sp xp).type.rank = max sp.type.rank xp.type.rank ∧ (mergeProps sp xp).cred = xp.cred + sp.cred := by
  refine ⟨?_, rfl⟩
  by_cases h : sp.type.rank > xp.type.rank
  · exact (congrArg _ (if_pos h)).trans (Nat.max_eq_left (Nat.le_of_lt h)).symm
  · exact (congrArg _ (if_neg h)).trans (Nat.max_eq_right (Nat.not_lt.mp h)).symm

/-- `Merge` invents nothing and touches nothing else: a syllable without candidates is not under `s`
afterwards, and every other spelling keeps its vector. -/
theorem merge_frame (S : Script) (hS : SortedBy blt S.keys) (s : Bytes) (sp : Props) (v : List Spelling) :
    (∀ t, mergeCandidates sp v ((S.get? s).getD []) t = [] →
      ∃ w, (S.merge s sp v).get? s = some w ∧ propsOf w t = none) ∧
    (∀ k, k ≠ s → (S.merge s sp v).get? k = S.get? k) :=
  ⟨fun t h => ⟨_, get?_merge_self s sp v hS, mergeVec_none sp v _ t h⟩, fun _ hk => get?_merge_ne sp v hk⟩

/-! ## the prism -/

/-- Loading what `Build` + `Save` wrote gives back the built prism — same keys, same descriptor
lists, same alphabet — with the format flag set (so the stored alphabet and spelling map are used). -/
theorem load_build_id (syl : List Bytes) (script : Option Script) :
    Prism.load (Prism.build syl script).save = some { Prism.build syl script with v1 := true } := by
  simp only [Prism.load, Prism.save, Prism.build]
  have h1 : kPrismFormatPrefix.isPrefixOf kPrismFormat = true := by decide +kernel
  have h2 : formatAtLeast1 (kPrismFormat.drop kPrismFormatPrefix.length) = true := by decide +kernel
  simp [h1, h2]

/-- `GetValue` answers `i` for exactly the `i`-th key of the table, `HasKey` is membership. -/
theorem getValue_iff_key (p : Prism) (hk : p.keys.Nodup) (k : Bytes) :
    (∀ i, p.getValue k = some i ↔ p.keys[i]? = some k) ∧ (p.hasKey k = true ↔ k ∈ p.keys) :=
  ⟨fun _ => ⟨getElem?_of_idx?, idx?_of_getElem? hk⟩, idx?_isSome_iff⟩

/-- Round trip of the relation: for a well-formed table `S` over the syllabary, the loaded prism has
exactly the spellings of `S` as keys (value = position), and `QuerySpelling` of the `i`-th spelling
yields, in order, exactly the syllables `S` lists there — the stored id decodes back to the syllable —
with the same type and credibility. -/
theorem prism_roundtrip (syl : List Bytes) (S : Script) (hS : S.WF syl) :
    ∃ p, Prism.load (Prism.build syl (some S)).save = some p ∧
      (∀ k i, p.getValue k = some i ↔ S.keys[i]? = some k) ∧
      (∀ k, p.hasKey k = true ↔ k ∈ S.keys) ∧
      (∀ i k v, S[i]? = some (k, v) →
        (p.querySpelling i).map (fun d => (syl[d.syllableId]?, d.type, d.cred, d.tips)) =
          v.map (fun x => (some x.str, x.props.type, x.props.cred, x.props.tips))) := by
  refine ⟨_, load_build_id syl (some S), ?_, ?_, ?_⟩
  · intro k i
    exact (getValue_iff_key _ (hS.1.nodup blt_order) k).1 i
  · intro k
    exact (getValue_iff_key _ (hS.1.nodup blt_order) k).2
  · intro i k v hi
    have hv : VecOK syl v := hS.2 (k, v) (List.mem_of_getElem? hi)
    have hq : ({ Prism.build syl (some S) with v1 := true } : Prism).querySpelling i = v.map (descriptorOf syl) := by
      simp only [Prism.querySpelling, Prism.build, Option.map_some, List.getElem?_map, hi]
      cases v with
      | nil => exact absurd rfl hv.1
      | cons x xs => simp
    rw [hq, List.map_map]
    apply List.map_congr_left
    intro x hx
    have hmem : x.str ∈ syl := (hv.2.1 x hx).1
    simp only [Function.comp, descriptorOf, syllableId]
    cases hidx : idx? x.str syl with
    | none => exact absurd hmem (idx?_eq_none_iff.mp hidx)
    | some j => simp [getElem?_of_idx? hidx]

/-- A prism built without a script answers `QuerySpelling` like the identity table: spelling `i`
denotes syllable `i` with normal type and credibility 0. -/
theorem noscript_is_identity (syl : List Bytes) (i : Nat) :
    ∃ p, Prism.load (Prism.build syl none).save = some p ∧ p.keys = syl ∧
      p.querySpelling i = [⟨i, .normal, 0, []⟩] :=
  ⟨_, load_build_id syl none, rfl, rfl⟩

/-- `CommonPrefixSearch`: all and only the keys that are (non-empty) prefixes of the query, each with its
value and length, in strictly increasing length. -/
theorem cps_exact (p : Prism) (hk : p.keys.Nodup) (q : Bytes) :
    (∀ m, m ∈ p.commonPrefixSearch q ↔
      ∃ k, k ≠ [] ∧ k <+: q ∧ p.keys[m.value]? = some k ∧ m.length = k.length) ∧
    (p.commonPrefixSearch q).Pairwise (fun a b => a.length < b.length) := by
  unfold Prism.commonPrefixSearch
  by_cases hq : q = []
  · rw [if_pos hq]
    exact ⟨fun m => iff_of_false List.not_mem_nil fun ⟨k, hne, hpre, _⟩ => hne (List.prefix_nil.mp (hq ▸ hpre)),
      List.Pairwise.nil⟩
  · rw [if_neg hq]
    refine ⟨fun m => ?_, ?_⟩
    · simp only [List.mem_filterMap, List.mem_range'_1, Option.map_eq_some_iff]
      constructor
      · rintro ⟨l, ⟨h1, h2⟩, v, hv, rfl⟩
        have hlen : (q.take l).length = l := List.length_take_of_le (Nat.le_of_lt_succ (Nat.add_comm 1 q.length ▸ h2 : l < q.length + 1))
        exact ⟨q.take l, fun e => by rw [e] at hlen; exact Nat.ne_of_gt h1 hlen.symm, List.take_prefix _ _,
          getElem?_of_idx? hv, hlen.symm⟩
      · rintro ⟨k, hne, hpre, hget, hlen⟩
        refine ⟨k.length, ⟨List.length_pos_iff.mpr hne, (Nat.add_comm q.length 1 ▸ Nat.lt_succ_of_le hpre.length_le : k.length < 1 + q.length)⟩,
          m.value, ?_, by rw [← hlen]⟩
        rw [← List.prefix_iff_eq_take.mp hpre]
        exact idx?_of_getElem? hk hget
    · refine List.Pairwise.filterMap _ (fun a a' haa b hb b' hb' => ?_) (List.pairwise_lt_range' (s := 1) (n := q.length))
      obtain ⟨_, _, rfl⟩ := Option.map_eq_some_iff.mp hb
      obtain ⟨_, _, rfl⟩ := Option.map_eq_some_iff.mp hb'
      exact haa
/-- `ExpandSearch` on a loaded prism whose stored alphabet is `char`-sorted and covers the keys (as
`Build` makes it): there is a list `ks` of keys — ALL AND ONLY the keys having the query as a prefix,
STRICTLY increasing in the breadth-first order (shorter first; same length by `char`-lexicographic
order), hence unique — such that the unlimited search returns exactly `ks` (each with its value and
length) and a search with `limit > 0` returns exactly its first `limit` elements. -/
theorem expand_exact (p : Prism) (hv1 : p.v1 = true) (hA : SortedBy sclt p.alphabet)
    (hcov : ∀ k ∈ p.keys, ∀ c ∈ k, c ∈ p.alphabet) (q : Bytes) :
    ∃ ks : List Bytes,
      (∀ k, k ∈ ks ↔ k ∈ p.keys ∧ q <+: k) ∧ ks.Pairwise bfsLt ∧
      ∀ limit, p.expandSearch q limit =
        if limit = 0 then ks.map (matchOf p.keys) else (ks.map (matchOf p.keys)).take limit := by
  by_cases hq : isNode p.keys q = true
  · have hvis := visited_spec hA hcov hq (maxLen p.keys + 1)
    refine ⟨(q :: bfs p.keys p.alphabet (maxLen p.keys + 1) [q]).filter (fun s => (idx? s p.keys).isSome), ?_, ?_, ?_⟩
    · intro k
      rw [List.mem_filter, hvis.2 k, idx?_isSome_iff]
      constructor
      · rintro ⟨⟨_, h2, _⟩, h4⟩; exact ⟨h4, h2⟩
      · rintro ⟨h1, h2⟩
        exact ⟨⟨isNode_of_mem h1, h2,
          Nat.le_trans (length_le_maxLen h1) (Nat.le_trans (Nat.le_succ _) (Nat.le_add_left _ _))⟩, h1⟩
    · exact hvis.1.filter _
    · intro limit
      simp only [Prism.expandSearch, traverse, hq, ↓reduceIte, hv1]
      rw [collect_spec limit _ 0 (Nat.eq_zero_or_pos limit), filterMap_idx, Nat.sub_zero]
  · refine ⟨[], ?_, List.Pairwise.nil, ?_⟩
    · intro k
      simp only [List.not_mem_nil, false_iff]
      rintro ⟨h1, h2⟩
      exact hq (isNode_iff.mpr (Or.inr ⟨k, h1, h2⟩))
    · intro limit
      simp [Prism.expandSearch, traverse, hq]

/-- Limit-monotone: a search with a larger limit (or no limit) extends the result of a smaller one. -/
theorem expand_limit_monotone (p : Prism) (hv1 : p.v1 = true) (hA : SortedBy sclt p.alphabet)
    (hcov : ∀ k ∈ p.keys, ∀ c ∈ k, c ∈ p.alphabet) (q : Bytes) (l l' : Nat) (hl : 0 < l) (hll : l ≤ l' ∨ l' = 0) :
    p.expandSearch q l <+: p.expandSearch q l' := by
  obtain ⟨ks, _, _, h⟩ := expand_exact p hv1 hA hcov q
  rw [h l, h l']
  rw [if_neg (Nat.ne_of_gt hl)]
  split
  · exact List.take_prefix _ _
  · exact List.take_prefix_take_left (hll.resolve_right ‹_›)

/-- The prism `Build` + `Save` + `Load` produce from any script meets the hypotheses of `expand_exact`
and of `cps_exact` / `getValue_iff_key` (given sorted script keys): the stored alphabet is `char`-sorted
and contains every byte of every key. -/
theorem built_prism_ok (syl : List Bytes) (S : Script) (hS : SortedBy blt S.keys) :
    ∃ p, Prism.load (Prism.build syl (some S)).save = some p ∧ p.keys = S.keys ∧ p.keys.Nodup ∧
      p.v1 = true ∧ SortedBy sclt p.alphabet ∧ (∀ k ∈ p.keys, ∀ c ∈ k, c ∈ p.alphabet) :=
  ⟨_, load_build_id syl (some S), rfl, hS.nodup blt_order, rfl, alphabetOf_sorted _,
    fun k hk c hc => (mem_alphabetOf _ c).mpr ⟨k, hk, hc⟩⟩

/-- End to end: for every syllabary and rule list, the table the algebra produces can be compiled, and the
loaded prism has exactly its spellings as keys, gives back exactly its syllables with the same type and
credibility, and meets the hypotheses of `cps_exact` and `expand_exact`. -/
theorem algebra_prism_roundtrip (syl : List Bytes) (rules : List Rule) :
    let S := (Projection.apply rules (Script.ofSyllabary syl)).2
    ∃ p, Prism.load (Prism.build syl (some S)).save = some p ∧
      (∀ k i, p.getValue k = some i ↔ S.keys[i]? = some k) ∧
      (∀ i k v, S[i]? = some (k, v) →
        (p.querySpelling i).map (fun d => (syl[d.syllableId]?, d.type, d.cred, d.tips)) =
          v.map (fun x => (some x.str, x.props.type, x.props.cred, x.props.tips))) ∧
      p.keys.Nodup ∧ p.v1 = true ∧ SortedBy sclt p.alphabet ∧ (∀ k ∈ p.keys, ∀ c ∈ k, c ∈ p.alphabet) := by
  intro S
  have hS : S.WF syl := wf_apply rules (wf_ofSyllabary syl)
  obtain ⟨p, hp, h1, _, h3⟩ := prism_roundtrip syl S hS
  obtain ⟨p', hp', _, h5, h6, h7, h8⟩ := built_prism_ok syl S hS.1
  rw [hp] at hp'
  cases hp'
  exact ⟨p, hp, h1, h3, h5, h6, h7, h8⟩

/-! ## the `DictCompiler::BuildPrism` glue around the two -/

/-- A projection none of whose calculations matches any spelling leaves a well-formed table exactly as
it was and reports "not modified" (so `DictCompiler`'s `script.clear()` discards only an identity table). -/
theorem unmodified_is_identity (syl : List Bytes) (S : Script) (hS : S.WF syl) (rules : List Rule)
    (h : ∀ r ∈ rules, ∀ e ∈ S, r.run e.1 = .notApplied) : Projection.apply rules S = (false, S) := by
  unfold Projection.apply
  split
  · rfl
  · generalize false = m
    induction rules generalizing m with
    | nil => rfl
    | cons r rs ih =>
      have ⟨hr, hrs⟩ := List.forall_mem_cons.mp h
      have ⟨h1, h2⟩ := round_identity hS hr
      rw [applyRules, h1, h2, Bool.or_false]
      exact ih hrs m

/-- When the projection modified the table and the table is not empty, `DictCompiler` compiles exactly
that table (so `algebra_prism_roundtrip` speaks about the file it writes). -/
theorem compile_uses_table (syl : List Bytes) (rules : List Rule)
    (h1 : (Projection.apply rules (Script.ofSyllabary syl)).1 = true)
    (h2 : (Projection.apply rules (Script.ofSyllabary syl)).2 ≠ []) :
    DictCompiler.prism (some rules) syl =
      Prism.load (Prism.build syl (some (Projection.apply rules (Script.ofSyllabary syl)).2)).save := by
  have h3 : (Projection.apply rules (Script.ofSyllabary syl)).2.isEmpty = false := by
    cases h : (Projection.apply rules (Script.ofSyllabary syl)).2 with
    | nil => exact absurd h h2
    | cons _ _ => rfl
  simp [DictCompiler.prism, DictCompiler.scriptArg, h1, h3]

/-- Whenever the compile step succeeds after a projection that reported "modified", the prism's keys are
exactly the spellings of the table the projection left (and there is at least one). -/
theorem compile_keys_eq_table (syl : List Bytes) (rules : List Rule) (p : Prism)
    (h : DictCompiler.prism (some rules) syl = some p)
    (hmod : (Projection.apply rules (Script.ofSyllabary syl)).1 = true) :
    p.keys = (Projection.apply rules (Script.ofSyllabary syl)).2.keys ∧
      (Projection.apply rules (Script.ofSyllabary syl)).2 ≠ [] := by
  cases he : (Projection.apply rules (Script.ofSyllabary syl)).2.isEmpty with
  | true => simp [DictCompiler.prism, DictCompiler.scriptArg, hmod, he] at h
  | false =>
    have hne : (Projection.apply rules (Script.ofSyllabary syl)).2 ≠ [] := by
      intro e; rw [e] at he; cases he
    rw [compile_uses_table syl rules hmod hne, load_build_id] at h
    cases h
    exact ⟨rfl, hne⟩

/-- An applied algebra that erased every spelling makes the compile step fail: no prism is written
(behaviour since /repo d76c819). -/
theorem compile_empty_table_fails (syl : List Bytes) (rules : List Rule)
    (h1 : (Projection.apply rules (Script.ofSyllabary syl)).1 = true)
    (h2 : (Projection.apply rules (Script.ofSyllabary syl)).2 = []) :
    DictCompiler.prism (some rules) syl = none := by
  simp [DictCompiler.prism, DictCompiler.scriptArg, h1, h2]

/-- When no calculation matches any syllable, `DictCompiler` passes no script; the prism it writes is
observationally the prism of the (identity) table: same keys, same alphabet, same answer of
`QuerySpelling` for every spelling. -/
theorem compile_unmodified_is_table (syl : List Bytes) (hs : SortedBy blt syl) (rules : List Rule)
    (h : ∀ r ∈ rules, ∀ y ∈ syl, r.run y = .notApplied) :
    ∃ p p', DictCompiler.prism (some rules) syl = some p ∧
      Prism.load (Prism.build syl (some (Projection.apply rules (Script.ofSyllabary syl)).2)).save = some p' ∧
      p.keys = p'.keys ∧ p.alphabet = p'.alphabet ∧ ∀ i, i < syl.length → p.querySpelling i = p'.querySpelling i := by
  have hid : Script.ofSyllabary syl = identityScript syl := ofSyllabary_sorted hs
  have happ : Projection.apply rules (Script.ofSyllabary syl) = (false, identityScript syl) := by
    rw [← hid]
    refine unmodified_is_identity syl _ (wf_ofSyllabary syl) rules ?_
    intro r hr e he
    rw [hid] at he
    obtain ⟨y, hy, rfl⟩ := List.mem_map.mp he
    exact h r hr y hy
  have hkeys : (identityScript syl).keys = syl := by
    simp [identityScript, Script.keys, List.map_map, Function.comp_def]
  refine ⟨{ Prism.build syl none with v1 := true }, _, ?_, load_build_id syl _, ?_, ?_, ?_⟩
  · simp only [DictCompiler.prism, DictCompiler.scriptArg, happ]
    exact load_build_id syl none
  · simp [Prism.build, happ, hkeys]
  · simp [Prism.build, happ, hkeys]
  · intro i hi
    have hget : syl[i]? = some syl[i] := by simp [hi]
    have hidx : idx? syl[i] syl = some i := idx?_of_getElem? (hs.nodup blt_order) hget
    simp [Prism.build, happ, Prism.querySpelling, identityScript, hi, descriptorOf, syllableId, hidx]

/-- HISTORY (before /repo d76c819; found by this check as `C09:compile:keys-not-spellings`, witness kept in
corpus/C09 case 9008, revert kept as selftest/C09/revert_empty_script_fix.diff): with the OLD script
preparation "the prism has a key for every spelling of the table and for no other string" was FALSE of
the compile step when the algebra erased every spelling — syllabary {"o"}, algebra [erase/o/]: the table
is empty and `Apply` reports "modified", yet because `BuildPrism` only tested `script.empty()` the prism
was built from the raw syllabary and "o" was a key. -/
theorem old_compile_empty_table_counterexample :
    Projection.apply [⟨.erase, fun _ => .applied []⟩] (Script.ofSyllabary [[111]]) = (true, []) ∧
    ∃ p, DictCompiler.prismOld (some [⟨.erase, fun _ => .applied []⟩]) [[111]] = some p ∧
      p.keys = [[111]] ∧ p.hasKey [111] = true :=
  ⟨by decide +kernel, _, load_build_id _ _, by decide +kernel, by decide +kernel⟩

/-- the same witness on the current compile step: it fails, no prism -/
theorem compile_empty_table_witness :
    DictCompiler.prism (some [⟨.erase, fun _ => .applied []⟩]) [[111]] = none := by decide +kernel

/-! ## non-vacuity: the hypotheses are met by concrete, non-trivial values -/

section examples

open RimeModel.C09.Ex

/-- a fuzz round merges "ab" (fuzzy, one penalty) under the existing spelling "b" and keeps "ab" -/
example : (Projection.apply [fuzzA] (Script.ofSyllabary syl0)) =
    (true, [([97, 98], [⟨[97, 98], {}⟩]), ([98], [⟨[97, 98], ⟨.fuzzy, -1, []⟩⟩, ⟨[98], {}⟩])]) := by decide +kernel

/-- `nondeleting_monotone` has a satisfiable hypothesis with a rule that does apply -/
example : ∃ T, round fuzzA (Script.ofSyllabary syl0) = some T ∧ T.spells [98] [97, 98] :=
  ⟨_, rfl, ⟨[⟨[97, 98], ⟨.fuzzy, -1, []⟩⟩, ⟨[98], {}⟩], by decide +kernel, by decide +kernel⟩⟩

/-- `own_name_law` is not vacuous: after the deleting `xform`, "ab" is no longer spelled by its own name … -/
example : ¬ (Projection.apply [xformA] (Script.ofSyllabary syl0)).2.spells [97, 98] [97, 98] := by
  rintro ⟨v, hv, _⟩
  have : (Projection.apply [xformA] (Script.ofSyllabary syl0)).2.get? [97, 98] = none := by decide +kernel
  rw [this] at hv; cases hv

/-- … and the rule the law then exhibits is that one -/
example : xformA.kind.deletion = true ∧ (xformA.run [97, 98]).isApplied = true := by decide +kernel

/-- `type_is_min` / `cred_is_max` on a merge that meets an existing element: abbreviation with two
penalties meets fuzzy with one -> fuzzy (min type), one penalty (max credibility) -/
example : mergeVec {} [⟨[98], ⟨.fuzzy, -1, []⟩⟩] [⟨[98], ⟨.abbreviation, -2, []⟩⟩] = [⟨[98], ⟨.fuzzy, -1, []⟩⟩] := by
  decide +kernel

/-- the prism of the fuzz table: keys "ab" (0), "b" (1); "b" denotes syllables 0 (fuzzy) and 1 -/
example : ∃ p, Prism.load (Prism.build syl0 (some (Projection.apply [fuzzA] (Script.ofSyllabary syl0)).2)).save = some p ∧
    p.querySpelling 1 = [⟨0, .fuzzy, -1, []⟩, ⟨1, .normal, 0, []⟩] ∧ p.alphabet = [97, 98] ∧
    p.commonPrefixSearch [98, 97] = [⟨1, 1⟩] ∧ p.getValue [97] = none :=
  ⟨_, load_build_id _ _, by decide +kernel, by decide +kernel, by decide +kernel, by decide +kernel⟩

/-- `expand_exact` / `expand_limit_monotone` on a prism with keys a, ab, b, ba, bb and a byte ≥ 0x80:
breadth-first order, `char` order puts 0xE9 before 'a', limit cuts -/
example : ∃ p, Prism.load (Prism.build [[97], [97, 98], [98], [98, 97], [98, 98], [98, 233]] none).save = some p ∧
    p.expandSearch [] 0 = [⟨0, 1⟩, ⟨2, 1⟩, ⟨1, 2⟩, ⟨5, 2⟩, ⟨3, 2⟩, ⟨4, 2⟩] ∧
    p.expandSearch [98] 0 = [⟨2, 1⟩, ⟨5, 2⟩, ⟨3, 2⟩, ⟨4, 2⟩] ∧
    p.expandSearch [98] 2 = [⟨2, 1⟩, ⟨5, 2⟩] ∧ p.expandSearch [99] 0 = [] :=
  ⟨_, load_build_id _ _, by decide +kernel, by decide +kernel, by decide +kernel, by decide +kernel⟩

/-- `erase/^a/` and `erase/b$/` parse into the fragment; as whole-string matches they do NOT apply to "ab"
although the pattern occurs in it (a search would hit), `erase/^a.*$/` and `erase/ab/` do -/
example : (parseRegex [94, 97]).map (fun r => (Erasion.run r [97, 98], r.occursIn [97, 98])) = some (.notApplied, true) ∧
    (parseRegex [98, 36]).map (fun r => (Erasion.run r [97, 98], r.occursIn [97, 98])) = some (.notApplied, true) ∧
    (parseRegex [94, 97, 46, 42, 36]).map (fun r => Erasion.run r [97, 98]) = some (.applied []) ∧
    (parseRegex [97, 98]).map (fun r => (Erasion.run r [97, 98], Erasion.run r [97, 98, 99], r.occursIn [97, 98, 99])) =
      some (.applied [], .notApplied, true) ∧
    Erasion.run (Re.lits [97, 98]) [97, 98] = .applied [] ∧ parseRegex [97, 92, 98] = none := by decide +kernel

/-- hypotheses of `erase_own_name_round` are satisfiable: `erase/^a.*$/` on the syllabary { "ab", "b" } -/
example : ∃ re T, parseRegex [94, 97, 46, 42, 36] = some re ∧ round (Erasion.rule re) (Script.ofSyllabary syl0) = some T ∧
    T.keys = [[98]] ∧ re.fullMatch [97, 98] = true :=
  ⟨_, _, rfl, rfl, by decide +kernel, by decide +kernel⟩

end examples

end C09
