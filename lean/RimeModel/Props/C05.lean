import RimeModel.Session.EditBufProof
import RimeModel.Session.ComposeLetters
/-!
C05 — editing keys act on the raw input exactly like a text buffer with a caret.  Property theorems only.

Model: the processor chain speller → selector → navigator → editor (express / fluid) of RimeModel/Session
with the default keymaps GENERATED from editor.cc / navigator.cc / selector.cc (RimeModel/Gen/Keymaps.lean;
the keymap facts in RimeModel/Session/KeymapFacts.lean are re-checked by the kernel on every run).
Spec: `Buf` (RimeModel/Session/EditBuf.lean) — insert at caret, delete before/at caret, wrap-around
moves, Home/End, clear.
-/
namespace C05
open RimeModel.Session

/-- a fresh session of a schema in the class: empty input, and the layout options the selector and
navigator consult are off -/
structure Fresh (c : Ctx) : Prop where
  input : c.input = []
  caret : c.caret = 0
  segs : c.comp.segs = []
  noVertical : c.getOption "_vertical" = false
  noLinear : c.getOption "_linear" = false
  noHorizontal : c.getOption "_horizontal" = false

theorem fresh_J (env : Env) {c : Ctx} (h : Fresh c) : J env c :=
  ⟨by rw [h.input, h.caret]; exact Nat.le_refl _, by rw [h.input]; intro b hb; simp at hb, Or.inl ⟨h.input, h.segs⟩,
   h.noVertical, h.noLinear, h.noHorizontal⟩

/-- **C05, generic form.**  For every schema environment in the class `Cfg05` whose Compose satisfies
`LettersSpec`, and every finite sequence of editing keys (spelling letters of the schema, BackSpace, Delete,
KP_Left, KP_Right, Right, Home, End, Escape) from a fresh session: the raw input and caret equal those of the
plain text buffer, the per-key handled flags equal `text ≠ "" ∨ key is a letter`, and nothing is committed. -/
theorem chain_refines_buf (env : Env) (hcfg : Cfg05 env) (hls : LettersSpec env) (c0 : Ctx) (h0 : Fresh c0)
    (ks : List EditKey) (hks : ∀ k ∈ ks, ∀ b, k = .letter b → IsLetter env b) :
    let r := runEditKeys env c0 ks
    let s := runBuf {} ks
    r.1.input = s.1.text ∧ r.1.caret = s.1.caret ∧ r.2 = s.2 ∧ r.1.commitBuf = c0.commitBuf := by
  have h := runEditKeys_refines hcfg hls ks c0 [] (fresh_J env h0) hks
  have hb : c0.buf = ({} : Buf) := by simp [Ctx.buf, h0.input, h0.caret]
  rw [hb] at h
  obtain ⟨_, h2, h3, h4⟩ := h
  refine ⟨?_, ?_, h3, h4⟩
  · exact congrArg Buf.text h2
  · exact congrArg Buf.caret h2

/-- **C05 for the modelled engine**: `LettersSpec` is discharged for the concrete port of
`ConcreteEngine::Compose` (abc + fallback segmentors) with any translation oracle, for both editor flavours. -/
theorem chain_refines_buf_concrete (env : Env) (hcfg : Cfg05 env) (cfg : SegCfg) (henv : env.recompose = compose cfg)
    (ha : cfg.alphabet = env.alphabet) (hi : cfg.initials = env.initials) (c0 : Ctx) (h0 : Fresh c0)
    (ks : List EditKey) (hks : ∀ k ∈ ks, ∀ b, k = .letter b → IsLetter env b) :
    let r := runEditKeys env c0 ks
    let s := runBuf {} ks
    r.1.input = s.1.text ∧ r.1.caret = s.1.caret ∧ r.2 = s.2 ∧ r.1.commitBuf = c0.commitBuf :=
  chain_refines_buf env hcfg (compose_letters env cfg henv ha hi) c0 h0 ks hks

/-- one key = one buffer step, from any state of the C05 shape (the simulation step) -/
theorem key_refines_step (env : Env) (hcfg : Cfg05 env) (hls : LettersSpec env) (c : Ctx) (h : J env c) (k : EditKey)
    (hk : ∀ b, k = .letter b → IsLetter env b) :
    let r := processKey env k.toKey c
    J env r.1 ∧ r.1.buf = c.buf.step k ∧ r.2 = c.buf.handled k ∧ r.1.commitBuf = c.commitBuf :=
  let s := step_refines hcfg hls h k hk
  ⟨s.j, s.obs, s.handled, s.buf⟩

/-- non-vacuity: a concrete environment in the class, and the chain run on `a b BackSpace KP_Left c` -/
example :
    let cfg : SegCfg := { alphabet := [97, 98, 99], initials := [97, 98, 99], finals := [], delimiters := [], translate := fun _ _ => [] }
    let env : Env := { alphabet := [97, 98, 99], initials := [97, 98, 99], processors := [.speller, .selector, .navigator, .expressEditor], recompose := compose cfg }
    let ks : List EditKey := [.letter 97, .letter 98, .backSpace, .kpLeft, .letter 99]
    (runEditKeys env {} ks).1.input = [99, 97] ∧ (runEditKeys env {} ks).1.caret = 1 ∧
    (runEditKeys env {} ks).2 = [true, true, true, true, true] ∧ (runBuf {} ks).1 = { text := [99, 97], caret := 1 } := by
  decide +kernel

end C05
