import RimeModel.C18.PathThms
import RimeModel.C18.ValueThms
import RimeModel.C18.BytesThms
import RimeModel.C18.Ref
/-!
# C18 — config trees survive save and load; getters read back what setters wrote

Model: `RimeModel/C18/{Cfg,Path,Value,Ref,Utf8,Emit,Parse,Domain}.lean` (ported from src/rime/config/config_data.cc,
config_types.cc, config_component.cc, config_cow_ref.h; yaml-cpp 0.7 modelled from observed behaviour).
`Gen/C18Emit.lean` is regenerated from the working tree on every run and says which `EmitScalar` policy
and flow depth the source has *now*.  Theorems only; proofs of the longer ones live in the `…Thms` files.
-/
namespace RimeModel.C18
namespace C18

/-! ## the model is of the current source -/

/-- The translator recognised `EmitScalar`, `EmitYaml` and `SaveToStream` of the working tree as the
functions the model was written from (fails closed: an unknown shape makes this unprovable). -/
theorem model_is_of_current_source : currentPolicy.isSome = true ∧ Gen.C18.emitYamlKnown = true := by decide

/-! ## typed values -/

/-- **getInt_setInt**: for every `int` `i` (all 2^32 of them), `GetInt` of what `SetInt i` stored
(`std::to_string`) is `i`: the hex branch is not taken and `stoi` reads the digits back. -/
theorem getInt_setInt (i : Int) (h1 : INT_MIN ≤ i) (h2 : i ≤ INT_MAX) : valGetInt (intToString i) = some i := by
  unfold INT_MIN at h1
  unfold INT_MAX at h2
  rw [intToString_eq]
  by_cases h : i < 0
  · rw [decide_eq_true h, valGetInt_decimal true i.natAbs (show (i.natAbs : Int) ≤ 2147483648 by omega)]
    exact congrArg some (show -(i.natAbs : Int) = i by omega)
  · rw [decide_eq_false h, valGetInt_decimal false i.natAbs (show (i.natAbs : Int) ≤ 2147483647 by omega)]
    exact congrArg some (show (i.natAbs : Int) = i by omega)

/-- `GetBool ∘ SetBool = id`. -/
theorem getBool_setBool (b : Bool) : valGetBool (if b then strTrue else strFalse) = some b := by
  cases b <;> decide

/-- conversion table, string side: `GetString` returns the stored text whatever setter wrote it
(`SetInt` → decimal digits, `SetBool` → `true`/`false`). -/
theorem getString_setInt (i : Int) : asValue (valSetInt i) = some (intToString i) ∧
    asValue (valSetBool true) = some strTrue ∧ asValue (valSetBool false) = some strFalse :=
  ⟨rfl, rfl, rfl⟩

/-- conversion table, int side: `std::stoi` (what `GetInt` falls through to after the hex branch) reads the
canonical decimal spelling, with an optional minus sign, back as its value.  The lenient spellings (white
space, `+`, trailing bytes, hex) are shown on instances in the `example` after `conversions_fail_cleanly`. -/
theorem getInt_setString_decimal (neg : Bool) (n : Nat)
    (hr : if neg then (n : Int) ≤ 2147483648 else (n : Int) ≤ 2147483647) :
    stoi ((if neg then [45] else []) ++ natToDec n) = some (if neg then -(n : Int) else n) :=
  stoi_digits neg n hr

/-- `GetBool` folds ASCII case and accepts nothing but `true` / `false`. -/
theorem getBool_iff (s : Bytes) (b : Bool) :
    valGetBool s = some b ↔ (s ≠ [] ∧ toLowerAscii s = (if b then strTrue else strFalse)) := by
  unfold valGetBool
  by_cases h : s = []
  · simp [h]
  · by_cases h1 : toLowerAscii s = strTrue
    · cases b <;> simp [h, h1, strTrue, strFalse]
    · by_cases h2 : toLowerAscii s = strFalse
      · cases b <;> simp [h, h2, strTrue, strFalse]
      · cases b <;> simp [h, h1, h2]

/-- typed getters fail cleanly — `none` is "returned false, out-parameter untouched": an empty value has no
bool/int/double reading, an int is no bool, a bool is no int, out-of-range digits are no int. -/
theorem conversions_fail_cleanly :
    valGetBool [] = none ∧ valGetInt [] = none ∧ valGetDouble (D := Nat) (fun _ => some 0) [] = none ∧
    valGetBool (intToString 1) = none ∧ valGetInt strTrue = none ∧ valGetInt strFalse = none ∧
    valGetInt [50, 49, 52, 55, 52, 56, 51, 54, 52, 56] = none ∧ valGetInt [45] = none := by
  decide

/-- the lenient spellings `GetInt` accepts, as the code has them: leading white space, a sign, trailing junk,
`0x` hex with wrap-around to negative, hex with a NUL-terminated tail; `0X` is not hex. -/
example : valGetInt [32, 9, 49, 50, 97, 98] = some 12 ∧ valGetInt [43, 55] = some 7 ∧
    valGetInt [48, 120, 49, 102] = some 31 ∧ valGetInt [48, 120, 102, 102, 102, 102, 102, 102, 102, 102] = some (-1) ∧
    valGetInt [48, 120, 49, 103] = some 0 ∧ valGetInt [48, 88, 49, 102] = some 0 ∧
    valGetInt [48, 120, 49, 102, 0, 122] = some 31 := by decide

/-! ## get after set, frame -/

/-- **get-after-set, all path forms.** After `TraverseWrite` (the body of every `Config::Set*`) stores
`item` under any list of keys — map keys, `@N`, `@next`, `@last`, `@before N`, `@after N`, lenient spellings —
reading the location that was written (`written`: every list reference replaced by the index it resolved to
during the write) returns `item`. No hypothesis on the tree or the keys. -/
theorem get_set (cur : Cfg) (keys : List Bytes) (item : Cfg) :
    getSteps (writeAt cur keys item) (written cur keys) = item := by
  induction keys generalizing cur with
  | nil => rfl
  | cons key rest ih =>
    rw [written, getSteps_cons, getStep_writeAt_head]
    exact ih _

/-- The same through the textual read path: when every list reference of the path is *stable* (names the
same index for every list size and never inserts: the `@N` form), `Traverse` of the very same keys returns
the item that was written. -/
theorem get_set_same_path (cur : Cfg) (keys : List Bytes) (item : Cfg)
    (hst : ∀ key ∈ keys, isListRef key = true → Stable key) :
    traverseKeys (writeAt cur keys item) keys = item := by
  induction keys generalizing cur with
  | nil => rfl
  | cons key rest ih =>
    have : childRead (writeAt cur (key :: rest) item) key = writeAt (childRead cur key) rest item := by
      rw [writeAt_cons]
      by_cases hl : isListRef key = true
      · obtain ⟨i, hs⟩ := (List.forall_mem_cons.mp hst).1 hl
        rw [if_pos hl, childRead_list _ _ hl]
        simp only [hs, Bool.false_eq_true, if_false]
        rw [listGet_listSetAt, if_pos rfl]
      · rw [if_neg hl, childRead_map _ _ hl, mapGet_mapSet, if_pos rfl]
    rw [traverseKeys_eq_childRead, this]
    exact ih _ fun k hk => hst k (List.mem_cons_of_mem _ hk)

/-- `Traverse` (the body of every `Config::Get*`) reads exactly the location its keys resolve to. -/
theorem traverse_reads_resolved (cur : Cfg) (keys : List Bytes) :
    traverseKeys cur keys = getSteps cur (readSteps cur keys) := by
  induction keys generalizing cur with
  | nil => rfl
  | cons key rest ih =>
    rw [traverseKeys_eq_childRead, readSteps, getSteps_cons, ← childRead_eq_getStep]
    exact ih _

/-- **get_set_string**: `GetString` after a successful `SetString` on a path with stable list references. -/
theorem get_set_string (root : Cfg) (keys : List Bytes) (s : Bytes)
    (hst : ∀ key ∈ keys, isListRef key = true → Stable key) :
    (asValue (traverseKeys (writeAt root keys (valSetString s)) keys)).bind valGetString = some s := by
  rw [get_set_same_path root keys _ hst]; rfl

/-- **get_set_int**: `GetInt` after `SetInt` returns the value, for every 32-bit `int`. -/
theorem get_set_int (root : Cfg) (keys : List Bytes) (i : Int) (h1 : INT_MIN ≤ i) (h2 : i ≤ INT_MAX)
    (hst : ∀ key ∈ keys, isListRef key = true → Stable key) :
    (asValue (traverseKeys (writeAt root keys (valSetInt i)) keys)).bind valGetInt = some i := by
  rw [get_set_same_path root keys _ hst]
  exact getInt_setInt i h1 h2

/-- **get_set_bool**: `GetBool` after `SetBool`. -/
theorem get_set_bool (root : Cfg) (keys : List Bytes) (b : Bool)
    (hst : ∀ key ∈ keys, isListRef key = true → Stable key) :
    (asValue (traverseKeys (writeAt root keys (valSetBool b)) keys)).bind valGetBool = some b := by
  rw [get_set_same_path root keys _ hst]
  exact getBool_setBool b

/-- **get_set_double** with the `%f` formatter and `std::stod` as parameters: `GetDouble` after `SetDouble d`
is `stod (fmt d)` (whenever the formatted text is not empty). -/
theorem get_set_double {D : Type} (fmt : D → Bytes) (stod : Bytes → Option D) (root : Cfg) (keys : List Bytes) (d : D)
    (hne : fmt d ≠ []) (hst : ∀ key ∈ keys, isListRef key = true → Stable key) :
    (asValue (traverseKeys (writeAt root keys (valSetDouble fmt d)) keys)).bind (valGetDouble stod) = stod (fmt d) := by
  rw [get_set_same_path root keys _ hst]
  simp [valSetDouble, asValue, valGetDouble, hne]

/-- **set_frame.** After a successful write (type check passed) whose keys contain no inserting form, every
location that diverges from the written one — same prefix, then a different key or index — holds what it
held before (absent stays absent). -/
theorem set_frame (cur : Cfg) (keys : List Bytes) (item : Cfg) (q : List Step)
    (hty : typeCheck cur keys = true) (hins : noInsert cur keys = true) (hd : Diverge (written cur keys) q) :
    getSteps (writeAt cur keys item) q = getSteps cur q := by
  induction keys generalizing cur q with
  | nil => exact hd.elim
  | cons key rest ih =>
    cases q with
    | nil => exact hd.elim
    | cons s q' =>
      rw [typeCheck, Bool.and_eq_true] at hty
      rw [noInsert, Bool.and_eq_true] at hins
      have hk : keyInserts cur key = false := by simpa using hins.1
      rw [written] at hd
      rw [getSteps_cons, getSteps_cons]
      rcases hd with hne | ⟨heq, hd'⟩
      · rw [getStep_writeAt_other cur key rest item s hty.1 hk (Ne.symm hne)]
      · subst heq
        rw [getStep_writeAt_head, ← childRead_eq_getStep cur key]
        exact ih _ _ hty.2 hins.2 hd'

/-- **insert_shift.** When the last key is an inserting form (`@before …` / `@after …`, resolved to index `i`
against the list found at the location of the preceding keys), the elements before `i` keep their place,
element `i` is the item, and every later element is the old element one position down. -/
theorem insert_shift (cur : Cfg) (pre : List Bytes) (k : Bytes) (item : Cfg) (j : Nat)
    (hpre : noInsert cur pre = true) (hk : keyInserts (getSteps cur (written cur pre)) k = true) :
    getSteps (writeAt cur (pre ++ [k]) item) (written cur pre ++ [.idx j]) =
      (let i := (resolveIdx (listAt cur pre).length k).index
       if j < i then listGet (listAt cur pre) j else if j = i then item else listGet (listAt cur pre) (j - 1)) := by
  rw [getSteps_append, writeAt_append_at cur pre [k] item hpre]
  simp only [keyInserts, Bool.and_eq_true] at hk
  rw [writeAt_cons, if_pos hk.1]
  simp only [writeAt, listAt]
  rw [hk.2]
  simp only [if_true, getSteps, List.foldl, getStep]
  exact listGet_insert_set _ _ _ _

/-- A write that fails the type check leaves the tree alone (the model returns no new tree), and one that
passes always succeeds: `TraverseWrite` returns false exactly when some key descends from a node of
another type. -/
theorem set_fails_clean (root : Cfg) (path : Bytes) (item : Cfg) :
    traverseWrite root path item = none ↔
      (isRootPath path = false ∧ typeCheck root (nonEmptyKeys (splitPath path)) = false) := by
  unfold traverseWrite
  by_cases h : isRootPath path = true
  · simp [h]
  · by_cases h2 : typeCheck root (nonEmptyKeys (splitPath path)) = true <;> simp [h, h2]

/-- Writes keep every map key-sorted (`std::map`'s invariant, the model's well-formedness predicate). -/
theorem set_preserves_wf (root : Cfg) (path : Bytes) (item r' : Cfg) (h : root.wf = true) (hi : item.wf = true)
    (hw : traverseWrite root path item = some r') : r'.wf = true := by
  unfold traverseWrite at hw
  by_cases hr : isRootPath path = true
  · simp [hr] at hw; rw [← hw]; exact hi
  · simp only [hr] at hw
    by_cases ht : typeCheck root (nonEmptyKeys (splitPath path)) = true
    · simp [ht] at hw; rw [← hw]; exact wf_writeAt _ _ _ h hi
    · simp [ht] at hw

/-! ## scalars in double quotes -/

/-- **unescape_escape.** For every text `s` (UTF-8 of Unicode scalar values other than non-characters),
reading what `WriteDoubleQuotedString` wrote gives `s` back, whatever follows the closing quote. -/
theorem unescape_escape (s rest : Bytes) (h : IsText s) : parseInline (emitDQ s ++ rest) = some (s, false, rest) :=
  parseInline_emitDQ s rest h

/-- yaml-cpp's code-point loop reproduces text byte for byte (so literal blocks carry text unchanged). -/
theorem sanitize_id_on_text (s : Bytes) (h : IsText s) : sanitize s = s := sanitize_text s h

/-- Non-vacuity / why the domain excludes them: a Unicode non-character is rewritten to U+FFFD by yaml-cpp
in every style, and a byte string that is not UTF-8 likewise. -/
example : sanitize [0xEF, 0xBF, 0xBE] = [0xEF, 0xBF, 0xBD] ∧ sanitize [0xFF] = [0xEF, 0xBF, 0xBD] ∧
    isTextB [0xEF, 0xBF, 0xBE] = false := by decide

/-! ## save and load -/

/-- **scalar round trip, plain style.** A non-empty run of `[A-Za-z0-9_.]` bytes followed by nothing or by a
byte outside that class is read back as itself (and flagged plain). -/
theorem scalar_roundtrip_plain (s rest : Bytes) (hne : s ≠ []) (hs : s.all isPlainSafe = true) (hr : RestOK rest) :
    parseInline (s ++ rest) = some (s, true, rest) :=
  parseInline_plain s rest hne hs hr

/-- **scalar round trip, double-quoted style**: `unescape_escape` above, for every text. -/
theorem scalar_roundtrip_dq (s rest : Bytes) (h : IsText s) : parseInline (emitDQ s ++ rest) = some (s, false, rest) :=
  parseInline_emitDQ s rest h

/-- **scalar round trip, literal block style.** A text the block can carry (`literalSafe`: ends in exactly one
LF, no C0 control character other than LF/TAB, first non-empty line not starting with a space), written as
yaml-cpp writes literal blocks and read as `ScanScalar` reads them (indentation auto-detected, clip chomping),
comes back unchanged — whether the block is the last thing in the document or not. -/
theorem scalar_roundtrip_literal (s : Bytes) (atEnd : Bool) (ht : IsText s) (hs : literalSafe s = true) :
    readLiteral (indentLines 2 (literalPieces s)) atEnd = some s :=
  readLiteral_literalPieces s atEnd ht hs

/-- **parse_emit**: for either `EmitScalar` policy and EVERY tree of the domain —
any shape, any depth (block layout above the flow depth, flow layout with yaml-cpp's indentation padding
below), null entries anywhere, maps key-sorted, every scalar a text that the chosen style can carry, every key
a text written as a simple key — loading the saved document gives the tree with its null-valued map entries
and null list elements removed. -/
theorem parse_emit (pol : LitPolicy) (t : Cfg) (hok : TreeOK pol t) (hroot : RootOK pol t) :
    parseDoc (emitDoc pol t) = some t.norm := by
  have hl := lines_rt pol t hok hroot
  -- no line at all would not have been read as a tree
  have hne : emitDocLines pol t ≠ [] := fun e => by rw [e] at hl; exact nomatch hl
  rw [parseDoc, docLines_emitDoc pol t hok hne]
  exact hl

/-- Under the repaired policy the scalar domain is ALL text: nothing is excluded for its line structure, its
control characters or its leading spaces. -/
theorem scalarOK_safe (s : Bytes) (h : IsText s) : ScalarOK .safe s := by
  refine ⟨h, ?_⟩
  intro hw
  simp [wantsLiteral] at hw
  exact hw.2

/-- Under the repaired policy no root is excluded either (`...` is double-quoted). -/
theorem root_unrestricted_safe (t : Cfg) : RootOK .safe t :=
  fun s _ hst => (styleOf_plain_facts .safe false s hst).2.2.2 rfl

/-- **the policy of the working tree excludes no text.** For the `EmitScalar` the translator found in the
current source, every text scalar is in the domain of `parse_emit` and every root is admissible.  On a tree
with the legacy `EmitScalar` this statement is false and does not build (fails closed). -/
theorem current_policy_total : ∀ pol, currentPolicy = some pol →
    (∀ s, IsText s → ScalarOK pol s) ∧ (∀ t, RootOK pol t) := by
  intro pol h
  have hc : currentPolicy = some .safe := by decide
  rw [hc] at h
  cases h
  exact ⟨scalarOK_safe, root_unrestricted_safe⟩

/-- the lines-level form of `parse_emit` (what the block/flow induction proves; `parse_emit` adds that no
emitted line contains a line break, so splitting the document returns the lines). -/
theorem parse_emit_lines (pol : LitPolicy) (t : Cfg) (hok : TreeOK pol t) (hroot : RootOK pol t) :
    parseLines (emitDocLines pol t) = some t.norm :=
  lines_rt pol t hok hroot

/-! ### the defects of the legacy `EmitScalar` (`LitPolicy.legacy`): the model reproduces each failure on its
minimal witness, and the repaired policy round-trips the same witness -/

/-- F1 — multi-line text whose first non-empty line starts with a space: as a map value the saved document
does not load when a later line is indented less (the model's strict parser gives up exactly where yaml-cpp
throws) and silently loses the spaces otherwise. -/
theorem old_literal_leading_space_counterexample :
    parseDoc (emitDoc .legacy (.map [([107], .scalar [32, 97, 10, 98, 10]), ([122], .scalar [49])])) = none ∧
    parseDoc (emitDoc .legacy (.map [([107], .scalar [32, 97, 10]), ([122], .scalar [49])])) =
      some (.map [([107], .scalar [97, 10]), ([122], .scalar [49])]) ∧
    parseDoc (emitDoc .legacy (.scalar [10, 32, 97, 10])) = some (.scalar [10, 97, 10]) ∧
    parseDoc (emitDoc .safe (.map [([107], .scalar [32, 97, 10, 98, 10]), ([122], .scalar [49])])) =
      some (.map [([107], .scalar [32, 97, 10, 98, 10]), ([122], .scalar [49])]) := by
  refine ⟨by rfl, by rfl, by rfl, by rfl⟩

/-- F2 — a lone CR sends the text to a literal block; when the block is not last the text gains a LF, and a
CR in front of the block's own line break is swallowed. -/
theorem old_literal_cr_counterexample :
    parseDoc (emitDoc .legacy (.map [([107], .scalar [97, 13, 98]), ([122], .scalar [49])])) =
      some (.map [([107], .scalar [97, 13, 98, 10]), ([122], .scalar [49])]) ∧
    parseDoc (emitDoc .legacy (.map [([107], .scalar [13]), ([122], .scalar [49])])) =
      some (.map [([107], .scalar []), ([122], .scalar [49])]) ∧
    parseDoc (emitDoc .safe (.map [([107], .scalar [97, 13, 98]), ([122], .scalar [49])])) =
      some (.map [([107], .scalar [97, 13, 98]), ([122], .scalar [49])]) := by
  refine ⟨by rfl, by rfl, by rfl⟩

/-- F3 — NUL / EOT inside multi-line text are written raw into the block, where yaml-cpp's reader takes them
for an escape character / the end of input. -/
theorem old_literal_control_char_counterexample :
    parseDoc (emitDoc .legacy (.scalar [0, 10])) = none ∧ parseDoc (emitDoc .legacy (.scalar [4, 10])) = none ∧
    parseDoc (emitDoc .safe (.scalar [0, 10])) = some (.scalar [0, 10]) := by
  refine ⟨by rfl, by rfl, by rfl⟩

/-- F4 — a root scalar `...` written plain is a document end marker. -/
theorem old_root_document_end_marker_counterexample :
    parseDoc (emitDoc .legacy (.scalar threeDots)) = some .null ∧
    parseDoc (emitDoc .safe (.scalar threeDots)) = some (.scalar threeDots) := by
  refine ⟨by rfl, by rfl⟩

/-- non-vacuity of `parse_emit`: a concrete tree of the domain with every layout in it (block map, block
sequence, a map inside a sequence entry, a literal block that is not last, flow collections with a null
element, an empty collection, a double-quoted and a plain scalar) -/
example : parseDoc (emitDoc .safe (.map [([97], .list [.map [([113], .scalar [120, 10, 121, 10]), ([122], .scalar [49])],
      .list [.list [.null, .scalar [], .map []]]]), ([98], .scalar [97, 32, 98])])) =
    some (.map [([97], .list [.map [([113], .scalar [120, 10, 121, 10]), ([122], .scalar [49])],
      .list [.list [.scalar [], .map []]]]), ([98], .scalar [97, 32, 98])]) := by rfl

/-! ## the other routes to the same tree: `ConfigItemRef`, `Config::Is*`, the C API iterators -/

/-- **get-after-set through `ConfigItemRef`.** After `(*config)[s₁]…[sₙ] = v` (map keys and list indexes in any mix, on ANY
tree: `operator[]` turns whatever it is applied to into the container the step needs, `SetAt` pads with nulls) reading the same
reference returns `v`. -/
theorem ref_get_set (t : Cfg) (steps : List RStep) (v : Cfg) : refGet (refSet t steps v) steps = v := by
  induction steps generalizing t with
  | nil => rfl
  | cons s rest ih =>
    cases s with
    | key k => simp [refSet, refGet, mapGet_mapSet, ih]
    | idx i => simp [refSet, refGet, listGet_listSetAt, ih]

/-- … and a sibling key of the first step keeps its value (frame at the top level of the reference). -/
theorem ref_set_frame_key (t : Cfg) (k j : Bytes) (rest : List RStep) (v : Cfg) (h : j ≠ k) :
    refGet (refSet t (.key k :: rest) v) [.key j] = refGet (.map (vivMap t)) [.key j] := by
  simp [refSet, refGet, mapGet_mapSet, Ne.symm h]

theorem refGet_null (steps : List RStep) : refGet .null steps = .null := by
  cases steps with
  | nil => rfl
  | cons s rest => cases s <;> rfl

theorem listGet_nil (i : Nat) : listGet [] i = .null := by simp [listGet]

/-- **forming a reference does not change what it reads.** `operator[]` may replace nodes on the way by empty containers
(auto-vivification), but the value read through the reference is the value a strict walk of the original tree finds — null where
the walk leaves the tree. -/
theorem ref_viv_read (t : Cfg) (steps : List RStep) : refGet (refViv t steps) steps = refGet t steps := by
  -- a strict first step on `t` reads the container `operator[]` makes of `t`: a node of another kind reads null either way
  have hkey : ∀ (t : Cfg) (k : Bytes) (rest : List RStep),
      refGet t (.key k :: rest) = refGet (mapGet (vivMap t) k) rest := by
    intro t k rest
    cases t with
    | map kvs => rfl
    | _ => exact (refGet_null rest).symm
  have hidx : ∀ (t : Cfg) (i : Nat) (rest : List RStep),
      refGet t (.idx i :: rest) = refGet (listGet (vivList t) i) rest := by
    intro t i rest
    cases t with
    | list xs => rfl
    | _ => exact ((congrArg (refGet · rest) (listGet_nil i)).trans (refGet_null rest)).symm
  induction steps generalizing t with
  | nil => rfl
  | cons s rest ih =>
    cases s with
    | key k =>
      rw [hkey t]
      cases rest with
      | nil => rfl
      | cons r rs =>
        rw [refViv, hkey, vivMap, mapGet_mapSet, if_pos rfl, ih]
        exact List.cons_ne_nil r rs
    | idx i =>
      rw [hidx t]
      cases rest with
      | nil => rfl
      | cons r rs =>
        rw [refViv, hidx, vivList, listGet_listSetAt, if_pos rfl, ih]
        exact List.cons_ne_nil r rs

/-- `Config::IsNull/IsValue/IsList/IsMap(path)` on a path that leads to a node: exactly the flag of the node's type (the four
answer `true` together only where the path leads nowhere). -/
theorem is_flags_onehot (root : Cfg) (p : Bytes) (h : (traverse root p).isNull = false) :
    isFlags root p = refFlags (traverse root p) := by
  unfold isFlags refFlags
  cases hh : traverse root p <;> simp_all [Cfg.isNull]

/-- the list iterator of the C API yields the keys `@i, @i+1, …` in order, one per element -/
theorem iter_list_keys (pre : Bytes) (xs : List Cfg) (i : Nat) :
    (iterListFrom pre xs i).map (·.1) = (List.range xs.length).map (fun j => formatListIndex (i + j)) := by
  induction xs generalizing i with
  | nil => simp [iterListFrom]
  | cons x xs ih =>
    simp only [iterListFrom, List.map_cons, List.length_cons, List.range_succ_eq_map, List.map_map]
    rw [ih (i + 1)]
    simp [Function.comp_def, Nat.add_assoc, Nat.add_comm 1]

/-- … and every path it yields is the prefix followed by the key -/
theorem iter_list_paths (pre : Bytes) (xs : List Cfg) (i : Nat) :
    ∀ kp ∈ iterListFrom pre xs i, kp.2 = pre ++ kp.1 := by
  induction xs generalizing i with
  | nil => simp [iterListFrom]
  | cons x xs ih =>
    intro kp h
    simp only [iterListFrom, List.mem_cons] at h
    rcases h with h | h
    · subst h; rfl
    · exact ih (i + 1) kp h

-- non-vacuity: a reference through a scalar vivifies it, reads null, and the assignment is read back
example : (refGet (refViv (.map [([97], .scalar [120])]) [.key [97], .key [98]]) [.key [97], .key [98]]).isNull = true := by decide
example : (refViv (.map [([97], .scalar [120])]) [.key [97], .key [98]]).beq (.map [([97], .map [])]) = true := by decide
example : (iterList (.map [([108], .list [.scalar [120], .null])]) [108]).map (·.length) = some 2 := by decide

/-! non-vacuity of the path theorems: a concrete tree, an `@before` insertion and a stable key -/
example : Stable [64, 55] := ⟨7, fun _ => by unfold resolveIdx; rfl⟩
example : typeCheck (.map [([97], .list [.scalar [120]])]) [[97], [64, 98, 101, 102, 111, 114, 101, 32, 48]] = true := by decide
example : keyInserts (.list [.scalar [120]]) [64, 98, 101, 102, 111, 114, 101, 32, 48] = true := by decide

end C18
end RimeModel.C18
