import RimeModel.C17.Model
import RimeModel.C17.Codec
import RimeModel.C17.MergeLemmas
import RimeModel.C17.MergeFacts
import RimeModel.C17.RestoreLemmas
import RimeModel.C17.Instances
import RimeModel.C17.Sorted
import RimeModel.C17.World
/-!
C17 — user dictionary sync merges without loss and snapshots round-trip.  Property theorems only.

Model: RimeModel/C17/Model.lean (line-by-line port of user_db.cc, tsv.cc, db_utils.cc, table_db.cc, the Db
interface of level_db.cc, user_dict_manager.cc).  `O : DeeOps D` are the operations the code applies to the
`double dee`, left abstract; `L : LawfulDee O` the laws assumed of them (RimeModel/C17/Codec.lean), satisfied
by the exact instance `natDee` (`natLawful`) and — on finite, non-NaN values — by IEEE doubles with the
codec of the current source.  All statements are for dictionaries of any size.

Vocabulary: `commitsAt O db k` = commit count stored under `k` (0 when absent); `tickCount db` = the
dictionary's tick as `get_tick_count` reads it (1 when missing/unreadable); `theirTick temp` = the snapshot's
`/tick` (0 when missing/unreadable); data keys are the keys ≥ " " (`bytesLt k [32] = false`), which is what
`QueryAll` iterates; `mergeDb O uid m0 dest temp` = `DbSource(temp) >> UserDbMerger(dest)` followed by
`CloseMerge`, `m0` being the value `merged_entries_` starts with (0 since commit 4aee41f).
"Unique keys" hypotheses (`(db.map (·.1)).Nodup`) say the association list is a map, as a real store is.
-/
namespace C17
open RimeModel.C17

variable {D : Type} {O : DeeOps D}

/-- Value codec round trip: unpacking what `Pack` wrote for a value with an `int` count and an
`unsigned long` tick overwrites every field of the receiving object with the packed one — dee as its text
reads back (`L.norm`) — and reports success. -/
theorem unpack_pack (L : LawfulDee O) (v0 v : Value D) (hc : IntRange v.commits) (ht : v.tick < ulongLim) :
    unpackInto O v0 (pack O v) = (⟨v.commits, L.norm v.dee, v.tick⟩, true) :=
  unpackInto_pack L v0 v hc ht

/-- …in particular the values `Unpack` itself can produce (and so everything the merger and the importer
write) survive `Pack`/`Unpack` with count and tick intact. -/
theorem unpack_pack_unpacked (L : LawfulDee O) (s : Bytes) :
    (unpack O (pack O (unpack O s))).commits = (unpack O s).commits ∧
    (unpack O (pack O (unpack O s))).tick = (unpack O s).tick := by
  rw [(unpack_ok L s).unpack_pack]
  exact ⟨rfl, rfl⟩

/-- Backup then restore reproduces every entry: for a dictionary with unique, well-formed keys whose values
are clean (as `Pack` writes them: `pack_is_clean`) and whose metadata holds no newline, restoring its snapshot
into a dictionary `db0` free of data entries (`h0`: an empty dictionary) yields, under every data key, exactly
the stored value of the source — key, commit count, everything.  (For any `db0`, `restore_backup_fetch`:
`db0`'s own entries stay only where the source has none.) -/
theorem restore_backup (src db0 : Db) (hn : (src.map (·.1)).Nodup)
    (hd : ∀ e ∈ src.queryAll, WFKey e.1 ∧ CleanValue e.2)
    (hm : ∀ e ∈ src.queryMeta, 10 ∉ e.1 ∧ 10 ∉ e.2)
    (h0 : ∀ k, bytesLt k [32] = false → db0.fetch k = none)
    (k : Bytes) (hk : bytesLt k [32] = false) :
    (uniformRestore db0 (uniformBackup src)).fetch k = src.fetch k ∧
    commitsAt O (uniformRestore db0 (uniformBackup src)) k = commitsAt O src k := by
  have e : (uniformRestore db0 (uniformBackup src)).fetch k = src.fetch k := by
    rw [restore_backup_fetch src db0 hn hd hm k hk]
    cases src.fetch k with
    | some v => rfl
    | none => exact h0 k hk
  exact ⟨e, by rw [commitsAt, e, commitsAt]⟩

/-- every value `Pack` writes is clean in the sense `restore_backup` needs -/
theorem pack_is_clean (L : LawfulDee O) (v : Value D) : CleanValue (pack O v) := pack_clean L v

/-- A merge never removes an entry: every key of the dictionary (data or metadata) and every data key of the
snapshot is present afterwards — whatever `merged_entries_` started with. -/
theorem merge_keeps_keys (uid : Bytes) (m0 : Int) (dest temp : Db) (k : Bytes) :
    ((dest.fetch k).isSome → ((mergeDb O uid m0 dest temp).fetch k).isSome) ∧
    (k ∈ temp.queryAll.map (·.1) → ((mergeDb O uid m0 dest temp).fetch k).isSome) :=
  ⟨fun h => mergeDb_isSome uid m0 dest temp k ((upsertAll_isSome _ _ _ _).mpr (Or.inl h)),
   fun h => mergeDb_isSome uid m0 dest temp k ((upsertAll_isSome _ _ _ _).mpr (Or.inr h))⟩

/-- No entry appears from nowhere: a data key present after the merge was in the dictionary or in the snapshot. -/
theorem merge_no_new_keys (uid : Bytes) (m0 : Int) (dest temp : Db) (k : Bytes) (hk : bytesLt k [32] = false)
    (h : ((mergeDb O uid m0 dest temp).fetch k).isSome) :
    (dest.fetch k).isSome ∨ k ∈ temp.queryAll.map (·.1) := by
  rw [mergeDb_fetch_data uid m0 dest temp k (not_meta_of_data hk)] at h
  exact (upsertAll_isSome _ _ _ _).mp h

/-- Merged magnitude: under every data key the commit count after the merge has the larger magnitude of the
two sides (absent = 0); entries present on one side only keep their count.  (Counts are mathematical integers
here; the C++ `std::abs` agrees except at INT_MIN, which is excluded from the property.) -/
theorem merge_abs_max (L : LawfulDee O) (uid : Bytes) (m0 : Int) (dest temp : Db) (hn : (temp.map (·.1)).Nodup)
    (k : Bytes) (hk : bytesLt k [32] = false) :
    (commitsAt O (mergeDb O uid m0 dest temp) k).natAbs =
      max (commitsAt O dest k).natAbs (commitsAt O temp k).natAbs := by
  rw [commitsAt_mergeDb L uid m0 dest temp hn k hk]
  split
  · next h => exact (Nat.max_eq_right (Nat.le_of_lt h)).symm
  · next h => exact (Nat.max_eq_left (Nat.le_of_not_lt h)).symm

/-- A merge never lowers the magnitude of a commit count. -/
theorem merge_abs_monotone (L : LawfulDee O) (uid : Bytes) (m0 : Int) (dest temp : Db)
    (hn : (temp.map (·.1)).Nodup) (k : Bytes) (hk : bytesLt k [32] = false) :
    (commitsAt O dest k).natAbs ≤ (commitsAt O (mergeDb O uid m0 dest temp) k).natAbs ∧
    (commitsAt O temp k).natAbs ≤ (commitsAt O (mergeDb O uid m0 dest temp) k).natAbs := by
  rw [merge_abs_max L uid m0 dest temp hn k hk]
  exact ⟨Nat.le_max_left _ _, Nat.le_max_right _ _⟩

/-- Tick: after merging a snapshot with at least one entry (and `merged_entries_` starting at 0) the
dictionary's tick is the maximum of its own and the snapshot's, and the merging user's id is recorded. -/
theorem merge_tick_max (uid : Bytes) (dest temp : Db) (hn : (temp.map (·.1)).Nodup) (hne : temp.queryAll ≠ []) :
    tickCount (mergeDb O uid 0 dest temp) = max (tickCount dest) (theirTick temp) ∧
    (mergeDb O uid 0 dest temp).metaFetch kUserId = some uid := by
  constructor
  · rw [mergeDb_tickCount uid dest temp hne, mergedTick, theirTickOf_eq temp hn]
  · rw [Db.metaFetch, mergeDb_fetch_of_nonempty uid dest temp hne, if_pos rfl]

/-- …and every merged entry carries that tick. -/
theorem merge_entry_tick (L : LawfulDee O) (uid : Bytes) (m0 : Int) (dest temp : Db) (hn : (temp.map (·.1)).Nodup)
    (k v : Bytes) (hkv : (k, v) ∈ temp.queryAll) :
    ∃ s, (mergeDb O uid m0 dest temp).fetch k = some s ∧
      (unpack O s).tick = max (tickCount dest) (theirTick temp) := by
  have hk := mem_queryAll.mp hkv
  refine ⟨_, by rw [mergeDb_fetch uid m0 dest temp hn k hk.2, fetch_of_mem_nodup hn hk.1], ?_⟩
  rw [mergedValue, (mergeValue_ok L _ _ _ (mergedTick_lt dest temp) _ _).unpack_pack]
  simp only [mergeValue, mergedTick, theirTickOf_eq temp hn]

/-- Merging a snapshot without entries changes nothing (with `merged_entries_` starting at 0). -/
theorem merge_empty (uid : Bytes) (dest temp : Db) (he : temp.queryAll = []) :
    mergeDb O uid 0 dest temp = dest := mergeDb_empty uid dest temp he

/-- Idempotence: merging the same snapshot a second time changes nothing — under every key (data and
metadata) the dictionary holds the same bytes as after the first merge: same keys, counts, ticks, and the
same dee text, for any decay function of a lawful dee codec. -/
theorem merge_idempotent (L : LawfulDee O) (uid : Bytes) (dest temp : Db) (hn : (temp.map (·.1)).Nodup)
    (k : Bytes) :
    (mergeDb O uid 0 (mergeDb O uid 0 dest temp) temp).fetch k = (mergeDb O uid 0 dest temp).fetch k := by
  by_cases hne : temp.queryAll = []
  · rw [mergeDb_empty uid _ temp hne]
  · -- ticks of the second merge
    have ht : tickCount (mergeDb O uid 0 dest temp) = mergedTick dest temp := mergeDb_tickCount uid dest temp hne
    have hm : mergedTick (mergeDb O uid 0 dest temp) temp = mergedTick dest temp := by
      rw [mergedTick, ht]
      exact Nat.max_eq_left (Nat.le_max_right _ _)
    have h1 := mergeDb_fetch_of_nonempty (O := O) uid dest temp hne k
    rw [mergeDb_fetch_of_nonempty uid _ temp hne k, hm]
    by_cases hu : 1 :: kUserId = k
    · rw [h1, if_pos hu, if_pos hu]
    · by_cases htk : 1 :: kTick = k
      · rw [h1, if_neg hu, if_neg hu, if_pos htk, if_pos htk]
      · rw [if_neg hu, if_neg htk] at h1 ⊢
        rw [mergedData, fetch_upsertAll _ _ (queryAll_nodup hn)]
        cases hv : Db.fetch temp.queryAll k with
        | none => rfl
        | some v =>
          -- the record of the second merge
          simp only [mergedValue, ht, hm]
          rw [h1, mergedData, fetch_upsertAll _ _ (queryAll_nodup hn), hv]
          exact congrArg some (mergeValue_again L _ _ _ (mergedTick_lt dest temp) _ v)

/-- Merging into a dictionary without the key reproduces the snapshot's count (so `UserDictManager::Restore`
into an empty dictionary reproduces every key and count as well). -/
theorem merge_into_absent (L : LawfulDee O) (uid : Bytes) (m0 : Int) (dest temp : Db) (hn : (temp.map (·.1)).Nodup)
    (k : Bytes) (hk : bytesLt k [32] = false) (habs : dest.fetch k = none) :
    commitsAt O (mergeDb O uid m0 dest temp) k = commitsAt O temp k := by
  have h0 : commitsAt O dest k = 0 := by rw [commitsAt, habs]
  rw [commitsAt_mergeDb L uid m0 dest temp hn k hk, h0]
  split
  · rfl
  · next h => exact (Int.natAbs_eq_zero.mp (Nat.eq_zero_of_not_pos h)).symm

/-- Import rules (`UserDbImporter::Put`): importing count `c` for a key gives max(old, c) when c > 0, marks the
entry deleted — min(c, −|old|) — when c < 0, leaves the count alone when c = 0; the entry's tick is kept, no
other key is touched, and the key exists afterwards. -/
theorem import_rules (L : LawfulDee O) (db : Db) (k value : Bytes) :
    let db' := ((importerSink O).put db k value).1
    let c := (unpack O value).commits
    let oc := commitsAt O db k
    commitsAt O db' k = (if c > 0 then max oc c else if c < 0 then min c (-(oc.natAbs : Int)) else oc) ∧
    (∃ s, db'.fetch k = some s ∧ (unpack O s).tick = (oursBase O (db.fetch k)).tick) ∧
    (∀ k', k' ≠ k → db'.fetch k' = db.fetch k') := by
  have hu := (importValue_ok L (db.fetch k) value).unpack_pack
  have hf := fetch_update db k (pack O (importValue O (db.fetch k) value))
  refine ⟨?_, ⟨_, (hf k).trans (if_pos rfl), ?_⟩, fun k' h => (hf k').trans (if_neg (Ne.symm h))⟩
  · show commitsAt O (db.update k _) k = _
    rw [commitsAt, hf, if_pos rfl]
    simp only [hu, importValue_commits, commitsAt_eq]
  · rw [hu]
    exact importValue_tick _ _

/-- The row parser of the text import: a row `text <Tab> code <Tab> weight` whose weight `std::stoi` reads as
`c` is imported under the key `trim(code) ␠ <Tab> text` with count `c`. -/
theorem import_row (L : LawfulDee O) (text code w : Bytes) (rest : List Bytes) (c : Int) (ht : text ≠ [])
    (hcode : code ≠ []) (hw : w ≠ []) (hc : stoi w = some c) :
    ∃ value, tableParser O (text :: code :: w :: rest) = some (trim code ++ [32, 9] ++ text, value) ∧
      (unpack O value).commits = c := by
  refine ⟨pack O ⟨c, O.ofCount c, 0⟩, by simp [tableParser, tableValue, ht, hcode, hw, hc], ?_⟩
  rw [unpack_pack_eq L ⟨c, O.ofCount c, 0⟩ (stoi_range hc) (show 0 < ulongLim by decide)]

/-- An import never removes an entry, whatever the file contains. -/
theorem import_keeps_keys (p : Parser) (db : Db) (file : Bytes) (k : Bytes) (h : (db.fetch k).isSome) :
    (((tsvRead p (importerSink O) db file).st).fetch k).isSome := by
  refine tsvRead_inv p (importerSink O) (fun s => (s.fetch k).isSome) (fun _ _ _ hs => hs) ?_ db file h
  exact fun s k' v hs => fetch_update_isSome k' _ hs

/-- The store is a map: `Update` keeps the keys strictly increasing in byte order (the order LevelDB iterates
in), hence unique — so the "unique keys" hypotheses above hold for every dictionary built from the empty one. -/
theorem store_sorted (db : Db) (k v : Bytes) (h : db.Sorted) :
    (db.update k v).Sorted ∧ ((db.update k v).map (·.1)).Nodup :=
  ⟨update_sorted db k v h, sorted_nodup (update_sorted db k v h)⟩

/-- …and a merge of anything into an ordered dictionary leaves it ordered. -/
theorem merge_sorted (uid : Bytes) (m0 : Int) (dest temp : Db) (h : dest.Sorted) :
    (mergeDb O uid m0 dest temp).Sorted := by
  rw [mergeDb_eq]
  split
  · exact upsertAll_sorted _ _ _ h
  · exact update_sorted _ _ _ (update_sorted _ _ _ (upsertAll_sorted _ _ _ h))

/-! ### non-vacuity: the hypotheses are met by concrete, non-trivial dictionaries -/

/-- key "a \tb" -/
private def kAB : Bytes := [97, 32, 9, 98]
/-- key "ni hao \t你好" -/
private def kNH : Bytes := [110, 105, 32, 104, 97, 111, 32, 9, 228, 189, 160, 229, 165, 189]
/-- ours: tick 9, "a \tb" ↦ c=1 d=4 t=5 ; "ni hao \t你好" ↦ c=-7 d=2 t=1 -/
private def exDest : Db :=
  [(1 :: kTick, [57]), (kAB, [99, 61, 49, 32, 100, 61, 52, 32, 116, 61, 53]),
   (kNH, [99, 61, 45, 55, 32, 100, 61, 50, 32, 116, 61, 49])]
/-- theirs: tick 50, "a \tb" ↦ c=3 d=8 t=40 -/
private def exTemp : Db := [(1 :: kTick, [53, 48]), (kAB, [99, 61, 51, 32, 100, 61, 56, 32, 116, 61, 52, 48])]

example : (exTemp.map (·.1)).Nodup := by decide
example : exTemp.queryAll ≠ [] := by decide
example : bytesLt kAB [32] = false := by decide
/-- the merged count under "a \tb" is 3 = max |1| |3|, the tick 50 = max 9 50, computed with the lawful `natDee` -/
example : commitsAt natDee (mergeDb natDee [65] 0 exDest exTemp) kAB = 3 ∧
    tickCount (mergeDb natDee [65] 0 exDest exTemp) = 50 ∧
    commitsAt natDee (mergeDb natDee [65] 0 exDest exTemp) kNH = -7 := by decide +kernel
example : ∀ e ∈ exDest.queryAll, WFKey e.1 ∧ CleanValue e.2 := by
  show ∀ e ∈ exDest.tail, WFKey e.1 ∧ CleanValue e.2
  refine List.forall_mem_cons.mpr ⟨?_, List.forall_mem_cons.mpr ⟨?_, fun _ h => nomatch h⟩⟩
  · exact ⟨⟨[97, 32], [98], by decide +kernel⟩, by decide +kernel, by decide +kernel,
      ⟨[99, 61, 49, 32, 100, 61, 52, 32, 116, 61], 53, by decide +kernel⟩⟩
  · exact ⟨⟨[110, 105, 32, 104, 97, 111, 32], [228, 189, 160, 229, 165, 189], by decide +kernel⟩, by decide +kernel,
      by decide +kernel, ⟨[99, 61, 45, 55, 32, 100, 61, 50, 32, 116, 61], 49, by decide +kernel⟩⟩
/-- and the snapshot of that dictionary really restores to it (computed) -/
example : (uniformRestore [] (uniformBackup exDest)).fetch kNH = exDest.fetch kNH := by decide +kernel

/-! ### documented history: the two defects this property found in the tree before the fixes -/

/-- Before commit 4aee41f `merged_entries_` had no initialiser.  With the counter starting at −1 (storage
holding 0xFF bytes) a one-entry merge leaves the dictionary's tick at 9 although the snapshot's is 50:
`merge_tick_max` needs the initialisation. (Replayed on the real code by the `pmerge … 255` op.) -/
theorem old_merged_entries_uninit_counterexample :
    tickCount (mergeDb natDee [65] (-1) exDest exTemp) ≠ max (tickCount exDest) (theirTick exTemp) := by
  decide +kernel

/-- Before commit 8bf60d2 `Unpack` read dee with `std::stod`, which rejects the subnormal numbers `Pack` can
write: a dee codec whose `read` refuses a text its `render` produces (`oldDee`: texts "1"…"7") is not lawful,
and idempotence fails.  Witness: ours "a \tb" ↦ c=1 d=16 t=0 at dictionary tick 3, snapshot "a \tb" ↦ c=1 d=0
t=0: the first merge stores d=2 (16 halved three times), which reads back as nothing, the second merge
rewrites the entry with d=0.  (corpus/C17/subnormal_dee.json is the same scenario on the real code.) -/
theorem old_stod_idempotent_counterexample :
    let dest : Db := [(1 :: kTick, [51]), (kAB, [99, 61, 49, 32, 100, 61, 49, 54, 32, 116, 61, 48])]
    let temp : Db := [(kAB, [99, 61, 49, 32, 100, 61, 48, 32, 116, 61, 48])]
    (mergeDb oldDee [65] 0 (mergeDb oldDee [65] 0 dest temp) temp).fetch kAB ≠
      (mergeDb oldDee [65] 0 dest temp).fetch kAB := by
  decide +kernel

/-- …while the same witness is idempotent with the lawful codec, as `merge_idempotent` says. -/
example :
    let dest : Db := [(1 :: kTick, [51]), (kAB, [99, 61, 49, 32, 100, 61, 49, 54, 32, 116, 61, 48])]
    let temp : Db := [(kAB, [99, 61, 49, 32, 100, 61, 48, 32, 116, 61, 48])]
    (mergeDb natDee [65] 0 (mergeDb natDee [65] 0 dest temp) temp).fetch kAB =
      (mergeDb natDee [65] 0 dest temp).fetch kAB := by
  decide +kernel

/-! ### conversion of an old-format dictionary, synchronization of all dictionaries (op level, `RimeModel/C17/World.lean`) -/

/-- `UpgradeUserDict` without an old-format file changes nothing and succeeds. -/
theorem upgrade_without_old_file (w : World) (i n : Bytes) (h : w.legacyFile i n = none) :
    w.upgrade O i n = (w, true) := by
  unfold World.upgrade
  rw [h]

/-- An old-format file that is not a user dictionary (no `/db_type userdb` line) is left where it is, nothing is merged,
and the call reports failure: no entry is lost by a refused conversion. -/
theorem upgrade_refused_keeps_everything (w : World) (i n c : Bytes) (h : w.legacyFile i n = some c)
    (hu : isUserDb (uniformRestore [] c) = false) :
    w.upgrade O i n = (w, false) := by
  unfold World.upgrade
  rw [h]
  simp [hu]

/-- A conversion that goes ahead is the merge (`UserDictManager::Restore`, to which `merge_keeps_keys`, `merge_abs_max`,
`merge_tick_max` apply) of the uniform snapshot of the old file's content, after the old file and the scratch dictionary
have been removed; the call succeeds iff that merge does. -/
theorem upgrade_is_restore_of_snapshot (w : World) (i n c : Bytes) (h : w.legacyFile i n = some c)
    (hu : isUserDb (uniformRestore [] c) = true) :
    let w1 := ({ w with legacy := w.legacy.filter fun e => e.1 != (i, n) } : World).drop i sDotTemp
    w.upgrade O i n =
      match managerRestore O (w1.env i) 0 (uniformBackup (uniformRestore [] c)) (fun m => w1.db i m) with
      | none => (w1, false)
      | some (m, db) => (w1.setDb i m db, true) := by
  simp only [World.upgrade, h, hu, Bool.not_true, Bool.false_eq_true, if_false]
  -- two compilations of the same match
  generalize managerRestore O _ _ _ _ = r
  cases r <;> rfl

/-- `SynchronizeAll` over no dictionaries changes nothing and succeeds; over `n :: rest` it is `Synchronize n` followed by
the rest, and it succeeds iff every one did (a failure does not stop the others). -/
theorem synchronizeAll_cons (w : World) (i n : Bytes) (rest order : List Bytes) :
    w.synchronizeAll O i [] order = (w, true) ∧
    (w.synchronizeAll O i (n :: rest) order).2 =
      ((w.synchronize O i n [] order).2 &&
       (({ (w.synchronize O i n [] order).1 with files := w.files } : World).synchronizeAll O i rest order).2) :=
  ⟨rfl, foldl_and_snd (fun (w : World) n => (({ (w.synchronize O i n [] order).1 with files := w.files } : World),
    (w.synchronize O i n [] order).2)) rest _ _⟩

end C17
