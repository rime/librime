import RimeModel.C01.Lemmas
import RimeModel.Gen.ApiGuards
import RimeModel.Session.Sites
import RimeModel.Session.WellFormed
import RimeModel.Session.Recompose
import RimeModel.Session.GeoProc
import RimeModel.Session.RecogPattern
import RimeModel.Session.Shape
import RimeModel.Session.GeoPrevProc
import RimeModel.Session.GeoPrevCx
/-!
C01 — no API call sequence crashes, hangs or corrupts memory.  Property theorems only.  CLAIMED PARTIAL:
the theorems cover (1) the guard table of the API entry points and the get/free ownership pairs, both
regenerated from rime_api_impl.h on every run, (2) the partial operations of the modelled context /
processor / API code in every reachable session state, (3) the geometry of the composition in every reachable
state (segments tile a prefix of the composition's input, so every `substr(seg.start, seg.end - seg.start)` is
in range; hypotheses: `TranslateGeo` on the translators, and `NoPrevMatch` on the schema — without the second the
statement is false, see the last section), and (4) termination of the segmentation loop of
ConcreteEngine::CalculateSegmentation with the abc + fallback segmentors (for the punctuation and recognizer
segmentors: the model's fuel is never what stops the loop).  The recursion of Speller::FindEarlierMatch runs on fuel
`|input| + 1` in the model; that this fuel is never exhausted is NOT proved.  Memory safety, exception safety and termination of
everything outside the model (dictionary translators, OpenCC, regex, switcher, component constructors on
malformed schemas) is exhibited only by the sanitizer runs of the check.
-/
namespace C01
open RimeModel.C01 RimeModel.Session

/-- guards dominate uses ⇒ an entry point never dereferences a null session / context / out-parameter,
whatever subset of them is null -/
theorem guarded_no_null_deref (e : ApiEntry) (h : e.guarded = true) (nulls : List String) (v : String) :
    exec nulls e.events ≠ .nullDeref v :=
  guardedFrom_exec nulls e.events [] (by intro w hw; simp at hw) h v

/-- GENERATED-FACT obligation: every API function taking a session id (or freeing a handed-out struct)
checks the session, the context and its pointer out-parameters before using them -/
theorem all_api_guarded : ∀ e ∈ Gen.apiEntries, e.guarded = true := by decide +kernel

/-- `api_total` for the null layer: for unknown / destroyed / zero session ids (GetSession returns null)
and null out-parameters, every generated entry point returns (early or at the end) without a null
dereference -/
theorem api_total (e : ApiEntry) (he : e ∈ Gen.apiEntries) (nulls : List String) (v : String) :
    exec nulls e.events ≠ .nullDeref v :=
  guarded_no_null_deref e (all_api_guarded e he) nulls v

/-- GENERATED-FACT obligation: every get/free pair frees every field it allocates, deletes no field twice
and clears the struct afterwards -/
theorem all_free_pairs_ok : ∀ fp ∈ Gen.freePairs, fp.ok = true := by decide +kernel

/-- **freed exactly once**: for an ok pair, `free` passes to `delete[]` exactly the allocations the struct
owns under the allocated fields (as a multiset: each once), and a second `free` deletes nothing -/
theorem free_once (fp : FreePair) (h : fp.ok = true) (o : Obj) (ho : ∀ e ∈ o.owned, e.1 ∈ fp.allocFields) :
    (freeObj fp o).2.Perm (o.owned.map (·.2)) ∧ (freeObj fp (freeObj fp o).1).2 = [] := by
  simp only [FreePair.ok, Bool.and_eq_true, List.all_eq_true, decide_eq_true_eq] at h
  obtain ⟨⟨hclears, hsub⟩, hnd⟩ := h
  constructor
  · unfold freeObj
    refine List.Perm.map _ (List.perm_iff_count.mpr fun e => ?_)
    rw [count_grouped o.owned e fp.freeFields hnd]
    split
    · rfl
    · exact (List.count_eq_zero.mpr fun he => ‹¬ _› (List.contains_iff_mem.mp (hsub e.1 (ho e he)))).symm
  · unfold freeObj
    simp [hclears]

theorem free_once_generated (fp : FreePair) (hfp : fp ∈ Gen.freePairs) (o : Obj)
    (ho : ∀ e ∈ o.owned, e.1 ∈ fp.allocFields) :
    (freeObj fp o).2.Perm (o.owned.map (·.2)) ∧ (freeObj fp (freeObj fp o).1).2 = [] :=
  free_once fp (all_free_pairs_ok fp hfp) o ho

/-- **no partial operation of the modelled code fails**: in every state reachable by any finite sequence of
API calls (for every environment with `ComposeSpec` and page size ≥ 1), whenever the code reaches one of the
listed partial operations (its guard holds), the operation's C++ precondition holds -/
theorem no_partial_op_fails (env : Env) (hps : 0 < env.pageSize) (hrc : ComposeSpec env.recompose)
    (c0 : Ctx) (h0 : c0.input = [] ∧ c0.caret = 0 ∧ c0.comp.segs = [] ∧ c0.comp.input = []) (ops : List Op) (site : Site)
    (hg : site.guard env (runOps env c0 ops)) : site.pre env (runOps env c0 ops) :=
  Site.pre_of_inv hps (runOps_inv hrc ops (Inv.of_fresh h0)) site hg

/-- the same for the concrete Compose port (hypothesis discharged) -/
theorem no_partial_op_fails_concrete (env : Env) (hps : 0 < env.pageSize) (cfg : SegCfg) (henv : env.recompose = compose cfg)
    (c0 : Ctx) (h0 : c0.input = [] ∧ c0.caret = 0 ∧ c0.comp.segs = [] ∧ c0.comp.input = []) (ops : List Op) (site : Site)
    (hg : site.guard env (runOps env c0 ops)) : site.pre env (runOps env c0 ops) :=
  no_partial_op_fails env hps (by rw [henv]; exact compose_spec cfg) c0 h0 ops site hg

/-- non-vacuity of the guard semantics: an entry that uses the session before checking it does fault -/
example : exec ["session"] [.use "session", .check "session"] = .nullDeref "session" := by decide
example : exec ["session"] [.check "session", .use "session"] = .returnedEarly := by decide
/-- non-vacuity of free_once: a struct holding two allocations under freed fields -/
example :
    let fp : FreePair := { getFn := "g", freeFn := "f", allocFields := ["a", "b[]"], freeFields := ["b[]", "a"], clears := true }
    (freeObj fp { owned := [("a", 1), ("b[]", 2), ("b[]", 3)] }).2 = [2, 3, 1] ∧ fp.ok = true := by decide

/-! ### geometry of the composition: every `substr(seg.start, seg.end - seg.start)` is in range, and the
segmentation loop terminates -/

/-- **the geometric invariant holds in every reachable state** (generic form).  For every environment whose
recomposition function maps a contiguous segment list to a contiguous one lying within the new composition
input (`ComposeGeoSpec`), every finite sequence of API calls from a session without segments leaves a
composition whose segments tile a prefix of the composition's input: the first starts at 0, each starts
where the previous one ends, `start ≤ end` for each, every candidate of a segment's menu ends at or after
the segment's start, and every `end` is at most the length of the composition's input.
`NoPrevMatch env` (auto_select off, or a max_code_length set) restricts the theorem to schemas on which
Speller::AutoSelectPreviousMatch returns at once; for auto_select schemas without a code-length bound the
statement is FALSE without a further restriction (`geometry_fails_prev_match_punct`, `geometry_fails_prev_match_raw`
below: the function pushes back a copied segment without comparing positions); what holds for every schema is
`find_earlier_match_geometry` and `speller_key_geometry_aligned`. -/
theorem geometry_reachable (env : Env) (hrc : ComposeGeoSpec env.recompose) (hnp : NoPrevMatch env) (c0 : Ctx)
    (h0 : c0.comp.segs = []) (ops : List Op) : GeoInv (runOps env c0 ops) :=
  runOps_geo hrc hnp ops (geoInv_of_no_segs h0)

/-- **the same for the modelled engine**: `ComposeGeoSpec` is discharged for the concrete port of
`ConcreteEngine::Compose` (Reset, abc + fallback segmentors, TranslateSegments) with any alphabets and any
translation oracle satisfying `TranslateGeo` (candidates produced for a segment with `start ≤ end` end at or
after the segment's start — an ASSUMPTION about the translators, which are outside the model). -/
theorem geometry_reachable_concrete (env : Env) (cfg : SegCfg) (henv : env.recompose = compose cfg)
    (htr : TranslateGeo cfg) (hnp : NoPrevMatch env) (c0 : Ctx) (h0 : c0.comp.segs = []) (ops : List Op) :
    GeoInv (runOps env c0 ops) :=
  geometry_reachable env (by rw [henv]; exact compose_geo_spec cfg htr) hnp c0 h0 ops

/-- **the geometric invariant for schemas with the punctuation components.**  A schema is the pair of environments of
the `full_shape` option (`runOpsS`, Session/Shape.lean); `ComposeGeoSpec` is discharged for the Compose with
abc_segmentor, punct_segmentor, fallback_segmentor, punct_translator + oracle + filter (`composeP`) for every
punctuation mapping, every oracle satisfying `TranslateGeo` and every filter that only removes or reorders candidates
(`FilterSub`); the punctuator processor (alternating, confirming, committing, pairing) keeps the invariant.  In every
state reachable from a session without segments the segments tile a prefix of the composition's input. -/
theorem geometry_reachable_punct (envOf : Bool → Env) (cfg : Bool → PSegCfg)
    (henv : ∀ b, (envOf b).recompose = composeP (cfg b)) (htr : ∀ b, TranslateGeo (cfg b).toSegCfg)
    (hf : ∀ b, FilterSub (cfg b).filter) (hnp : ∀ b, NoPrevMatch (envOf b)) (c0 : Ctx) (h0 : c0.comp.segs = [])
    (ops : List Op) : GeoInv (runOpsS envOf c0 ops) :=
  runOpsS_geo (fun b => by rw [henv b]; exact composeP_geo_spec (cfg b) (htr b) (hf b)) hnp ops (geoInv_of_no_segs h0)

/-- non-vacuity: `a,/a` with `,` and `/` punctuation keys is four contiguous segments (abc, punct, punct, abc) -/
example :
    let m : List (UInt8 × PunctDef) := [(44, .unique [0xef, 0xbc, 0x8c]), (47, .alt [[0xe3, 0x80, 0x81], [47]])]
    let cfg : PSegCfg := { alphabet := [97], initials := [97], finals := [], delimiters := [],
                           translate := fun _ g => [Cand.mk [65] [] [] g.start g.stop true], punct := m }
    let env : Env := { recompose := composeP cfg }
    (runOpsS (fun _ => env) {} [.setInput [97, 44, 47, 97]]).comp.segs.map (fun g => (g.start, g.stop, g.tags.punct)) =
      [(0, 1, false), (1, 2, true), (2, 3, true), (3, 4, false)] := by
  decide +kernel

/-- **the geometric invariant for schemas with a key binder.**  Every API call of a schema whose processor list holds the
key binder (`runOpsK`: redirected keys go through the nested chain and the post-processor, option actions recompose, a
binding may change `full_shape`) keeps the segments tiling a prefix of the composition's input — for every binding list and
every `switches:` section, with `ComposeGeoSpec` discharged for the Compose with the punctuation components (`composeP`,
which with an empty mapping is the Compose of a schema without punctuator).  The re-entrant ProcessKey needs no fuel: see
`C02.keybinder_nested_chain`. -/
theorem geometry_reachable_keybinder (envOf : Bool → Env) (cfg : Bool → PSegCfg)
    (henv : ∀ b, (envOf b).recompose = composeP (cfg b)) (htr : ∀ b, TranslateGeo (cfg b).toSegCfg)
    (hf : ∀ b, FilterSub (cfg b).filter) (hnp : ∀ b, NoPrevMatch (envOf b)) (c0 : Ctx) (h0 : c0.comp.segs = [])
    (ops : List Op) : GeoInv (runOpsK envOf c0 ops) :=
  runOpsK_geo (fun b => by rw [henv b]; exact composeP_geo_spec (cfg b) (htr b) (hf b)) hnp ops (geoInv_of_no_segs h0)

/-- **the geometric invariant for every timed history** (schemas with an ascii composer and / or a key binder): whatever the
delays between the calls — so whichever Shift / Control taps meet the ascii composer's 500 ms deadline — the segments
tile a prefix of the composition's input (the ascii composer confirms, commits, clears and pushes input only through
context operations that keep the invariant). -/
theorem geometry_reachable_timed (envOf : Bool → Env) (cfg : Bool → PSegCfg)
    (henv : ∀ b, (envOf b).recompose = composeP (cfg b)) (htr : ∀ b, TranslateGeo (cfg b).toSegCfg)
    (hf : ∀ b, FilterSub (cfg b).filter) (hnp : ∀ b, NoPrevMatch (envOf b)) (c0 : Ctx) (h0 : c0.comp.segs = [])
    (ops : List (Nat × Op)) : GeoInv (runOpsT envOf c0 ops) :=
  runOpsT_geo (fun b => by rw [henv b]; exact composeP_geo_spec (cfg b) (htr b) (hf b)) hnp ops (geoInv_of_no_segs h0)

/-- **AsciiComposer's `ctx->PushInput(ch)` inserts within the input** in every state reachable by a timed history: the
caret is at most the input's length (inline editing pushes at the caret, which the navigator may have moved) -/
theorem ascii_pushinput_in_range (envOf : Bool → Env) (hrc : ∀ b, ComposeSpec (envOf b).recompose) (c0 : Ctx)
    (h0 : c0.input = [] ∧ c0.caret = 0 ∧ c0.comp.segs = [] ∧ c0.comp.input = []) (ops : List (Nat × Op)) :
    (runOpsT envOf c0 ops).caret ≤ (runOpsT envOf c0 ops).input.length :=
  (runOpsT_inv hrc ops (Inv.of_fresh h0)).caret_le

/-- non-vacuity: `a b`, caret moved left, Shift_L (inline_ascii) tapped, `x` typed in ascii mode lands at the caret; the
composition covers the input up to the caret: an abc segment and a raw one -/
example :
    let cfg : PSegCfg := { alphabet := [97, 98], initials := [97, 98], finals := [], delimiters := [],
                           translate := fun _ g => [Cand.mk [65] [] [] g.start g.stop true] }
    let env : Env := { alphabet := [97, 98], initials := [97, 98], processors := [.asciiComposer, .speller, .navigator, .fluidEditor],
                       asciiKeys := [(xkShiftL, .inline)], recompose := composeP cfg }
    let c := runOpsT (fun _ => env) {} [(0, .key 97 0), (0, .key 98 0), (0, .key 0xff51 0), (5, .key xkShiftL 0),
                                        (20, .key xkShiftL (kRelease + kShift)), (0, .key 120 0)]
    c.input = [97, 120, 98] ∧ c.caret = 2 ∧ c.comp.input = [97, 120] ∧ c.comp.segs.map (fun g => (g.start, g.stop)) = [(0, 1), (1, 2)] := by
  decide +kernel

/-- **KeyBinder::ReinterpretPagingKey's partial operations are in range** in every reachable state of a schema with a key
binder: `input[input.length() - 1]` is read only when the input is not empty (its guard), and `ctx->PushInput('.')`
inserts at a caret that lies within the input (`caret ≤ |input|`, the C02 invariant) -/
theorem keybinder_reinterpret_in_range (envOf : Bool → Env) (hrc : ∀ b, ComposeSpec (envOf b).recompose) (c0 : Ctx)
    (h0 : c0.input = [] ∧ c0.caret = 0 ∧ c0.comp.segs = [] ∧ c0.comp.input = []) (ops : List Op) :
    let c := runOpsK envOf c0 ops
    c.caret ≤ c.input.length ∧ (c.input ≠ [] → c.input.length - 1 < c.input.length) := by
  have hinv : Inv (runOpsK envOf c0 ops) :=
    runOpsK_inv hrc ops (Inv.of_fresh h0)
  exact ⟨hinv.caret_le, fun hne => Nat.sub_lt (List.length_pos_iff.mpr hne) Nat.one_pos⟩

/-- non-vacuity: Control+m bound to `send_sequence: "a,a"` from an idle session — three nested ProcessKey calls leave
three contiguous segments (abc, punct, abc) -/
example :
    let m : List (UInt8 × PunctDef) := [(44, .alt [[0xef, 0xbc, 0x8c], [44]])]
    let cfg : PSegCfg := { alphabet := [97], initials := [97], finals := [], delimiters := [],
                           translate := fun _ g => [Cand.mk [65] [] [] g.start g.stop true], punct := m }
    let env : Env := { alphabet := [97], initials := [97], processors := [.keyBinder, .speller, .punctuator, .selector, .fluidEditor],
                       punct := { half := m }, bindings := [⟨.always, 109, 4, .send [(97, 0), (44, 0), (97, 0)]⟩],
                       recompose := composeP cfg }
    (runOpsK (fun _ => env) {} [.key 109 4]).comp.segs.map (fun g => (g.start, g.stop, g.tags.punct)) =
      [(0, 1, false), (1, 2, true), (2, 3, false)] := by
  decide +kernel

/-- **Punctuator::AlternatePunct's `ctx->input().substr(segment.start, segment.end - segment.start)` is in range**:
in every reachable state of a schema with the punctuation components, the last segment starts within the RAW input
(`start ≤ end ≤ |composition input| ≤ |input|`: the geometric invariant together with the C02 invariant) -/
theorem punct_alternate_substr_in_range (envOf : Bool → Env) (cfg : Bool → PSegCfg)
    (henv : ∀ b, (envOf b).recompose = composeP (cfg b)) (htr : ∀ b, TranslateGeo (cfg b).toSegCfg)
    (hf : ∀ b, FilterSub (cfg b).filter) (hnp : ∀ b, NoPrevMatch (envOf b)) (c0 : Ctx)
    (h0 : c0.input = [] ∧ c0.caret = 0 ∧ c0.comp.segs = [] ∧ c0.comp.input = []) (ops : List Op) (g : Seg)
    (hlast : (runOpsS envOf c0 ops).comp.segs.getLast? = some g) :
    g.start ≤ (runOpsS envOf c0 ops).input.length ∧ g.stop ≤ (runOpsS envOf c0 ops).input.length := by
  have hgeo := geometry_reachable_punct envOf cfg henv htr hf hnp c0 h0.2.2.1 ops
  have hinv : Inv (runOpsS envOf c0 ops) :=
    runOpsS_inv (fun b => by rw [henv b]; exact composeP_spec (cfg b)) ops (Inv.of_fresh h0)
  generalize runOpsS envOf c0 ops = c at hgeo hinv hlast
  have hmem : g ∈ c.comp.segs := List.mem_of_getLast? hlast
  have h2 := Nat.le_trans (hgeo.bounded g hmem) hinv.cinput_le
  exact ⟨Nat.le_trans (hgeo.geo.seg hmem).1 h2, h2⟩

/-- **PunctSegmentor::Proceed's `input[k]` is in range**: whenever the segmentation loop calls the segmentor
(`LoopInv`: contiguous segments within the composition's input — what `Compose` maintains from any reachable state) and
the current start is not the end of the input, it is a valid index -/
theorem punct_segmentor_index_in_range (c : Comp) (h : LoopInv c) (hne : c.currentStart ≠ c.input.length) :
    c.currentStart < c.input.length := by
  exact Nat.lt_of_le_of_ne (Nat.le_trans (currentStart_le_end h.1) h.2) hne

/-- **the segmentation loop with the punct segmentor: the model's fuel is never what stops it.**  For every contiguous
old composition (every state in which the engine recomposes), raw input and caret, the loop of `composeP` run with the
fuel `|input| + 2` the model passes gives the same composition as with any larger fuel: a round that continues moves the
current start strictly to the right (abc, punct and fallback segmentors never leave the end left of the round's start). -/
theorem punct_segmentation_loop_fuel_adequate (cfg : PSegCfg) (input : Bytes) (caret : Nat) (c : Comp) (h : GeoOK c.segs)
    (k : Nat) :
    let c2 := resetStage input caret c
    segLoopG (segStepP cfg) caret (c2.input.length + 2 + k) c2 = segLoopG (segStepP cfg) caret (c2.input.length + 2) c2 :=
  composeP_fuel_adequate cfg input caret h k

/-- **the geometric invariant for schemas with the recognizer family**, for every timed history.  `ComposeGeoSpec` is
discharged for `composeR` — any list of ascii_segmentor, matcher, abc_segmentor, punct_segmentor, affix_segmentor@…,
fallback_segmentor, any pattern search functions (the regular expressions are not modelled: the theorem holds for all of
them), any affix configurations — under `TranslateGeo` on the oracle and `FilterSub` on the filter.  The matcher pops
segments only when GetMatch found the match's start among the segment starts, and the segment it then adds reaches the end
of the input; the affix segmentor replaces the last segment `[j, k)` by prefix / code / suffix pieces that tile `[j, k)`;
the recognizer processor only pushes input.  In every reachable state the segments tile a prefix of the composition's
input. -/
theorem geometry_reachable_recognizer (envOf : Bool → Env) (cfg : Bool → RSegCfg)
    (henv : ∀ b, (envOf b).recompose = composeR (cfg b)) (htr : ∀ b, TranslateGeo (cfg b).toSegCfg)
    (hf : ∀ b, FilterSub (cfg b).filter) (hnp : ∀ b, NoPrevMatch (envOf b)) (c0 : Ctx) (h0 : c0.comp.segs = [])
    (ops : List (Nat × Op)) : GeoInv (runOpsT envOf c0 ops) :=
  runOpsT_geo (fun b => by rw [henv b]; exact composeR_geo_spec (cfg b) (htr b) (hf b)) hnp ops (geoInv_of_no_segs h0)

/-- non-vacuity: an affix segmentor on the default tag `abc` with prefix `d` and suffix `;` (both letters of the alphabet):
`dab;` set through the API is prefix [0,1) / code [1,3) / suffix [3,4); `d;` has no code segment; `d` alone stays one
segment, renamed `abc_prefix` -/
example :
    let a : AffixCfg := { prefix_ := [100], suffix := [59], tips := [68] }
    let cfg : RSegCfg := { alphabet := [97, 98, 100, 59], initials := [97, 98, 100], finals := [], delimiters := [],
                           translate := fun _ g => if g.tags.abc then [Cand.mk [65] [] [] g.start g.stop true] else [],
                           segmentors := [.matcher, .abc, .affix a, .fallback] }
    let env : Env := { recompose := composeR cfg }
    let segs (w : Bytes) := (runOpsT (fun _ => env) {} [(0, .setInput w)]).comp.segs.map (fun g => (g.start, g.stop, g.tags.phony))
    segs [100, 97, 98, 59] = [(0, 1, true), (1, 3, false), (3, 4, true)] ∧
    segs [100, 59] = [(0, 1, true), (1, 2, true)] ∧
    (runOpsT (fun _ => env) {} [(0, .setInput [100])]).comp.segs.map (fun g => (g.start, g.stop, g.tags.abc, g.tags.extra)) =
      [(0, 1, false, ["abc_prefix"])] := by
  decide +kernel

/-- **the partial operations of the recognizer are in range** in every state reachable by a timed history on a schema
with the recognizer family: `input.substr(k)` in RecognizerPatterns::GetMatch (called by Recognizer::ProcessKeyEvent on the
raw input plus one character, with `k` the confirmed position of the current composition) has `k ≤ |input|` — the
confirmed position lies within the segments, the segments within the composition's input (the geometric invariant),
and that within the raw input (the C02 invariant); and `ctx->PushInput(ch)` inserts at a caret within the input. -/
theorem no_partial_op_fails_recognizer (envOf : Bool → Env) (cfg : Bool → RSegCfg)
    (henv : ∀ b, (envOf b).recompose = composeR (cfg b)) (htr : ∀ b, TranslateGeo (cfg b).toSegCfg)
    (hf : ∀ b, FilterSub (cfg b).filter) (hnp : ∀ b, NoPrevMatch (envOf b)) (c0 : Ctx)
    (h0 : c0.input = [] ∧ c0.caret = 0 ∧ c0.comp.segs = [] ∧ c0.comp.input = []) (ops : List (Nat × Op)) :
    let c := runOpsT envOf c0 ops
    c.comp.confirmedPos ≤ c.input.length ∧ c.caret ≤ c.input.length := by
  have hgeo := geometry_reachable_recognizer envOf cfg henv htr hf hnp c0 h0.2.2.1 ops
  have hinv : Inv (runOpsT envOf c0 ops) :=
    runOpsT_inv (fun b => by rw [henv b]; exact composeR_spec (cfg b)) ops (Inv.of_fresh h0)
  generalize runOpsT envOf c0 ops = c at hgeo hinv
  exact ⟨Nat.le_trans (confirmedPos_le_end hgeo.geo) (Nat.le_trans hgeo.end_le hinv.cinput_le), hinv.caret_le⟩

/-- **the partial operations of the matcher and the affix segmentor are in range** whenever the segmentation loop calls
them (`LoopInv`: what `Compose` maintains from any reachable state): GetMatch's `input.substr(k)` has `k ≤ |input|`, and
AffixSegmentor::Proceed's `input.substr(j, k - j)` has `j ≤ k ≤ |input|` (`k - j` does not wrap around) -/
theorem recognizer_segmentors_substr_in_range (c : Comp) (h : LoopInv c) :
    c.confirmedPos ≤ c.input.length ∧ c.currentStart ≤ c.currentEnd ∧ c.currentEnd ≤ c.input.length := by
  rw [currentEnd_eq]
  exact ⟨Nat.le_trans (confirmedPos_le_end h.1) h.2, currentStart_le_end h.1, h.2⟩

/-- **the segmentation loop with the recognizer family: the model's fuel is never what stops it.**  The matcher may move
the current start to the LEFT (it pops segments), and the affix segmentor moves it to the right inside a round; what the
measure needs is that no segmentor moves the END of the segmentation to the left — then a round that continues starts
strictly right of the previous one.  With the fuel `|input| + 2` the loop of `composeR` gives the same composition as
with any larger fuel. -/
theorem recognizer_segmentation_loop_fuel_adequate (cfg : RSegCfg) (input : Bytes) (caret : Nat) (c : Comp) (h : GeoOK c.segs)
    (k : Nat) :
    let c2 := resetStage input caret c
    segLoopG (segStepR cfg) caret (c2.input.length + 2 + k) c2 = segLoopG (segStepR cfg) caret (c2.input.length + 2) c2 :=
  composeR_fuel_adequate cfg input caret h k

/-- **every `input_.substr(seg.start, seg.end - seg.start)` is in range** (Composition::GetCommitText /
GetPreedit / GetScriptText / GetDebugText, ConcreteEngine::TranslateSegments).  In every reachable state, for
the segment `g` at any index `i` of the composition: `g.start ≤ g.end ≤ |composition input|` — so `pos =
g.start` meets `std::string::substr`'s precondition `pos ≤ size()`, the count `g.end - g.start` does not wrap
around, and the slice is not clipped (it has exactly `g.end - g.start` bytes); the first segment starts at 0
and the next segment, if any, starts at `g.end`. -/
theorem substr_in_range (env : Env) (hrc : ComposeGeoSpec env.recompose) (hnp : NoPrevMatch env) (c0 : Ctx)
    (h0 : c0.comp.segs = []) (ops : List Op) (i : Nat) (g : Seg)
    (hg : (runOps env c0 ops).comp.segs[i]? = some g) :
    let c := runOps env c0 ops
    g.start ≤ g.stop ∧ g.stop ≤ c.comp.input.length ∧
      (substr c.comp.input g.start (g.stop - g.start)).length = g.stop - g.start ∧
      (i = 0 → g.start = 0) ∧ (∀ g', c.comp.segs[i + 1]? = some g' → g'.start = g.stop) :=
  (geometry_reachable env hrc hnp c0 h0 ops).seg_in_range hg

/-- **the segments tile the input**: in every reachable state the slices `substr(seg.start, seg.end -
seg.start)` of the segments, concatenated in order, are exactly the composition's input up to the last
segment's end (nothing skipped, nothing read twice) -/
theorem slices_tile_input (env : Env) (hrc : ComposeGeoSpec env.recompose) (hnp : NoPrevMatch env) (c0 : Ctx)
    (h0 : c0.comp.segs = []) (ops : List Op) :
    let c := runOps env c0 ops
    (c.comp.segs.map (Seg.slice c.comp.input)).flatten = c.comp.input.take c.comp.currentEnd :=
  slices_flatten _ (geometry_reachable env hrc hnp c0 h0 ops).geo

/-- **the `while (!segments->HasFinishedSegmentation())` loop of CalculateSegmentation terminates.**
`LoopRun cfg caret c r` is the loop's big-step semantics without fuel (it holds iff the loop, started on
`c`, exits after finitely many rounds leaving `r`).  For every composition `c` whose segments are contiguous
(`GeoOK` — in particular the composition Compose hands to the loop in any reachable state, see
`compose_loop_terminates`) and every fuel ≥ `|input| - current start` (the model passes `|input| + 2`):
`segLoop` returns the result of a complete run, that result is the only one the loop can produce, more fuel
never changes it, and it satisfies the loop's own exit condition (segmentation finished, or the last round
did not advance, or it started at or after the caret).  Measure: a round after which the loop continues
moves the current start strictly to the right, and it stays left of the input's end. -/
theorem segmentation_loop_terminates (cfg : SegCfg) (caret : Nat) (c : Comp) (h : GeoOK c.segs) (fuel : Nat)
    (hf : c.input.length - c.currentStart ≤ fuel) :
    let r := segLoop cfg caret fuel c
    LoopRun cfg caret c r ∧ (∀ r', LoopRun cfg caret c r' → r' = r) ∧
      (∀ k, segLoop cfg caret (fuel + k) c = r) ∧
      (r.hasFinishedSegmentation = true ∨
        ∃ c0, r = segStep cfg c0 ∧ c0.hasFinishedSegmentation = false ∧
          (c0.currentStart = r.currentEnd ∨ caret ≤ c0.currentStart)) := by
  have ht := segLoop_terminates cfg caret h hf
  exact ⟨ht.1, fun r' hr' => hr'.unique ht.1, ht.2, ht.1.exit⟩

/-- **the fuel of the model's Compose is never what stops the loop.**  For every contiguous old composition
(every state in which the engine recomposes: `GeoPre`), every raw input and caret: the composition that
`Compose` hands to the loop after its `Reset`s is contiguous and within its input, the model's `compose` is
`TranslateSegments ∘ (Trim / Forward) ∘ loop` on it, the loop run with the model's fuel `|input| + 2` is a
complete run, and any larger fuel gives the same composition. -/
theorem compose_loop_terminates (cfg : SegCfg) (input : Bytes) (caret : Nat) (c : Comp) (h : GeoOK c.segs) :
    let c2 := resetStage input caret c
    let r := segLoop cfg caret (c2.input.length + 2) c2
    GeoOK c2.segs ∧ Bounded c2 ∧
      compose cfg input caret c = translateSegments cfg (forwardIfSelected (trimUnlessPlaceholder r)) ∧
      LoopRun cfg caret c2 r ∧ ∀ k, segLoop cfg caret (c2.input.length + 2 + k) c2 = r := by
  have h2 := resetStage_geo h input caret
  have ht := segLoop_terminates cfg caret h2.1 (fuel := (resetStage input caret c).input.length + 2)
    (Nat.le_trans (Nat.sub_le _ _) (Nat.le_add_right _ _))
  exact ⟨h2.1, h2.bounded, rfl, ht.1, ht.2⟩

/-- the loop in every reachable state: whatever the client does next, the composition of a reachable state is
a legal starting point of `compose_loop_terminates` -/
theorem reachable_loop_terminates (env : Env) (cfg : SegCfg) (henv : env.recompose = compose cfg)
    (htr : TranslateGeo cfg) (hnp : NoPrevMatch env) (c0 : Ctx) (h0 : c0.comp.segs = []) (ops : List Op) (input : Bytes) (caret : Nat) :
    let c2 := resetStage input caret (runOps env c0 ops).comp
    LoopRun cfg caret c2 (segLoop cfg caret (c2.input.length + 2) c2) ∧
      ∀ k, segLoop cfg caret (c2.input.length + 2 + k) c2 = segLoop cfg caret (c2.input.length + 2) c2 :=
  let hc := compose_loop_terminates cfg input caret (runOps env c0 ops).comp
    (geometry_reachable_concrete env cfg henv htr hnp c0 h0 ops).geo
  ⟨hc.2.2.2.1, hc.2.2.2.2⟩

/-- non-vacuity of `GeoOK` / `Bounded`: a two-segment composition over `abc`, the first segment carrying a
menu with a partial candidate -/
example :
    let g1 : Seg := { status := .selected, start := 0, stop := 2, length := 2,
                      menu := some [Cand.mk [65] [] [] 0 2 true, Cand.mk [66] [] [] 0 1 true] }
    let g2 : Seg := { status := .guess, start := 2, stop := 3, length := 1, menu := some [] }
    let c : Comp := { input := [97, 98, 99], segs := [g1, g2] }
    GeoOK c.segs ∧ Bounded c := by
  intro g1 g2 c
  have h1 : SegGeo g1 := ⟨by decide, candGeo_of_menu rfl (by decide)⟩
  have h2 : SegGeo g2 := ⟨by decide, candGeo_of_menu rfl (by decide)⟩
  have hgeo : GeoOK c.segs := (geoOK_snoc [g1] g2).mpr ⟨(geoOK_snoc [] g1).mpr ⟨geoOK_nil, h1, rfl⟩, h2, rfl⟩
  exact ⟨hgeo, (bounded_iff_end hgeo).mpr (by decide)⟩

/-- non-vacuity of `TranslateGeo`: the echo translator (one candidate spanning the segment) satisfies it -/
example :
    let cfg : SegCfg := { alphabet := [97], initials := [97], finals := [], delimiters := [],
                          translate := fun _ g => [Cand.mk [65] [] [] g.start g.stop true] }
    TranslateGeo cfg := by
  intro cfg inp g hg cd hcd
  simp only [cfg] at hcd
  simp only [List.mem_cons, List.mem_nil_iff, or_false] at hcd
  subst hcd
  exact hg

/-- non-vacuity of the termination theorem: on `a,a` (alphabet `a`) the loop runs three rounds — abc segment,
raw segment for the comma, abc segment — and with fuel 1 the model would have stopped after the first -/
example :
    let cfg : SegCfg := { alphabet := [97], initials := [97], finals := [], delimiters := [], translate := fun _ _ => [] }
    let c : Comp := { input := [97, 44, 97], segs := [] }
    (segLoop cfg 3 (c.input.length - c.currentStart) c).segs.map (fun g => (g.start, g.stop, g.tags.abc, g.tags.raw))
        = [(0, 1, true, false), (1, 2, false, true), (2, 3, true, false)] ∧
      (segLoop cfg 3 1 c).segs.map (fun g => (g.start, g.stop)) = [(0, 1), (1, 1)] := by
  decide +kernel

/-- non-vacuity of the reachability theorems: typing `a`, `,`, `a` through the speller-less API (`set_input`)
reaches a three-segment composition -/
example :
    let cfg : SegCfg := { alphabet := [97], initials := [97], finals := [], delimiters := [],
                          translate := fun _ g => [Cand.mk [65] [] [] g.start g.stop true] }
    let env : Env := { recompose := compose cfg }
    (runOps env {} [.setInput [97, 44, 97]]).comp.segs.map (fun g => (g.start, g.stop)) = [(0, 1), (1, 2), (2, 3)] := by
  decide +kernel

/-! ### Speller::AutoSelectPreviousMatch (auto_select without a code-length bound) and the geometry

What is proved for EVERY schema, what is proved under a local condition, and why `NoPrevMatch` cannot simply be dropped
from `geometry_reachable` and its variants. -/

/-- **Speller::FindEarlierMatch keeps the geometric invariant**, for every schema and every recomposition function
satisfying `ComposeGeoSpec` (it only calls `set_input`, `ConfirmCurrentSelection` and `Commit`) -/
theorem find_earlier_match_geometry (env : Env) (hrc : ComposeGeoSpec env.recompose) (fuel s e : Nat) (c : Ctx)
    (h : GeoInv c) : GeoInv (findEarlierMatch env fuel s e c).1 :=
  findEarlierMatch_geo hrc fuel s e c h

/-- **one key through the speller, any schema**: Speller::ProcessKeyEvent keeps the geometric invariant provided the
"reuse previous match" branch of AutoSelectPreviousMatch, if taken for this key, pushes the saved segment back where
the segments before the popped one end (`SpellerAligned`).  The state in between (saved segment pushed, not yet
selected) may have its last end beyond the composition's input; ConfirmCurrentSelection always recomposes there,
because the saved segment ends before the end of the raw input (C02 invariant `cinput_le` + `Bounded`). -/
theorem speller_key_geometry_aligned (env : Env) (hrc : ComposeGeoSpec env.recompose) (hrs : ComposeSpec env.recompose)
    (k : Key) (c : Ctx) (hi : Inv c) (h : GeoInv c) (hal : SpellerAligned env k c) :
    GeoInv (spellerProcess env k c).1 :=
  spellerProcess_geo_of_aligned hrc hrs k hi h hal

/-- **a repair**: had AutoSelectPreviousMatch compared `previous_segment->start` with the start of the segment it is
about to pop (and skipped the reuse otherwise), the reuse branch would be aligned in every state -/
theorem prev_match_same_start_aligned (env : Env) (prev : Option Seg) (c : Ctx) (h : GeoOK c.comp.segs)
    (hs : ∀ p, prev = some p → c.comp.segs ≠ [] ∧ p.start = c.comp.currentStart) : ReuseAligned env prev c :=
  reuseAligned_of_same_start h hs

/-- **`NoPrevMatch` cannot be dropped (punctuation components)**: with `auto_select: true`, no `max_code_length`, a
punctuation key bound to a list of alternatives and a letter without candidates, the keys `/` `a` reach the
composition `[0,1) [0,1) [1,2)` — the punctuation segment twice (preedit `、、a`).  All other hypotheses of
`geometry_reachable_punct` hold.  Replayed on librime: same observation. -/
theorem geometry_fails_prev_match_punct :
    ∃ (env : Env) (cfg : PSegCfg) (ops : List Op), env.recompose = composeP cfg ∧ TranslateGeo cfg.toSegCfg ∧
      FilterSub cfg.filter ∧ ¬ GeoInv (runOps env {} ops) :=
  prev_match_breaks_geometry_punct

/-- **`NoPrevMatch` cannot be dropped (abc + fallback segmentors)** unless the oracle is restricted further than
`TranslateGeo`: a translator that gives a candidate to a raw segment reaches `[0,1) [0,1) [1,2)` with
`set_input("1")`, key `a` -/
theorem geometry_fails_prev_match_raw :
    ∃ (env : Env) (cfg : SegCfg) (ops : List Op), env.recompose = compose cfg ∧ TranslateGeo cfg ∧
      ¬ GeoInv (runOps env {} ops) :=
  prev_match_breaks_geometry_raw

/-- non-vacuity: `auto_select: true`, no `max_code_length`; `ab` has two candidates (a unique one would be
selected at once), `abc` has none.  On the key `c` the
reuse branch IS taken (AutoSelectPreviousMatch returns true) and, the saved segment being an abc segment that the key
extended in place, it is aligned: the result is `[0,2)` selected, `[2,3)` -/
example :
    let cfg : SegCfg := { alphabet := [97, 98, 99], initials := [97, 98, 99], finals := [], delimiters := [39],
                          translate := fun inp g => if inp = [97, 98] then [Cand.mk [65] [] [] g.start g.stop true, Cand.mk [66] [] [] g.start g.stop true] else [] }
    let env : Env := { alphabet := [97, 98, 99], initials := [97, 98, 99], delimiters := [39], autoSelect := true,
                       maxCodeLength := 0, processors := [.speller, .selector, .navigator, .fluidEditor],
                       recompose := compose cfg }
    let c1 := runOps env {} [.key 97 0, .key 98 0]
    let c2 := (Ctx.pushInput env c1 99).beginEditing
    c2.comp.segs.map (fun g => (g.start, g.stop)) = [(0, 3)] ∧
    (autoSelectPreviousMatch env (spellerPrev env c1) c2).2 = true ∧
    (spellerPrev env c1).map (fun p => (p.start, endOf c2.comp.segs.dropLast)) = some (0, 0) ∧
    (runOps env {} [.key 97 0, .key 98 0, .key 99 0]).comp.segs.map (fun g => (g.start, g.stop, g.status)) =
      [(0, 2, .selected), (2, 3, .guess)] := by
  decide +kernel


end C01
