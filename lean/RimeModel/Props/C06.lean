import RimeModel.C06.OrderLemmas
import RimeModel.C06.FindLemmas
import RimeModel.C06.ReverseLemmas
import RimeModel.C06.SourceLemmas
import RimeModel.C06.ArenaLemmas
import RimeModel.C06.WeightLemmas
import RimeModel.C06.LayoutLemmas
/-!
C06 — a compiled dictionary contains exactly its source entries.  Property theorems only.

Model: RimeModel/C06/{Basic,Source,Weight,Table,Reverse,Compile,Arena,Layout}.lean (ports of entry_collector.cc,
dict_compiler.cc:216-278, vocabulary.cc, table.cc Build* and its size functions, reverse_lookup_dictionary.cc Build,
mapped_file.h).
`S` is whatever `Vocabulary::SortHomophones` did to one page: the theorems only use that it returns a
permutation (`hS`), and — for the order clause — that the result is weight-sorted (`hsorted`); `std::sort` is
unstable, so nothing is ever claimed about the order among equal weights.  `W` is any weight type with any
comparison `le`; `weight_order_cast` carries the order through any monotone cast (double → log → float).
-/
namespace C06
open RimeModel.C06 RimeModel.Arena

variable {W : Type}

/-- rows the index can hold: a non-empty code whose first syllable id is a head-index position
(all ids the compiler produces are ranks in the syllabary, see `compile_rows_valid`) -/
def ValidRows (n : Nat) (rs : List (CRow W)) : Prop := ∀ r ∈ rs, r.code ≠ [] ∧ r.code.getD 0 0 < n

/-- `Vocabulary::LocateEntries` walks the first three syllables and then the key -1: the loop as written
equals the closed form `pagePath`; only the empty code yields NULL. -/
theorem locate_entries_path (code : List Nat) :
    locate code = if code = [] then none else some (pagePath code) := by
  rcases code with _ | ⟨a, _ | ⟨b, _ | ⟨c, _ | ⟨d, rest⟩⟩⟩⟩
  · rfl
  · rfl
  · rfl
  · rfl
  · -- four syllables or more: the loop returns in its fourth iteration, at `i == indexDepth`, with key -1
    simp [locate, locateLoop, pagePath, indexDepth]

/-- **enumerate_build_perm** — the full enumeration of the built index is a permutation of the rows given to
the builder, as (code, text, weight): nothing lost, nothing invented, nothing attached to another code;
for every page-sorting routine that permutes. -/
theorem enumerate_build_perm (S : List (CRow W) → List (CRow W)) (hS : ∀ l, (S l).Perm l) (n : Nat)
    (rs : List (CRow W)) (hv : ValidRows n rs) :
    (enumerate (build S n rs)).Perm rs :=
  enumerate_perm S hS n rs hv

/-- **no_foreign_code** — every enumerated entry sits in a list its own code leads to: the index code of
the list followed by the stored extra code is the code of a source row (`index_code ++ extra_code = code`, in
particular for codes longer than three), and text and weight are that row's.  That the index code is at most the
first three syllables and the extra code the rest is `index_extra_shape`. -/
theorem no_foreign_code (S : List (CRow W) → List (CRow W)) (hS : ∀ l, (S l).Perm l) (n : Nat)
    (rs : List (CRow W)) (hv : ValidRows n rs) (i : Item W) (hi : i ∈ enumerateRaw (build S n rs)) :
    ∃ r ∈ rs, r.code = i.index ++ i.extra ∧ r.text = i.text ∧ r.weight = i.weight := by
  have hm : i.row ∈ enumerate (build S n rs) := List.mem_map_of_mem hi
  have := (enumerate_build_perm S hS n rs hv).mem_iff.mp hm
  exact ⟨i.row, this, rfl, rfl, rfl⟩

/-- where an entry is filed: index code = at most the first three syllables, extra code only below a full
index code -/
theorem index_extra_shape (S : List (CRow W) → List (CRow W)) (n : Nat) (rs : List (CRow W))
    (i : Item W) (hi : i ∈ enumerateRaw (build S n rs)) :
    i.index.length ≤ indexDepth ∧ (i.extra ≠ [] → i.index.length = indexDepth) :=
  mem_enumHead 0 _ hi

/-- what the enumeration shows of one code is the page that code is filed in, in page order -/
theorem code_entries_are_page (S : List (CRow W) → List (CRow W)) (hS : ∀ l, (S l).Perm l) (n : Nat)
    (rs : List (CRow W)) (c : List Nat) (hc : c ≠ []) (hn : c.getD 0 0 < n) :
    filterCode c (enumerate (build S n rs)) = filterCode c (S (pageOf c rs)) := by
  obtain ⟨a, t, rfl⟩ := List.exists_cons_of_ne_nil hc
  rw [rows_enumerate S hS, filterCode, List.filter_flatMap]
  -- only the head node of the first syllable has rows of this code
  rw [flatMap_single (fun s => (enumD S 2 [s] rs).filter (fun r : CRow W => r.code == a :: t)) a
    (List.range n) List.nodup_range fun k _ hne => filterCode_nil (c := a :: t) fun r hr e =>
      hne (List.cons_prefix_cons.mp (e ▸ (mem_enumD S hS rs 2 [k] hr).1)).1]
  rw [if_pos (List.mem_range.mpr (show a < n from hn))]
  exact enumD_filterCode S hS rs (a :: t) 2 [a] rfl (List.cons_prefix_cons.mpr ⟨rfl, List.nil_prefix⟩)

/-- **weight_sorted** — if the page sorter returns weight-sorted lists (non-increasing under `le`), then the
entries of any one code appear in non-increasing weight order in the enumeration. -/
theorem weight_sorted (le : W → W → Bool) (S : List (CRow W) → List (CRow W)) (hS : ∀ l, (S l).Perm l)
    (hsorted : ∀ l, (S l).Pairwise (fun a b => le b.weight a.weight = true))
    (n : Nat) (rs : List (CRow W)) (c : List Nat) (hc : c ≠ []) (hn : c.getD 0 0 < n) :
    (filterCode c (enumerate (build S n rs))).Pairwise (fun a b => le b.weight a.weight = true) := by
  rw [code_entries_are_page S hS n rs c hc hn]
  exact List.Pairwise.filter _ (hsorted _)

/-- the model's own `SortHomophones` (stable merge sort by weight, descending) is one admissible sorter,
for any total preorder on weights -/
theorem mergeSort_admissible (le : W → W → Bool)
    (htrans : ∀ a b c : W, le a b = true → le b c = true → le a c = true)
    (htotal : ∀ a b : W, (le a b || le b a) = true) (l : List (CRow W)) :
    (l.mergeSort (fun a b => le b.weight a.weight)).Perm l ∧
    (l.mergeSort (fun a b => le b.weight a.weight)).Pairwise (fun a b => le b.weight a.weight = true) :=
  ⟨List.mergeSort_perm l _,
   List.pairwise_mergeSort (le := fun (a b : CRow W) => le b.weight a.weight)
     (fun _ _ _ h1 h2 => htrans _ _ _ h2 h1) (fun a b => htotal b.weight a.weight) l⟩

/-- the sorter the model (driver) runs on exact decimal weights is admissible: `Wt.le` is a total preorder -/
theorem model_sorter_admissible (l : List (CRow Wt)) :
    (sortHomophones l).Perm l ∧ (sortHomophones l).Pairwise (fun a b => Wt.le b.weight a.weight = true) :=
  mergeSort_admissible Wt.le Wt.le_trans Wt.le_total l

/-- order survives any monotone cast of the weights (exact weight → double → log → float) -/
theorem weight_order_cast {F : Type} (le : W → W → Bool) (leF : F → F → Bool) (cast : W → F)
    (hmono : ∀ a b, le a b = true → leF (cast a) (cast b) = true) (l : List (CRow W))
    (h : l.Pairwise (fun a b => le b.weight a.weight = true)) :
    (l.map (fun r => cast r.weight)).Pairwise (fun x y => leF y x = true) := by
  rw [List.pairwise_map]
  exact List.Pairwise.imp (fun {a b} hab => hmono _ _ hab) h

/-- **original_order** — with `sort: original` (no sorting) the entries of any one code appear in source
order. -/
theorem original_order (n : Nat) (rs : List (CRow W)) (c : List Nat) (hc : c ≠ []) (hn : c.getD 0 0 < n) :
    filterCode c (enumerate (build id n rs)) = filterCode c rs := by
  rw [code_entries_are_page id (fun _ => List.Perm.refl _) n rs c hc hn]
  exact filterCode_pageOf rs c

/-- trunk arrays are key-sorted (the vocabulary map is): strictly ascending keys at both trunk levels -/
theorem trunk_keys_ascending (S : List (CRow W) → List (CRow W)) (p : List Nat) (rs : List (CRow W)) :
    Ascending natLt ((build2 S p rs).map (·.key)) ∧ Ascending natLt ((build3 S p rs).map (·.key)) := by
  rw [build2_keys, build3_keys]
  exact ⟨ascending_sortDedup natLt_strict _, ascending_sortDedup natLt_strict _⟩

/-- **find_node_correct** — on strictly ascending keys the `lower_bound` search returns the position of the
key if present and `last` (none) otherwise. -/
theorem find_node_correct (ks : List Nat) (hs : Ascending natLt ks) (key i : Nat) :
    findNode ks key = some i ↔ (i < ks.length ∧ ks.getD i 0 = key) :=
  findNode_iff ks key hs i

/-- `find_node` on a built trunk array finds exactly the child keys present in the vocabulary -/
theorem find_node_built (S : List (CRow W) → List (CRow W)) (p : List Nat) (rs : List (CRow W)) (key : Nat) :
    (findNode ((build2 S p rs).map (·.key)) key).isSome = true ↔ key ∈ childKeys p rs := by
  rw [build2_keys]
  exact findNode_isSome _ (ascending_sortDedup natLt_strict _) key

/-- **reverse_exact** — the reverse table maps a text to exactly the syllables `s` for which a row
(text, [s]) exists — its one-syllable codes, nothing else — as an ascending (duplicate-free) set; a text
with no one-syllable code has no entry. -/
theorem reverse_exact (syl : List Bytes) (rs : List (CRow W)) (text s : Bytes) :
    (s ∈ revSet (reverseTable syl rs) text ↔ ∃ i, syl[i]? = some s ∧ ∃ r ∈ rs, r.code = [i] ∧ r.text = text)
    ∧ Ascending bytesLt (revSet (reverseTable syl rs) text) := by
  constructor
  · unfold reverseTable
    rw [mem_revSet_foldl, mem_revPairs]
    exact or_iff_left List.not_mem_nil
  · exact ascending_revSet_foldl text _ [] List.Pairwise.nil

/-! ### from the source rows to the table (collector + compiler) -/

/-- the collector's entries are the specified treatment of the parsed rows (`treatRaw`) -/
theorem collect_is_treatment (rows : List RawRow) :
    (collect rows).entries = (treatRaw [] rows).map toSRow :=
  foldl_collectRow_entries rows Collector.empty

/-- the treatment drops nothing but repeated one-syllable pairs and rows without code:
(1) it is a sublist of the source; (2) every row with a code that is not exactly one syllable is kept;
(3) a one-syllable (text, code column) pair present in the source is kept exactly once. -/
theorem treatment_spec (rows : List RawRow) :
    (treatRaw [] rows).Sublist rows ∧
    (treatRaw [] rows).filter (fun r => (tokens r.codeStr).length != 1)
      = rows.filter (fun r => !r.codeStr.isEmpty && (tokens r.codeStr).length != 1) ∧
    ∀ t cs, cs.isEmpty = false → ((tokens cs).length == 1) = true →
      ((treatRaw [] rows).filter (fun r => r.text == t && r.codeStr == cs)).length
        = if rows.any (fun r => r.text == t && r.codeStr == cs) = true then 1 else 0 := by
  refine ⟨treatRaw_sublist [] rows, treatRaw_keeps_phrases [] rows, ?_⟩
  intro t cs h0 h1
  exact treatRaw_word_once t cs h0 h1 _ (fun r => by simp) [] rows

/-- the syllabary is strictly ascending (sorted, duplicate-free) and holds every syllable of every entry -/
theorem syllabary_sorted_complete (rows : List RawRow) :
    Ascending bytesLt (collect rows).syllabary ∧
    ∀ e ∈ (collect rows).entries, ∀ s ∈ e.code, s ∈ (collect rows).syllabary :=
  collInv_collect rows

/-- syllable ↔ id round trip on the syllabary (`syllable_to_id` then `GetSyllableById`) -/
theorem syllable_id_roundtrip (syl : List Bytes) (s : Bytes) (h : s ∈ syl) :
    syllableId syl s < syl.length ∧ syllableById syl (syllableId syl s) = some s :=
  have hl := syllableId_lt h
  ⟨hl, (List.getElem?_eq_getElem hl).trans (congrArg some (List.getElem_idxOf hl))⟩

/-- the rows the compiler hands to the table builder are valid for it -/
theorem compile_rows_valid (wt : Bytes → W) (rows : List RawRow) :
    ValidRows (collect rows).syllabary.length (compileRows wt (collect rows)) :=
  compileRows_valid wt _ (collInv_collect rows)

/-- **compile_enumerate_perm** — end to end: parse-treated source rows → collector → ids → vocabulary →
index → enumeration → syllables.  The enumeration of the compiled table, with codes spelled out again, is a
permutation of the kept source rows (text, syllables, weight), for any admissible sorter and any weight
reading `wt`. -/
theorem compile_enumerate_perm (S : List (CRow W) → List (CRow W)) (hS : ∀ l, (S l).Perm l) (wt : Bytes → W)
    (rows : List RawRow) :
    ((enumerate (compileTable S wt (collect rows))).map (decodeRow (collect rows).syllabary)).Perm
      (((collect rows).entries.filter (fun r => !r.code.isEmpty)).map (sourceTriple wt)) :=
  enumerate_compileTable S hS wt _ (collInv_collect rows)

/-! ### packs: tables over a fixed syllabary (dict_compiler.cc:171-217) -/

/-- the rows of a pack kept for it are exactly those with every syllable in the syllabary (or without a code) -/
theorem pack_rows_spec (syl : List Bytes) (rows : List RawRow) (r : RawRow) :
    r ∈ packRows syl rows ↔ r ∈ rows ∧ (r.codeStr.isEmpty = true ∨ ∀ s ∈ tokens r.codeStr, s ∈ syl) := by
  simp only [packRows, List.mem_filter, Bool.or_eq_true, List.all_eq_true, List.contains_iff_mem]

/-- **pack_syllabary_fixed** — a pack's collector starts from the primary table's syllabary and never learns a syllable: whatever
the pack's rows are, its table is built over exactly that syllabary (so syllable ids mean the same in every table of the
dictionary). -/
theorem pack_syllabary_fixed (syl : List Bytes) (h : Ascending bytesLt syl) (rows : List RawRow) :
    (collectPack syl rows).syllabary = syl :=
  foldl_collectRow_fixed syl h _ _ rfl fun r hr => ((pack_rows_spec syl rows r).mp hr).2

/-- **pack_is_treatment** — the pack's entries are the same treatment (`treatRaw`: rows without a code aside, a repeated
one-syllable pair once) applied to the rows all of whose syllables exist in the fixed syllabary; rows with a foreign syllable
leave no trace, not even in the word list that detects repetitions. -/
theorem pack_is_treatment (syl : List Bytes) (rows : List RawRow) :
    (collectPack syl rows).entries = (treatRaw [] (packRows syl rows)).map toSRow :=
  foldl_collectRow_entries _ _

/-- **pack_enumerate_perm** — end to end for a pack: the enumeration of the pack's table, codes spelled out through the fixed
syllabary, is a permutation of the pack's kept rows (text, syllables, weight). -/
theorem pack_enumerate_perm (S : List (CRow W) → List (CRow W)) (hS : ∀ l, (S l).Perm l) (wt : Bytes → W)
    (syl : List Bytes) (h : Ascending bytesLt syl) (rows : List RawRow) :
    ((enumerate (compileTable S wt (collectPack syl rows))).map (decodeRow syl)).Perm
      (((collectPack syl rows).entries.filter (fun r => !r.code.isEmpty)).map (sourceTriple wt)) := by
  have hperm := enumerate_compileTable S hS wt _ (collInv_collectPack syl h rows)
  rwa [pack_syllabary_fixed syl h rows] at hperm

/-! ### M-arena -/

/-- **allocate_aligned** — the block starts at a multiple of the alignment, at or after the old end, with
less than one alignment unit of padding; no padding at all if the old size was aligned. -/
theorem allocate_aligned (a : Arena) (al sz : Nat) (hal : 0 < al) :
    al ∣ (allocate a al sz).2 ∧ a.size ≤ (allocate a al sz).2 ∧ (allocate a al sz).2 < a.size + al ∧
    (al ∣ a.size → (allocate a al sz).2 = a.size) :=
  ⟨alignUp_dvd al a.size, le_alignUp al a.size hal, alignUp_lt al a.size hal, alignUp_of_dvd al a.size hal⟩

/-- the arena stays well-formed, the block lies inside it, `size` is the block's end, the block is zero -/
theorem allocate_block (a : Arena) (hw : a.WF) (al sz : Nat) :
    (allocate a al sz).1.WF ∧ (allocate a al sz).1.size = (allocate a al sz).2 + sz ∧
    (allocate a al sz).2 + sz ≤ (allocate a al sz).1.capacity ∧
    ∀ i, i < sz → (allocate a al sz).1.bytes[(allocate a al sz).2 + i]? = some 0 := by
  have hc := le_newCapacity a (alignUp al a.size + sz)
  refine ⟨⟨allocate_bytes_length a hw al sz, ?_⟩, rfl, ?_, fun i hi => allocate_get_block a hw al sz i hi⟩
  · simp only [allocate]; exact hc.2
  · simp only [allocate]; exact hc.2

/-- **grow_preserves** — allocation never disturbs what was allocated before, whether or not the file had to
grow (and capacity never shrinks; growth at least doubles it). -/
theorem grow_preserves (a : Arena) (hw : a.WF) (al sz : Nat) (hal : 0 < al) :
    (∀ i, i < a.size → (allocate a al sz).1.bytes[i]? = a.bytes[i]?) ∧
    a.capacity ≤ (allocate a al sz).1.capacity ∧
    (a.capacity < alignUp al a.size + sz → 2 * a.capacity ≤ (allocate a al sz).1.capacity) :=
  ⟨fun i hi => allocate_get_below a hw al sz hal i hi, (le_newCapacity a _).1,
   fun h => Nat.le_trans (Nat.le_max_right _ _) (Nat.le_of_eq (if_pos h).symm)⟩

/-- **allocate_disjoint** — two successive allocations do not overlap, and the second leaves the first
block's bytes as they were. -/
theorem allocate_disjoint (a : Arena) (hw : a.WF) (al1 sz1 al2 sz2 : Nat) (h2 : 0 < al2) :
    (allocate a al1 sz1).2 + sz1 ≤ (allocate (allocate a al1 sz1).1 al2 sz2).2 ∧
    (allocate (allocate a al1 sz1).1 al2 sz2).2 + sz2 ≤ (allocate (allocate a al1 sz1).1 al2 sz2).1.capacity ∧
    ∀ i, i < sz1 → (allocate (allocate a al1 sz1).1 al2 sz2).1.bytes[(allocate a al1 sz1).2 + i]?
                    = (allocate a al1 sz1).1.bytes[(allocate a al1 sz1).2 + i]? := by
  have hb1 := allocate_block a hw al1 sz1
  have hb2 := allocate_block (allocate a al1 sz1).1 hb1.1 al2 sz2
  refine ⟨?_, hb2.2.2.1, ?_⟩
  · have := (allocate_aligned (allocate a al1 sz1).1 al2 sz2 h2).2.1
    rw [hb1.2.1] at this
    exact this
  · intro i hi
    exact (grow_preserves (allocate a al1 sz1).1 hb1.1 al2 sz2 h2).1 ((allocate a al1 sz1).2 + i)
      (by rw [hb1.2.1]; exact Nat.add_lt_add_left hi _)

/-- **offsetptr_get_set** — an `OffsetPtr` stored at address `self` and set to `target` reads back `target`
whenever the distance fits a signed 32-bit offset and is not zero; a pointer to itself reads back as null
(the documented limitation), and null stays null. -/
theorem offsetptr_get_set (self target : Nat)
    (hd : -(2 ^ 31 : Int) ≤ (target : Int) - (self : Int) ∧ (target : Int) - (self : Int) < 2 ^ 31) :
    (target ≠ self → ptrGet self (ptrSet self (some target)) = some (target : Int)) ∧
    ptrGet self (ptrSet self (some self)) = none ∧
    ptrGet self (ptrSet self none) = none := by
  refine ⟨fun hne => ?_, ?_, rfl⟩
  · have h0 : (target : Int) - (self : Int) ≠ 0 := fun h => hne (Int.ofNat_inj.mp (Int.sub_eq_zero.mp h))
    show ptrGet self (wrap32 ((target : Int) - (self : Int))) = _
    rw [wrap32_of_fits _ hd, ptrGet, if_neg h0, Int.add_comm, Int.sub_add_cancel]
  · show ptrGet self (wrap32 ((self : Int) - (self : Int))) = _
    rw [Int.sub_self]
    rfl

/-- beyond 2 GiB the 32-bit offset wraps and the pointer reads back wrong: the bound is needed -/
theorem offsetptr_wraps : ptrGet 0 (ptrSet 0 (some (2 ^ 31))) ≠ some ((2 ^ 31 : Nat) : Int) := by
  decide +kernel

/-! ### the repair of the table-growth defect: the file never grows while raw pointers are live -/

/-- the size functions of the repair (`EntryListSize`, `TailIndexSize`, `TrunkIndexSize`, `HeadIndexSize`, plus
metadata and syllabary) bound the worst-case bytes — alignment padding included — of the allocation sequence
`Table::Build` issues, for EVERY index shape: empty entry lists, absent head nodes, nodes with or without a
next level, tail pages with extra codes of any length. -/
theorem alloc_sequence_bounded (t : Tree W) : allocCost (buildAllocs t) ≤ indexSize t := by
  have := headAllocs_cost t
  simp only [buildAllocs, indexSize, allocCost_cons, arrayAlloc, alEntry, kAllocPadding]
  omega

/-- any capacity of at least `index_size` bytes will do (the estimate adds the reserve on top) -/
theorem index_fits_capacity (t : Tree W) (cap : Nat) (h : indexSize t ≤ cap) :
    NeverGrows (create cap) (buildAllocs t) :=
  neverGrows_of_fits _ _ (Nat.le_trans (Nat.le_of_eq (Nat.zero_add _)) (Nat.le_trans (alloc_sequence_bounded t) h))

/-- **index_fits_estimate** — in a file created with `estimated_file_size` bytes no `Allocate` issued between
`Create` and `OnBuildFinish` has to grow the file (so the mapping is never closed and re-opened while index
nodes, entry lists and string-id references are addressed through raw pointers), and at least the reserved
4096 bytes are still free afterwards. -/
theorem index_fits_estimate (t : Tree W) (numEntries : Nat) :
    NeverGrows (create (estimatedFileSize t numEntries)) (buildAllocs t) ∧
    (allocateAll (create (estimatedFileSize t numEntries)) (buildAllocs t)).size + kReservedSize
      ≤ estimatedFileSize t numEntries := by
  have he : kReservedSize + indexSize t ≤ estimatedFileSize t numEntries := Nat.le_max_right _ _
  refine ⟨index_fits_capacity t _ (Nat.le_trans (Nat.le_add_left _ _) he), ?_⟩
  have hs : _ ≤ 0 + _ := allocateAll_size_le (buildAllocs t) (create (estimatedFileSize t numEntries))
  rw [Nat.zero_add] at hs
  exact Nat.le_trans (Nat.add_comm _ _ ▸ Nat.add_le_add_left (Nat.le_trans hs (alloc_sequence_bounded t)) _) he

/-- the end of the index the driver reports (`indexEnd`, compared with the offset of the string table image
in the real file on every run) is the arena's size after the allocation sequence, whatever the capacity -/
theorem index_end_is_arena_size (t : Tree W) (cap : Nat) :
    (allocateAll (create cap) (buildAllocs t)).size = indexEnd t :=
  allocateAll_size _ _

/-- the one allocation that may still grow the file — the string-table image in `OnBuildFinish` — leaves every
byte of metadata, syllabary and index at its offset, whatever the image size; the pointers the repaired code
re-derives afterwards from offset 0 (`Find<Metadata>(0)`, then `metadata_->syllabary.get()` and
`metadata_->index.get()`, both self-relative offsets inside the preserved bytes) therefore read what was
written. -/
theorem string_table_allocation_preserves (t : Tree W) (numEntries imageSize : Nat) (i : Nat)
    (hi : i < (allocateAll (create (estimatedFileSize t numEntries)) (buildAllocs t)).size) :
    (allocate (allocateAll (create (estimatedFileSize t numEntries)) (buildAllocs t)) 1 imageSize).1.bytes[i]?
      = (allocateAll (create (estimatedFileSize t numEntries)) (buildAllocs t)).bytes[i]? :=
  (grow_preserves _ (allocateAll_wf _ _ (create_wf _)) 1 imageSize Nat.one_pos).1 i hi

/-! ### non-vacuity -/

/-- a concrete vocabulary with homophones, a two-syllable code, a code of exactly four and one of six
syllables: the hypotheses of the theorems above are satisfiable and the enumeration is as expected
(`sort: original`; admissible weight sorters exist by `mergeSort_admissible`) -/
example :
    let rs : List (CRow Nat) := [⟨[0], [1], 5⟩, ⟨[0], [2], 7⟩, ⟨[0, 1], [3], 1⟩, ⟨[1, 0, 1, 0], [4], 2⟩,
                                 ⟨[1, 0, 1, 0, 1, 1], [5], 9⟩, ⟨[1, 0, 1], [6], 4⟩]
    (∀ r ∈ rs, r.code ≠ [] ∧ r.code.getD 0 0 < 2) ∧
    (enumerateRaw (build id 2 rs)).map (fun i => (i.index, i.extra, i.text)) =
      [([0], [], [1]), ([0], [], [2]), ([0, 1], [], [3]), ([1, 0, 1], [], [6]), ([1, 0, 1], [0], [4]),
       ([1, 0, 1], [0, 1, 1], [5])] := by
  decide +kernel

/-- the collector on a concrete source (x=120, y=121, a=97, b=98, space=32): rows `x a 1`, `x a 9`, `xy "a b" 2`
twice, `x " a" 3` — the repeated one-syllable pair is kept once, the phrase twice, and the pair with another
spelling of the code column again -/
example :
    ((collect [⟨[120], [97], [49]⟩, ⟨[120], [97], [57]⟩, ⟨[120, 121], [97, 32, 98], [50]⟩,
               ⟨[120, 121], [97, 32, 98], [50]⟩, ⟨[120], [32, 97], [51]⟩]).entries.map
      (fun e => (e.text, e.code, e.weightStr))) =
      [([120], [[97]], [49]), ([120, 121], [[97], [98]], [50]), ([120, 121], [[97], [98]], [50]),
       ([120], [[97]], [51])] := by
  decide +kernel

/-- a pack over the syllabary {a, b} (97, 98): the row with the foreign syllable `c` is dropped, and — dropped before the word
list sees it — does not shadow anything; the repeated pair `x a` is kept once; the syllabary stays {a, b} -/
example :
    let c := collectPack [[97], [98]] [⟨[120], [97], [49]⟩, ⟨[121], [97, 32, 99], [50]⟩, ⟨[120], [97], [57]⟩, ⟨[122], [98, 32, 97], []⟩]
    c.syllabary = [[97], [98]] ∧
    c.entries.map (fun e => (e.text, e.code)) = [([120], [[97]]), ([122], [[98], [97]])] := by
  decide +kernel

/-- the bound on a concrete index (one word, one phrase of five syllables): worst-case cost 202 ≤ bound 228, actual end 184, and
without the bound's bytes the very same sequence does grow a file that is too small -/
example :
    let t : Tree Nat := build id 2 [⟨[0], [1], 5⟩, ⟨[1, 0, 1, 0, 1], [5], 9⟩]
    allocCost (buildAllocs t) = 202 ∧ indexSize t = 228 ∧ indexEnd t = 184 ∧
    ¬ NeverGrows (create 100) (buildAllocs t) := by
  decide +kernel

/-- the arena: an allocation that does not fit doubles the capacity and keeps the old bytes -/
example : (allocate (allocate (create 8) 4 6).1 4 8).2 = 8 ∧ (allocate (allocate (create 8) 4 6).1 4 8).1.capacity = 16 := by
  decide +kernel

end C06
