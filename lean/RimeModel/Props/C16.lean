import RimeModel.C16.Lemmas
/-!
C16 — sessions are isolated from one another and replay deterministically.
Model: RimeModel/C16/Model.lean — the service as an id-keyed map of independent session cores, generic in
the session state / op / observation types; the driver instantiates it with the M-session model.
In a pure model isolation is structural; what could break it in C++ (hidden sharing) is exhibited only by
the transcript comparison — the property is claimed partial (see MANIFEST level_note).
-/
namespace C16
open RimeModel.C16
variable {σ ι ο : Type}

/-- **frame**: an event addressed to another id leaves session `b` exactly as it was -/
theorem frame (fresh : σ) (step : σ → ι → σ × ο) (s : Svc σ) (e : Event ι) (b : Nat) (h : addressedTo b e = false) :
    (Svc.step fresh step s e).1.lookup b = s.lookup b := by
  rw [step_lookup]
  exact track1_of_not_addressed fresh step b _ h

/-- the state of session `id` after ANY trace is a function of the events addressed to `id` alone -/
theorem state_function_of_own_events (fresh : σ) (step : σ → ι → σ × ο) (id : Nat) :
    ∀ (t : List (Event ι)) (s : Svc σ), (Svc.run fresh step s t).1.lookup id = track fresh step id (s.lookup id) t := by
  intro t
  induction t with
  | nil => exact fun _ => rfl
  | cons e es ih => exact fun s => (ih _).trans (congrArg (track fresh step id · es) (step_lookup s e id))

/-- **isolation**: two traces (any interleavings with other sessions' events, creations and destructions)
that contain the same events for `id` leave session `id` in the same state -/
theorem isolation (fresh : σ) (step : σ → ι → σ × ο) (id : Nat) (t1 t2 : List (Event ι)) (s1 s2 : Svc σ)
    (h0 : s1.lookup id = s2.lookup id) (h : t1.filter (addressedTo id) = t2.filter (addressedTo id)) :
    (Svc.run fresh step s1 t1).1.lookup id = (Svc.run fresh step s2 t2).1.lookup id := by
  rw [state_function_of_own_events, state_function_of_own_events, track_filter _ _ _ t1, track_filter _ _ _ t2, h, h0]

/-- what the client observes from a call to `id` issued after the trace `pre`: the session's own step
on the tracked state — or a refusal when the id is not live.  (Observation = f(own calls).) -/
theorem obs_function_of_own_calls (fresh : σ) (step : σ → ι → σ × ο) (id : Nat) (pre : List (Event ι)) (op : ι)
    (s : Svc σ) :
    (Svc.step fresh step (Svc.run fresh step s pre).1 (.call id op)).2 =
      match track fresh step id (s.lookup id) pre with
      | none => .refused
      | some st => .obs (step st op).2 := by
  rw [← state_function_of_own_events, Svc.step]
  cases (Svc.run fresh step s pre).1.lookup id <;> rfl

/-- a session that was created and then only called behaves as if it ran alone -/
theorem created_then_calls_is_solo (fresh : σ) (step : σ → ι → σ × ο) (id : Nat) (ops : List ι) :
    track fresh step id none (.create id :: ops.map (.call id)) = some (solo fresh step ops) := by
  show track fresh step id (track1 fresh step id none (.create id)) _ = _
  rw [track1, if_pos rfl]
  exact track_calls id ops fresh

/-- **dead id rejected until reissued**: once `id` is destroyed, every call to it is refused for as long as
no `create id` occurs -/
theorem dead_id_rejected_until_reissued (fresh : σ) (step : σ → ι → σ × ο) (id : Nat) (pre post : List (Event ι))
    (op : ι) (s : Svc σ) (hpost : ∀ e ∈ post, e ≠ .create id) :
    (Svc.step fresh step (Svc.run fresh step s (pre ++ [.destroy id] ++ post)).1 (.call id op)).2 = .refused := by
  have hdead : track fresh step id (s.lookup id) (pre ++ [.destroy id]) = none := by
    rw [track_append]
    exact if_pos rfl
  rw [obs_function_of_own_calls, track_append, hdead, track_none id post hpost]

/-- **live ids are pairwise distinct** in every reachable service state -/
theorem ids_distinct (fresh : σ) (step : σ → ι → σ × ο) : ∀ (t : List (Event ι)) (s : Svc σ), s.live.Nodup →
    (Svc.run fresh step s t).1.live.Nodup := by
  intro t
  induction t with
  | nil => exact fun _ h => h
  | cons e es ih => exact fun s h => ih _ (step_live_nodup s e h)

/-- non-vacuity: two sessions interleaved; session 1's counter sees only its own increments -/
example :
    let step : Nat → Nat → Nat × Nat := fun st n => (st + n, st + n)
    (Svc.run 0 step {} [.create 1, .create 2, .call 1 5, .call 2 7, .call 1 1, .destroy 2, .call 2 3]).2 =
      [.created true, .created true, .obs 5, .obs 7, .obs 6, .destroyed true, .refused] := rfl

end C16
