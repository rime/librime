import RimeModel.C01.HistoryLemmas
/-!
# C01 — the commit history never hands out a dead record

Property theorems about the port of `CommitHistory` (`RimeModel/C01/History.lean`), which `ConcreteEngine` updates on
every key nobody handled, on every directly committed text and on every committed composition.  The list is a bounded
window of the records ever pushed; `Push(composition, input)` keeps a raw pointer into it.  Tie: `checks/C01.py` runs the
real `CommitHistory` and this model on the same generated call sequences (`harness/hist_harness.cc`, `driver_hist`) and
compares `repr()` / `latest_text()` after every call, under AddressSanitizer.
-/
namespace C01History
open RimeModel.C01.History

/-- **history_bounded** — none of the three `Push` overloads lets the list grow beyond `kMaxRecords`, in either variant
of the code, for every history, key, text, composition view and input. -/
theorem history_bounded (h : List Rec) (hh : h.length ≤ maxRecords) :
    (∀ r, (push h r).length ≤ maxRecords) ∧
    (∀ k m, (pushKey h k m).length ≤ maxRecords) ∧
    (∀ fixed segs input, (pushComposition fixed h segs input).recs.length ≤ maxRecords) := by
  refine ⟨fun r => push_length_le h r hh, fun k m => ?_, fun fixed segs input => ?_⟩
  · unfold pushKey
    by_cases hm : m = 0
    · rw [if_pos hm]
      by_cases hk : k = xkBackSpace ∨ k = xkReturn
      · rw [if_pos hk]
        exact Nat.zero_le _
      · rw [if_neg hk]
        by_cases hp : 0x20 ≤ k ∧ k ≤ 0x7e
        · rw [if_pos hp]
          exact push_length_le h _ hh
        · rw [if_neg hp]
          exact hh
    · rw [if_neg hm]
      exact hh
  · unfold pushComposition
    dsimp only
    split
    · rw [St.push_recs]
      exact push_length_le _ _ (foldl_length_le segs hh)
    · exact foldl_length_le segs hh

/-- **push_composition_never_dangles** — after /repo 0abeed3 (`last = NULL` behind an untranslated segment) the pointer
`last` is, at every dereference, the last record of a non-empty list: `Push(composition, input)` never reads or writes a
record that `pop_front` has destroyed, for every history, every list of segments (any number of them, translated or
not, confirmed or not, any candidate types) and every input. -/
theorem push_composition_never_dangles (h : List Rec) (segs : List SegV) (input : Bytes) :
    (pushComposition true h segs input).fault ≠ .dangling := by
  rw [pushComposition_fault]
  refine (foldl_fixed_inv segs ?_).2
  exact ⟨nofun, nofun⟩

/-- a candidate segment, `n` untranslated ones, a candidate of the same type: the view of `set_input("a1" × …)` -/
def alternating (n : Nat) : List SegV :=
  [⟨0, 1, false, some ([112], [65], 1)⟩] ++
  (List.range n).map (fun i => ⟨1 + 2 * i, 2 + 2 * i, false, none⟩) ++
  [⟨1 + 2 * n, 2 + 2 * n, false, some ([112], [66], 2 + 2 * n)⟩]

/-- **old_push_composition_dangles** — the code before the repair: one translated segment, twenty untranslated ones and
another candidate of the same type make `last->type` read a record that has been rotated out (the heap use after free
AddressSanitizer reports for `set_input("a1a1…")` + `commit_composition`); with nineteen it is still alive. -/
theorem old_push_composition_dangles :
    (pushComposition false [] (alternating 20) (List.replicate 42 97)).fault = .dangling ∧
    (pushComposition false [] (alternating 19) (List.replicate 40 97)).fault = .none ∧
    (pushComposition true [] (alternating 20) (List.replicate 42 97)).fault = .none := by
  decide +kernel

/-- **old_push_composition_reorders** — the same stale pointer, before it dangles, appends the text of a candidate to a
record in FRONT of the untranslated text typed between the two: the records no longer spell what was committed.  The
repaired code keeps the order. -/
theorem old_push_composition_reorders :
    texts (pushComposition false [] (alternating 1) [97, 49, 97]).recs ≠ commitText (alternating 1) [97, 49, 97] ∧
    texts (pushComposition true [] (alternating 1) [97, 49, 97]).recs = commitText (alternating 1) [97, 49, 97] := by
  decide +kernel

/-- **push_composition_spells_commit_text** — functional correctness of the repaired `Push(composition, input)`: as long as
the list does not rotate (fewer than `kMaxRecords` records afterwards) and no `substr` threw, the texts of the records,
read in order, are the texts that were there before followed by exactly what `Composition::GetCommitText` delivers for
that composition (no `phony` segment): joining adjacent candidates of one type never reorders or drops text.  For the
code before the repair this is false (`old_push_composition_reorders`). -/
theorem push_composition_spells_commit_text (h : List Rec) (segs : List SegV) (input : Bytes)
    (hlen : h.length + segs.length + 1 ≤ maxRecords)
    (hok : (pushComposition true h segs input).fault = .none) :
    texts (pushComposition true h segs input).recs = texts h ++ commitText segs input := by
  rw [pushComposition_fault] at hok
  obtain ⟨h1, h2, h3⟩ := foldl_spells (acc := ([], 0)) hok nofun rfl hlen (List.append_nil _).symm rfl
  unfold pushComposition commitText
  dsimp only
  rw [← h2]
  split
  · rename_i hc
    rw [if_pos hc.2, St.push_recs, push_of_lt _ h3, texts_append, h1, List.append_assoc]
  · rename_i hc
    rw [if_neg fun hgt => hc ⟨hok, hgt⟩]
    exact h1

/-- `Push(key)`: BackSpace and Return without modifiers forget everything, a printable key is recorded as typed, any
other key and any key with a modifier leaves the history alone. -/
theorem push_key_cases (h : List Rec) (k m : Nat) :
    (m ≠ 0 → pushKey h k m = h) ∧
    (m = 0 → (k = xkBackSpace ∨ k = xkReturn) → pushKey h k m = []) ∧
    (m = 0 → 0x20 ≤ k → k ≤ 0x7e → pushKey h k m = push h ⟨thruType, [UInt8.ofNat k]⟩) := by
  unfold pushKey
  refine ⟨fun hm => if_neg hm, fun hm hk => ?_, fun hm h1 h2 => ?_⟩
  · rw [if_pos hm, if_pos hk]
  · have : ¬ (k = xkBackSpace ∨ k = xkReturn) := by unfold xkBackSpace xkReturn; omega
    rw [if_pos hm, if_neg this, if_pos ⟨h1, h2⟩]

-- non-vacuity: a history at its bound, a composition that rotates it
example : (pushComposition true (List.replicate 20 ⟨rawType, [120]⟩) (alternating 3) (List.replicate 8 97)).recs.length = 20 ∧
    (pushComposition true (List.replicate 20 ⟨rawType, [120]⟩) (alternating 3) (List.replicate 8 97)).dropped = 5 := by decide +kernel

-- non-vacuity of push_composition_spells_commit_text: three segments, two joined, text behind the last segment
example : let segs : List SegV := [⟨0, 1, false, some ([112], [65], 1)⟩, ⟨1, 2, false, some ([112], [66], 2)⟩, ⟨2, 3, false, none⟩]
    (pushComposition true [⟨thruType, [120]⟩] segs [97, 98, 49, 50]).fault = .none ∧
    (pushComposition true [⟨thruType, [120]⟩] segs [97, 98, 49, 50]).recs = [⟨thruType, [120]⟩, ⟨[112], [65, 66]⟩, ⟨rawType, [49]⟩, ⟨rawType, [50]⟩] := by
  decide +kernel

end C01History
