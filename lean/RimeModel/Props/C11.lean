import RimeModel.C11.Model
import RimeModel.C11.Lemmas
/-!
# C11 — a kill at any instant leaves the user dictionary whole

Property theorems only.  Everything is proved for **all** histories (induction over the event / op list, no
bound) and for a crash at **every** position of the emitted op trace.

Trusted, outside these theorems (DESIGN §3 C11): LevelDB applies a `WriteBatch` atomically and reopens / repairs
to a prefix of its log; a process kill loses no page-cache data.  The tie to the C++ code is checked on every run
by `checks/C11.py` (trace of the real `LevelDb` calls against `emitOne`/`Kv.step`, kill-point runs against the
states these theorems allow).
-/
namespace C11
open RimeModel.C11 RimeModel.C11.Example

/-! ## M-kv: raw op traces (no assumption on who issues the ops) -/

/-- A crash forgets the batch and the transaction flag and keeps exactly `durable`. -/
theorem crash_keeps_durable_only (s : Kv) : s.step .crash = Kv.init s.durable := rfl

/-- For every op trace whatsoever, what is durable is the fold of the units flushed so far — whole batches and
single writes issued outside a transaction — never a part of a batch. -/
theorem kv_durable_is_flushed_units (init : Store) (ops : List Op) :
    ((Acc.init init).run ops).kv.durable = applyCommits init ((Acc.init init).run ops).flushed := by
  obtain ⟨us, h1, h2⟩ := (Acc.init init).run_units ops
  rw [h1, h2]; rfl

/-- … and the same for a crash after any prefix of any trace: the reopened state is the fold of the units
flushed, which are the first `flushed.length` of the units made, and at most the last unit made is missing. -/
theorem kv_crash_anywhere (init : Store) (ops : List Op) (k : Nat) :
    let a := (Acc.init init).run (ops.take k)
    ((Kv.init init).run (ops.take k ++ [.crash])).durable = applyCommits init (a.made.take a.flushed.length) ∧
      a.flushed.length ≤ a.made.length ∧ a.made.length ≤ a.flushed.length + 1 := by
  intro a
  refine ⟨?_, ?_, ?_⟩
  · rw [Kv.crash_durable]
    have h := kv_durable_is_flushed_units init (ops.take k)
    rw [Acc.run_kv] at h
    have : a.made.take a.flushed.length = a.flushed := by simp [Acc.made]
    rw [this]; exact h
  · simp [Acc.made]
  · simp only [Acc.made, List.length_append]; split <;> simp

/-- Units already flushed stay flushed, in order, whatever happens next (nothing older is ever lost). -/
theorem kv_flushed_monotone (init : Store) (ops more : List Op) :
    ((Acc.init init).run ops).flushed <+: ((Acc.init init).run (ops ++ more)).flushed := by
  rw [Acc.run_append]
  obtain ⟨us, h, _⟩ := ((Acc.init init).run ops).run_units more
  exact ⟨us, h.symm⟩

/-- The store is a map (as LevelDB is): a put is read back, other keys are untouched. -/
theorem store_get_put (s : Store) (k v k2 : Bytes) :
    (s.put k v).get k2 = if k2 = k then some v else s.get k2 :=
  Store.get_put s k v k2

/-- … and an erased key is gone, other keys are untouched. -/
theorem store_get_erase (s : Store) (k k2 : Bytes) :
    (s.erase k).get k2 = if k2 = k then none else s.get k2 :=
  Store.get_erase s k k2

/-- `Fetch` inside a transaction reads the transaction's own writes: right after `Update k v` (or `Erase k`) it
returns `v` (or a miss) for `k` and, for every other key, what it returned before. -/
theorem fetch_reads_own_writes (s : Kv) (h : s.inTxn = true) (k v k2 : Bytes) :
    (s.step (.update k v)).fetch k2 = (if k = k2 then some v else s.fetch k2) ∧
    (s.step (.erase k)).fetch k2 = (if k = k2 then none else s.fetch k2) := by
  constructor
  · simp only [Kv.step, h, if_true, Kv.fetch, lastWrite_append_single, Write.key]
    by_cases hk : k = k2 <;> simp [hk]
  · simp only [Kv.step, h, if_true, Kv.fetch, lastWrite_append_single, Write.key]
    by_cases hk : k = k2 <;> simp [hk]

/-- What a transaction reads through its pending batch is exactly what the db holds once the batch is committed:
the read overlay and the atomic write agree, key by key.  Reads never touch `durable`, so nothing here bears on
what a crash leaves. -/
theorem fetch_is_commit_preview (s : Kv) (h : s.inTxn = true) (k : Bytes) :
    (s.step .commit).fetch k = s.fetch k := by
  simp only [Kv.step, h, if_true, Kv.fetch, lastWrite, get_applyWrites]
  cases lastWrite s.batch k with
  | none => rfl
  | some x => cases x <;> rfl

/-- After a crash (and after `abort`) reads see `durable` only. -/
theorem fetch_after_crash (s : Kv) (k : Bytes) :
    (s.step .crash).fetch k = s.durable.get k ∧ (s.inTxn = true → (s.step .abort).fetch k = s.durable.get k) := by
  constructor
  · simp [Kv.step, Kv.fetch, lastWrite]
  · intro h; simp [Kv.step, h, Kv.fetch, lastWrite]

/-! ## protocol: the ops `Memory`/`UserDictionary` emit, against whole commits -/

/-- Refinement, for every history: after the ops emitted for `es`, the transaction flag says whether a commit is
pending, the batch *is* that commit, and the durable state is the fold of the whole commits the specification
calls done. -/
theorem protocol_refines_spec (init : Store) (now : Nat) (es : List Event) :
    let p := (PState.init init now).run es
    let s := (Spec.init now).run es
    p.kv.inTxn = s.pending.isSome ∧ (∀ b, s.pending = some b → p.kv.batch = b) ∧
      p.kv.durable = applyCommits init s.done := by
  have h := (Rel.init init now).run es
  exact ⟨h.txn, h.batch, h.dur⟩

/-- **Main theorem.**  For every history `es` the protocol can go through and a kill after ANY number `k` of the
emitted ops (in the middle of an event's ops included): let `n` be the number of events started by then
(`|emit (es.take (n-1))| ≤ k ≤ |emit (es.take n)|`).  What a reopen finds is `applyCommits` of the first `j` of
the commits made by those `n` events, where `j` is at least the number already flushed and at most the number
made — every commit entirely or not at all, nothing older lost. -/
theorem durable_is_prefix_of_commits (init : Store) (now : Nat) (es : List Event) (k : Nat)
    (hk : k ≤ (emit (PState.init init now) es).length) :
    ∃ n j, n ≤ es.length ∧
      (emit (PState.init init now) (es.take (n - 1))).length ≤ k ∧
      k ≤ (emit (PState.init init now) (es.take n)).length ∧
      ((Spec.init now).run (es.take n)).done.length ≤ j ∧
      j ≤ ((Spec.init now).run (es.take n)).made.length ∧
      ((Kv.init init).run ((emit (PState.init init now) es).take k ++ [.crash])).durable =
        applyCommits init ((((Spec.init now).run (es.take n)).made).take j) := by
  obtain ⟨n, hn, hlo, hhi, hd⟩ := (Rel.init init now).crash es k hk
  refine ⟨n, _, hn, hlo, hhi, Nat.le_refl _, ?_, ?_⟩
  · rw [Spec.made, List.length_append]; exact Nat.le_add_right _ _
  · rw [Kv.crash_durable, Spec.made_take_done]; exact hd

/-- At most the final commit — the one whose batch no following key has flushed yet — can be missing. -/
theorem at_most_last_missing (now : Nat) (es : List Event) :
    let s := (Spec.init now).run es
    s.made = s.done ++ s.pending.toList ∧ s.made.length ≤ s.done.length + 1 := by
  intro s
  refine ⟨rfl, ?_⟩
  simp only [Spec.made, List.length_append]
  cases s.pending <;> simp

/-- What is durable only ever grows by whole commits appended at the end: the commits done after `es₁` are a
prefix of the commits done after any continuation. -/
theorem done_grows_by_whole_commits (now : Nat) (es₁ es₂ : List Event) :
    ((Spec.init now).run es₁).done <+: ((Spec.init now).run (es₁ ++ es₂)).done := by
  rw [Spec.run_append]
  exact Spec.done_prefix_run _ es₂

/-- Every update a commit issues goes to the one open batch: in whatever state `OnCommit` starts, after its
`commitPending; begin` and any number `m` of its updates a transaction is open, the batch holds exactly those `m`
updates in order, and `durable` has not moved since the `commitPending`.  (A code change that writes part of a
commit outside the batch makes the real trace differ from `emitOne` — the check reports it.) -/
theorem no_update_outside_txn_in_protocol (p : PState) (u : Nat) (ws : List Write) (m : Nat) :
    let pre := commitPending p.kv.inTxn
    let s := p.kv.run ((emitOne p (.onCommit u ws)).take (pre.length + 1 + m))
    s.inTxn = true ∧ s.batch = ws.take m ∧ s.durable = (p.kv.run pre).durable := by
  intro pre s
  have hs : s = ⟨(p.kv.run pre).durable, ws.take m, true⟩ := by
    show p.kv.run ((pre ++ [Op.begin] ++ ws.map Write.toOp).take (pre.length + 1 + m)) = _
    rw [List.append_assoc, Nat.add_assoc, List.take_length_add_append, Nat.add_comm 1 m, List.singleton_append,
      List.take_succ_cons, ← List.map_take, Kv.run_append, Kv.run_cons, Kv.run_writes_inTxn _ _ rfl]
    rfl
  rw [hs]
  exact ⟨rfl, rfl, rfl⟩

/-- The traces the protocol emits obey the grammar the driver checks on the real trace (`begin` only outside a
transaction, `commit`/`abort` only inside one, `close`/`open` only with nothing pending). -/
theorem emit_wellformed (p : PState) (es : List Event) : wfFrom p.kv.inTxn (emit p es) = true := by
  induction es generalizing p with
  | nil => rfl
  | cons e r ih => rw [emit, wfFrom_emitOne]; exact ih (p.step e)

/-- A commit followed by `finish` lands whole: the durable state is the one `finish` alone would have left (whatever
was pending flushed) plus exactly that commit's updates, in order. -/
theorem commit_then_flush_is_whole (init : Store) (now : Nat) (es : List Event) (u : Nat) (ws : List Write) :
    ((PState.init init now).run (es ++ [.onCommit u ws, .finish])).kv.durable =
      applyWrites ((PState.init init now).run (es ++ [.finish])).kv.durable ws := by
  rw [((Rel.init init now).run _).dur, ((Rel.init init now).run _).dur, Spec.run_append, Spec.run_append]
  exact applyCommits_snoc init _ ws

/-- BackSpace either leaves `done` as it is (the pending commit is taken back as a whole, or nothing was pending) or
appends the whole pending commit — `Spec.step` decides by the 3-second window; never a part of the commit. -/
theorem backspace_reverts_whole_or_flushes (s : Spec) (u : Nat) :
    (s.step (.backspace u)).done = s.done ∨ (s.step (.backspace u)).done = s.done ++ s.pending.toList := by
  simp only [Spec.step]
  cases hp : s.pending with
  | none => left; rfl
  | some b =>
    simp only []
    split
    · left; rfl
    · right; simp [Spec.flush, hp]

/-! ## non-vacuity: concrete histories -/

/-- `Example.hist` (`C11/Lemmas.lean`) emits a non-trivial trace (a commit, an abort inside the window, a commit outside it) -/
example : emit (PState.init [] 100) hist =
    [.reopen, .update tickKey [48],
     .begin, .update tickKey [49], .update k1 [49], .commit,
     .begin, .update tickKey [50], .update k2 [49], .abort,
     .begin, .update tickKey [50], .update k2 [49], .commit,
     .begin, .update tickKey [49], .update k1 [49], .commit, .close] := by decide +kernel

/-- three commits survive (one was taken back), all flushed at the end -/
example : ((Spec.init 100).run hist).done = [[.put tickKey [48]], c1, c2, c1] ∧
    ((Spec.init 100).run hist).pending = none := by decide +kernel

/-- a kill after 12 ops (inside the third `OnCommit`, two updates in the batch) finds exactly the first commit -/
example : ((Kv.init []).run ((emit (PState.init [] 100) hist).take 12 ++ [.crash])).durable =
    applyCommits [] [[.put tickKey [48]], c1] := by decide +kernel

/-- the store is a map: the last write to a key wins, other keys keep their value -/
example : (applyCommits [] [c1, c2]).get tickKey = some [50] ∧ (applyCommits [] [c1, c2]).get k1 = some [49] := by
  decide +kernel

/-- the trace grammar rejects an update-free `commit` outside a transaction and accepts the emitted trace -/
example : traceWellFormed [.commit] = false ∧ traceWellFormed (emit (PState.init [] 100) hist) = true := by
  decide +kernel

end C11
