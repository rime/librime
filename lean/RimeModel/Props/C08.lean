import RimeModel.C08.Transpose
import RimeModel.C08.Examples
/-!
C08 — syllable segmentation of an input is sound and complete.  Property theorems only.

Model: `RimeModel.C08.build` (RimeModel/C08/Model.lean), a line-by-line port of
`Syllabifier::BuildSyllableGraph` (corrector off) over an abstract prism = the list of spellings in
id order with the descriptors their `SpellingAccessor` enumerates.  Vocabulary of the property:
RimeModel/C08/Spec.lean (`Stored`, `Spans`, `Admits`, `Reach`, `NTiling`, `HasEdge`, `GPath`,
`edgeAt`, `indexAt`); `ComplCond` (RimeModel/C08/Complete.lean) = "completion is enabled, the input is not
exhausted and the limit-512 expand search below the remainder yields a spelling with a normal or
fuzzy reading".

All theorems are for EVERY prism, input byte string, delimiter set, alphabet and flag pair — no bound.
Formal reading (DESIGN §3 C08): S1 `edges_sound` + `edges_complete`, S2 `vertices_on_path`,
S3 `farthest_maximal` (+ `completion_only_if`, and for the alphabet a `Load`ed prism walks —
`searchAlphabet true pr`, all characters of all spellings — `completion_iff_loaded` /
`completion_if_loaded`: `ComplCond` IS "the remainder begins a spelling with a normal or fuzzy
reading" as long as the search stays below its limit of 512), S4 `normal_tilings_complete`,
S5 `indices_transpose`.
-/
namespace C08
open RimeModel.C08 RimeModel.C08.AMap

/-- **S1, soundness of edges.**  Every syllable `syl ↦ p` on every edge `[s, e)` of the returned graph
records its own end (`p.endPos = e`) and is either (regular edge) a stored reading `d` of a spelling
`k` such that `input[s, e)` is `k` followed by greedily consumed delimiters, admitted by the
strict-spelling rule, with exactly the stored type (`d.type = p.type`) and no completion penalty; or
(completion edge) typed `kCompletion` with one completion penalty, present only when completion is
enabled, reaching the end of the input which is then the interpreted length, and denoting a normal or
fuzzy reading of a stored spelling that begins with the remainder `input[s..]`. -/
theorem edges_sound (cfg : Cfg) (pr : Prism) (inp : Bytes) (s e syl : Nat) (p : Props)
    (h : edgeAt (build cfg pr inp).edges s e syl = some p) :
    p.endPos = e ∧
    ((p.compl = 0 ∧ ∃ k d, Stored pr k d ∧ Spans cfg.delims inp s e k ∧ Admits cfg inp s e d ∧
        d.syl = syl ∧ d.type = p.type) ∨
     (p.type = kCompletion ∧ p.compl = 1 ∧ cfg.completion = true ∧ e = inp.length ∧
        (build cfg pr inp).interpretedLength = inp.length ∧
        ∃ k d, Stored pr k d ∧ inp.drop s <+: k ∧ d.syl = syl ∧ d.type < kAbbrev)) := by
  rw [build_edges] at h
  rw [build_il]
  obtain ⟨sm, hsm, hp⟩ := edgeAt_eq.mp h
  rcases final_evAt cfg pr inp s e with ⟨hc, hs, he, hev⟩ | ⟨_, hev⟩
  · rw [hev] at hsm; cases hsm
    obtain ⟨a, b, c, _, m, hm, _, d, hd, hds, hdt⟩ := (complSM_inv cfg pr inp).sound syl p hp
    obtain ⟨k, hk1, hk2⟩ := stored_of_expand pr (expandSearch_ok hm) hd
    rw [hs]
    exact ⟨b.trans he.symm, Or.inr ⟨a, c, hc.1, he, (final_pos cfg pr inp hc).1, k, d, hk1, hk2, hds, hdt⟩⟩
  · rw [hev] at hsm
    obtain ⟨a, b, k, d, hst, hsp, rest⟩ := pruned_edge_spec cfg pr inp (edgeAt_eq.mpr ⟨sm, hsm, hp⟩)
    exact ⟨a, Or.inl ⟨b, k, d, hst, spans_of_spansC hsp, rest⟩⟩

/-- **S1, completeness of edges.**  If the graph has an edge `[s, e)`, then every normal or fuzzy
reading `d` of every stored spelling `k` that spans `[s, e)` (and is admitted by the strict-spelling
rule) is on that edge, with a type at least as good as `d.type` (so a normal reading is there as
normal).  Abbreviation-typed readings may be pruned when a better path exists — that is the reading of
"exactly" the code can meet. -/
theorem edges_complete (cfg : Cfg) (pr : Prism) (inp : Bytes) (s e : Nat)
    (he : HasEdge (build cfg pr inp).edges s e) (k : Bytes) (d : Desc) (hst : Stored pr k d)
    (hsp : Spans cfg.delims inp s e k) (hadm : Admits cfg inp s e d) (hty : d.type ≤ kFuzzy) :
    ∃ p, edgeAt (build cfg pr inp).edges s e d.syl = some p ∧ p.type ≤ d.type := by
  rw [build_edges] at he ⊢
  obtain ⟨sm, hsm, _⟩ := he
  have hspc := spansC_of_spans hsp
  rcases final_evAt cfg pr inp s e with ⟨_, hs, _, _⟩ | ⟨_, hev⟩
  · -- a spelling cannot span the completion edge: the farthest vertex would not be farthest
    rw [hs] at hspc hadm
    exact (no_span_at_farthest cfg pr inp hst hspc hadm).elim
  · rw [hev] at hsm
    obtain ⟨hgs, hge⟩ := pruned_edge_good cfg pr inp hsm
    obtain ⟨_, ts, hts, htsL⟩ := (pinv_final cfg pr inp).good_type hgs
    have hL : kFuzzy ≤ lastTypeOf (forward cfg pr inp) := Nat.le_max_right _ _
    obtain ⟨_, p, hp, hpt⟩ := pruned_edge_complete cfg pr inp hts htsL hge hst hspc hadm (Nat.le_trans hty hL)
    exact ⟨p, final_edgeAt_of_pruned cfg pr inp hp, hpt⟩

/-- **S2.**  Every vertex retained in `vertices` lies on a path of retained edges from position 0 to
the interpreted length.  (Hypothesis: the prism stores only values of the `SpellingType` enum; real
prisms store 0, 1, 2.) -/
theorem vertices_on_path (cfg : Cfg) (pr : Prism) (inp : Bytes) (hty : PrismTypesOK pr) (v : Nat)
    (hv : ((build cfg pr inp).vertices.find? v).isSome = true) :
    GPath (build cfg pr inp).edges 0 v ∧
    GPath (build cfg pr inp).edges v (build cfg pr inp).interpretedLength := by
  by_cases hne : inp = []
  · subst hne; exact nomatch hv
  · rw [build_vertices cfg pr inp hne] at hv
    rw [build_edges, build_il]
    have hg := ((pinv_final cfg pr inp).vertex_iff v).mp hv
    have hmono := fun a b => final_hasEdge_of_pruned cfg pr inp (a := a) (b := b)
    refine ⟨gpath_mono hmono (zero_to_good cfg pr inp hty v hg), ?_⟩
    have hvF := gpath_mono hmono (good_to_farthest cfg pr inp _ v (Nat.le_add_left _ v) hg)
    by_cases hc : Completes cfg pr inp
    · rw [(final_pos cfg pr inp hc).1]
      refine gpath_trans hvF (GPath.step ?_ (GPath.refl _))
      rcases final_evAt cfg pr inp (forward cfg pr inp).farthest inp.length with ⟨_, _, _, hev⟩ | ⟨hn, _⟩
      · exact ⟨_, hev, (complSM_ne_nil_iff cfg pr inp _).mpr hc.2.2⟩
      · exact absurd ⟨hc, rfl, rfl⟩ hn
    · rw [(final_neg cfg pr inp hc).1]; exact hvF

/-- **S3.**  The interpreted length is the largest position `F` that can be tiled from 0 by stored
spellings (each followed by greedily skipped delimiters, the strict-spelling rule applied), unless
`ComplCond` holds at `F` — then and only then it is the whole input. -/
theorem farthest_maximal (cfg : Cfg) (pr : Prism) (inp : Bytes) :
    ∃ F, Reach cfg pr inp F ∧ (∀ p, Reach cfg pr inp p → p ≤ F) ∧
      (((build cfg pr inp).interpretedLength = F ∧ ¬ ComplCond cfg pr inp F) ∨
       ((build cfg pr inp).interpretedLength = inp.length ∧ ComplCond cfg pr inp F)) := by
  refine ⟨(forward cfg pr inp).farthest, fwd_farthest_reach cfg pr inp,
    fun p hp => fwd_farthest_max cfg pr inp hp, ?_⟩
  rw [build_il]
  by_cases hc : Completes cfg pr inp
  · exact Or.inr ⟨(final_pos cfg pr inp hc).1, hc⟩
  · exact Or.inl ⟨(final_neg cfg pr inp hc).1, hc⟩

/-- **S3, "only when".**  If the interpreted length is not the farthest tileable position `F`, then
completion is enabled, the interpreted length is the whole input, and the remainder `input[F..]`
begins some stored spelling (one with a normal or fuzzy reading). -/
theorem completion_only_if (cfg : Cfg) (pr : Prism) (inp : Bytes) (F : Nat)
    (hF : Reach cfg pr inp F) (hmax : ∀ p, Reach cfg pr inp p → p ≤ F)
    (hne : (build cfg pr inp).interpretedLength ≠ F) :
    cfg.completion = true ∧ (build cfg pr inp).interpretedLength = inp.length ∧ F < inp.length ∧
    ∃ k d, Stored pr k d ∧ inp.drop F <+: k ∧ d.type < kAbbrev := by
  obtain ⟨F', h1, h2, h3⟩ := farthest_maximal cfg pr inp
  have hFF : F' = F := Nat.le_antisymm (hmax F' h1) (h2 F hF)
  subst hFF
  rcases h3 with ⟨h4, _⟩ | ⟨h4, h5⟩
  · exact absurd h4 hne
  · obtain ⟨a, b, c⟩ := complCond_text cfg pr inp h5
    exact ⟨a, h4, b, c⟩

/-- **S3, "exactly when", for a loaded prism.**  When `ExpandSearch` walks the alphabet of a prism that
was `Load`ed from its file (`searchAlphabet true pr`: every character of every spelling — whether or not
the prism has a spelling map, whatever characters the spellings use) and the unlimited search below the
remainder has at most 512 results (so the limit cuts nothing), `ComplCond` at `F` says exactly:
completion is enabled, the input is not exhausted, and the remainder `input[F..]` begins some stored
spelling that has a normal or fuzzy reading. -/
theorem completion_iff_loaded (cfg : Cfg) (pr : Prism) (inp : Bytes) (F : Nat)
    (hal : cfg.alphabet = searchAlphabet true pr)
    (hlim : (expandSearch pr cfg.alphabet (inp.drop F) 0).length ≤ kExpandSearchLimit) :
    ComplCond cfg pr inp F ↔
      (cfg.completion = true ∧ F < inp.length ∧
        ∃ k d, Stored pr k d ∧ inp.drop F <+: k ∧ d.type < kAbbrev) := by
  constructor
  · exact fun h => complCond_text cfg pr inp h
  · rintro ⟨hc, hF, k, d, ⟨i, hi, hd⟩, hpre, hty⟩
    have hcov : ∀ c ∈ k.drop (inp.drop F).length, c ∈ cfg.alphabet :=
      fun c hc' => hal ▸ searchAlphabet_loaded_covers hi c (List.mem_of_mem_drop hc')
    have hfound := expandSearch_complete hi hpre hcov
    rw [← expandSearch_limit_of_le hlim] at hfound
    refine ⟨hc, hF, (i, k.length), hfound, ?_, d, hd, hty⟩
    have := hpre.length_le
    simpa using this

/-- **S3, the "if" direction on the graph.**  For a loaded prism (alphabet and limit as in
`completion_iff_loaded`): if completion is enabled and the remainder after the farthest tileable
position `F` begins a stored spelling with a normal or fuzzy reading, the whole input is interpreted. -/
theorem completion_if_loaded (cfg : Cfg) (pr : Prism) (inp : Bytes) (F : Nat)
    (hal : cfg.alphabet = searchAlphabet true pr)
    (hlim : (expandSearch pr cfg.alphabet (inp.drop F) 0).length ≤ kExpandSearchLimit)
    (hF : Reach cfg pr inp F) (hmax : ∀ p, Reach cfg pr inp p → p ≤ F)
    (hc : cfg.completion = true) (hlt : F < inp.length)
    (hk : ∃ k d, Stored pr k d ∧ inp.drop F <+: k ∧ d.type < kAbbrev) :
    (build cfg pr inp).interpretedLength = inp.length := by
  obtain ⟨F', h1, h2, h3⟩ := farthest_maximal cfg pr inp
  have hFF : F' = F := Nat.le_antisymm (hmax F' h1) (h2 F hF)
  subst hFF
  rcases h3 with ⟨_, h5⟩ | ⟨h4, _⟩
  · exact absurd ((completion_iff_loaded cfg pr inp F' hal hlim).mpr ⟨hc, hlt, hk⟩) h5
  · exact h4

/-- **S4.**  Every tiling of the interpreted prefix by spellings read as *normal* is present as a path:
each of its steps `[a, b)` with syllable `syl` is an edge carrying `syl` with type normal. -/
theorem normal_tilings_complete (cfg : Cfg) (pr : Prism) (inp : Bytes) (segs : List (Nat × Nat × Nat))
    (h : NTiling cfg pr inp 0 (build cfg pr inp).interpretedLength segs) :
    ∀ seg ∈ segs, ∃ p, edgeAt (build cfg pr inp).edges seg.1 seg.2.1 seg.2.2 = some p ∧ p.type = kNormal := by
  rw [build_il] at h
  rw [build_edges]
  -- the tiling shows its end is tileable, so completion did not extend the prefix
  have hle := fwd_farthest_max cfg pr inp (ntiling_reach cfg pr inp h Reach.zero)
  have hil : finalIL cfg pr inp = (forward cfg pr inp).farthest := by
    by_cases hc : Completes cfg pr inp
    · exact absurd ((final_pos cfg pr inp hc).1 ▸ hle) (Nat.not_le_of_lt hc.2.1)
    · exact (final_neg cfg pr inp hc).1
  rw [hil] at h
  obtain ⟨_, hall⟩ := ntiling_retained cfg pr inp h (fwd_start cfg pr inp)
  intro seg hs
  obtain ⟨p, hp, hpt⟩ := hall seg hs
  exact ⟨p, final_edgeAt_of_pruned cfg pr inp hp, hpt⟩

/-- **S5.**  `indices` is exactly the transpose of `edges`: it has an entry for the same start
positions; the list `indices[s][syl]` contains exactly the properties `edges[s][e][syl]` over all
ends `e`; and it is ordered by strictly descending end position (so each occurs once). -/
theorem indices_transpose (cfg : Cfg) (pr : Prism) (inp : Bytes) :
    (∀ s, ((build cfg pr inp).indices.find? s).isSome = ((build cfg pr inp).edges.find? s).isSome) ∧
    (∀ s syl p, p ∈ indexAt (build cfg pr inp).indices s syl ↔
        ∃ e, edgeAt (build cfg pr inp).edges s e syl = some p) ∧
    (∀ s syl, ((indexAt (build cfg pr inp).indices s syl).map (·.endPos)).Pairwise (· > ·)) := by
  rw [build_indices, build_edges]
  exact transpose_spec _ (fun s ev h => final_row_sorted cfg pr inp h)
    (fun s e sm h => final_ev_ok cfg pr inp h)

/-- the interpreted length never exceeds the input length -/
theorem interpreted_le_input (cfg : Cfg) (pr : Prism) (inp : Bytes) :
    (build cfg pr inp).interpretedLength ≤ inp.length := by
  obtain ⟨F, h1, _, h3⟩ := farthest_maximal cfg pr inp
  rcases h3 with ⟨h4, _⟩ | ⟨h4, _⟩
  · rw [h4]; exact reach_le cfg pr inp h1
  · rw [h4]; exact Nat.le_refl _

/-- **Faithfulness of the loop bound.**  The model runs the `while (!queue.empty())` loop for
`(|input|+1)² + 1` iterations; that is always enough: the queue is empty when it stops, for every
prism and input (so no theorem above is about a truncated search). -/
theorem forward_loop_exhausts_queue (cfg : Cfg) (pr : Prism) (inp : Bytes) :
    (forward cfg pr inp).queue = [] :=
  forward_queue_nil cfg pr inp

/-! ### non-vacuity: the hypotheses of the theorems are met by concrete, non-trivial cases
(`exPrism`: spellings `a`, `an`, `na` normal and `n` an abbreviation of `na`; delimiter `'`) -/

/-- `an'a` is segmented completely, `an'` + `a`, both edges present (hypothesis of `edges_sound`) -/
example : (build exCfg exPrism exInp).interpretedLength = 4 ∧
    edgeAt (build exCfg exPrism exInp).edges 0 3 1 = some ⟨0, 3, 0, 0, 0⟩ ∧
    edgeAt (build exCfg exPrism exInp).edges 3 4 0 = some ⟨0, 4, 0, 0, 0⟩ := by decide +kernel

/-- hypotheses of `edges_complete` on the edge `[0,3)` = `an` + `'` -/
example : HasEdge (build exCfg exPrism exInp).edges 0 3 ∧ Stored exPrism [97, 110] ⟨1, 0, 0⟩ ∧
    Spans exCfg.delims exInp 0 3 [97, 110] ∧ Admits exCfg exInp 0 3 ⟨1, 0, 0⟩ :=
  ⟨⟨[(1, ⟨0, 3, 0, 0, 0⟩)], by decide +kernel, by decide⟩, ⟨1, by decide, by decide⟩,
    spans_of_spansC ⟨by decide, by decide, by decide⟩, fun h => absurd h.1 (by decide)⟩

/-- hypotheses of `vertices_on_path`: a well-typed prism and a retained inner vertex; on `anan`
the dead-end vertices 1 and 3 of the abbreviation path `a|na|n` are pruned, 2 is kept -/
example : PrismTypesOK exPrism ∧ ((build exCfg exPrism exInp2).vertices.find? 2).isSome = true ∧
    ((build exCfg exPrism exInp2).vertices.find? 1).isSome = false ∧
    ((build exCfg exPrism exInp2).vertices.find? 3).isSome = false :=
  ⟨prismTypesOK_of_rows (by decide), by decide +kernel⟩

/-- both alternatives of `farthest_maximal` occur: strict spelling keeps the lone abbreviation `n`
from spanning the input (F = 0); with completion on, `ComplCond` holds at 0 and the interpreted
length is the whole input; with completion off it stays 0 -/
example : ComplCond exCfgStrict exPrism [110] 0 ∧ (build exCfgStrict exPrism [110]).interpretedLength = 1 ∧
    ¬ ComplCond { exCfgStrict with completion := false } exPrism [110] 0 ∧
    (build { exCfgStrict with completion := false } exPrism [110]).interpretedLength = 0 :=
  ⟨⟨rfl, by decide, (2, 2), by decide +kernel, by decide, ⟨2, 0, 0⟩, by decide, by decide⟩, by decide +kernel,
    fun h => absurd h.1 (by decide), by decide +kernel⟩

/-- hypothesis of `normal_tilings_complete`: `an'a` = `an'` + `a` is a tiling by normal spellings of the
interpreted prefix -/
example : NTiling exCfg exPrism exInp 0 (build exCfg exPrism exInp).interpretedLength [(0, 3, 1), (3, 4, 0)] := by
  have h4 : (build exCfg exPrism exInp).interpretedLength = 4 := by decide +kernel
  rw [h4]
  exact NTiling.cons (k := [97, 110]) (d := ⟨1, 0, 0⟩) ⟨1, by decide, by decide⟩ rfl
    (spans_of_spansC ⟨by decide, by decide, by decide⟩)
    (NTiling.cons (k := [97]) (d := ⟨0, 0, 0⟩) ⟨0, by decide, by decide⟩ rfl
      (spans_of_spansC ⟨by decide, by decide, by decide⟩) (NTiling.nil 4))

/-- why `vertices_on_path` assumes `PrismTypesOK`: a stored type outside the enum (7 > kInvalid) is never
recorded as the end vertex's type (`end_vertex_type` starts at kInvalid = 5), so the pruning pass
(`last_type` = 5) erases the only edge and then the start vertex — the lone vertex 1 is on no path.
Real prisms hold 0, 1, 2 only (checked on every generated prism by checks/C08.py). -/
example : (build exCfg [([97], [⟨0, 7, 0⟩])] [97]).vertices = [(1, 5)] ∧
    (build exCfg [([97], [⟨0, 7, 0⟩])] [97]).edges = [] ∧
    (build exCfg [([97], [⟨0, 7, 0⟩])] [97]).interpretedLength = 1 := by decide +kernel

/-- `indices_transpose` is about non-empty indices: `a'n` has two index entries -/
example : indexAt (build exCfg exPrism exInp3).indices 0 0 = [⟨0, 2, 0, 0, 0⟩] ∧
    indexAt (build exCfg exPrism exInp3).indices 2 2 = [⟨2, 3, 7, 0, 0⟩] := by decide +kernel

/-- the alphabet matters only through `Load`: syllabary { `a1`, `b` } (no spelling algebra), input `a`,
completion on.  The loaded prism walks its stored alphabet `1ab` and completes `a` to `a1`
(`completion_if_loaded` applies); an object that only ran `Build` walks a–z, cannot step over `1`, and
leaves the input uninterpreted. -/
example : searchAlphabet true [([97, 49], [⟨0, 0, 0⟩]), ([98], [⟨1, 0, 0⟩])] = [49, 97, 98] ∧
    (build { delims := [39], completion := true, strict := false,
             alphabet := searchAlphabet true [([97, 49], [⟨0, 0, 0⟩]), ([98], [⟨1, 0, 0⟩])] }
       [([97, 49], [⟨0, 0, 0⟩]), ([98], [⟨1, 0, 0⟩])] [97]).interpretedLength = 1 ∧
    (build { delims := [39], completion := true, strict := false,
             alphabet := searchAlphabet false [([97, 49], [⟨0, 0, 0⟩]), ([98], [⟨1, 0, 0⟩])] }
       [([97, 49], [⟨0, 0, 0⟩]), ([98], [⟨1, 0, 0⟩])] [97]).interpretedLength = 0 := by decide +kernel

end C08
