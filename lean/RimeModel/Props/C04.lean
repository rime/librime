import RimeModel.C04.MenuSpec
import RimeModel.C04.SegLemmas
import RimeModel.C04.MergedLemmas
import RimeModel.C04.UniqLemmas
import RimeModel.C04.UniqMenu
/-!
# C04 — menu pages are windows onto one stable, duplicate-free candidate list

Model: `RimeModel/C04/Menu.lean` (Menu::Prepare / CreatePage / GetCandidateAt / empty over a lazily
consumed translation), `Seg.lean` (RimeGetContext's page arithmetic, the candidate iterator,
highlight / change_page / selector paging — once over the lazy menu, once over the full list as the
session model `RimeModel.Session` does), `Translation.lean` (MergedTranslation with the exact `Elect`,
CacheTranslation, DistinctTranslation, UniquifiedTranslation sharing the menu cache,
SingleCharFirstTranslation::Rearrange).  All statements are for every menu / list / call sequence.
-/
namespace C04
open RimeModel.C04

variable {α τ : Type}

/-! ## (a)(b) one stable list -/

/-- **cache_prefix.**  A menu that represents `full` (cache ++ what the translation will still yield
= `full`) still represents the same `full` after any call, and the call only appended to the cache:
candidates move from "pending" to "cached", never back, never reordered. -/
theorem cache_prefix (m : Menu α) (full : List α) (h : m.Repr full) (op : MenuOp) :
    (m.apply op).Repr full ∧ ∃ moved, (m.apply op).cache = m.cache ++ moved := by
  obtain ⟨n, e⟩ := apply_eq_prepare m op
  rw [e]
  exact ⟨prepare_repr h n, prepare_cache_prefix m n⟩

/-- **cache_prefix**, for call sequences: the represented list is fixed at menu creation. -/
theorem cache_prefix_ops (m : Menu α) (full : List α) (h : m.Repr full) (ops : List MenuOp) :
    (ops.foldl Menu.apply m).Repr full ∧ ∃ moved, (ops.foldl Menu.apply m).cache = m.cache ++ moved := by
  induction ops generalizing m with
  | nil => exact ⟨h, [], (List.append_nil _).symm⟩
  | cons op ops ih =>
    obtain ⟨a, mv, hmv⟩ := cache_prefix m full h op
    obtain ⟨b, mv', hmv'⟩ := ih (m.apply op) a
    exact ⟨b, mv ++ mv', by rw [List.foldl_cons, hmv', hmv, List.append_assoc]⟩

/-- **prepare_count.**  `Prepare(n)` returns `max |cache| (min n |full|)`: what was already cached, or
as many of the first `n` candidates as exist. -/
theorem prepare_count (m : Menu α) (full : List α) (h : m.Repr full) (n : Nat) :
    (m.prepare n).2 = max m.cache.length (min n full.length) :=
  prepare_count_eq h n

/-- **prepare_count**, the lemma the session model relies on: at every place the code uses the
returned count (`Selector::NextPage`: `count <= page_start`, `index >= count`;
`Selector::NextCandidate`; `Context::Highlight`'s clamp; `Speller`: `Prepare(2) == 1`;
`Punctuator`: `Prepare(2) < 2`, `Prepare(sel+2) == 0` and `% candidate_count()`) the result is the
same as with `min n |full|`, however much had been cached before. -/
theorem prepare_count_uses (m : Menu α) (full : List α) (h : m.Repr full) (sel ps index : Nat) (hps : 0 < ps) (cycle : Bool) :
    nextPageIndex (m.prepare ((sel + ps) / ps * ps + ps)).2 sel ps cycle
        = nextPageIndex (min ((sel + ps) / ps * ps + ps) full.length) sel ps cycle ∧
    nextCandidateIndex (m.prepare (sel + 1 + 1)).2 sel = nextCandidateIndex (min (sel + 1 + 1) full.length) sel ∧
    highlightIndex (m.prepare (index + 1)).2 index = highlightIndex (min (index + 1) full.length) index ∧
    uniqueCandidate (m.prepare 2).2 = uniqueCandidate (min 2 full.length) ∧
    lacksPair (m.prepare 2).2 = lacksPair (min 2 full.length) ∧
    alternateIndex (m.prepare (sel + 2)).2 sel = alternateIndex (min (sel + 2) full.length) sel :=
  ⟨prepare_count_use (nextPageIndex · sel ps cycle)
      (fun _ hk => nextPageIndex_of_lt (Nat.lt_of_lt_of_le (Nat.lt_div_mul_add hps) hk) cycle) h,
   prepare_count_use (nextCandidateIndex · sel) (fun _ hk => nextCandidateIndex_of_lt hk) h,
   prepare_count_use (highlightIndex · index) (fun _ hk => highlightIndex_of_lt hk) h,
   prepare_count_use uniqueCandidate (fun _ hk => uniqueCandidate_of_le hk) h,
   prepare_count_use lacksPair (fun _ hk => lacksPair_of_le hk) h,
   prepare_count_use (alternateIndex · sel) (fun _ hk => alternateIndex_of_lt hk) h⟩

/-- **page_window.**  `CreatePage(ps, p)` returns NULL exactly when `ps*p ≥ |full|`; otherwise the page
holds `(full.drop (ps*p)).take ps` (element `i` of page `p` is `full[ps*p+i]`), with the page size
and number it was asked for. -/
theorem page_window (m : Menu α) (full : List α) (h : m.Repr full) (ps p : Nat) (hps : 0 < ps) :
    match (m.createPage ps p).1 with
    | none => full.length ≤ ps * p
    | some pg => ps * p < full.length ∧ pg.cands = (full.drop (ps * p)).take ps ∧ pg.pageSize = ps ∧ pg.pageNo = p := by
  rw [createPage_fst h p hps]
  by_cases hF : full.length ≤ ps * p
  · rw [if_pos hF]; exact hF
  · rw [if_neg hF]; exact ⟨Nat.lt_of_not_le hF, rfl, rfl, rfl⟩

/-- **last_page_iff.**  When the translation has no null `Peek()` pending (so that the `Next()` consuming
the last candidate also sets `exhausted`), the flag of the reported page is set exactly when nothing
follows the page: `is_last_page ↔ ps*(p+1) ≥ |full|`. -/
theorem last_page_iff (m : Menu α) (full : List α) (h : m.Repr full) (hn : Gen.NoNull m.rest) (ps p : Nat) (hps : 0 < ps)
    (pg : Page α) (hpg : (m.createPage ps p).1 = some pg) :
    pg.isLast = true ↔ ps * (p + 1) ≥ full.length := by
  rw [createPage_some h hps hpg, Nat.mul_succ]
  exact ⟨fun hl => of_decide_eq_true (Bool.and_eq_true_iff.mp hl).2,
    fun hF => Bool.and_eq_true_iff.mpr ⟨createPage_exhausted h hn p hps hF, decide_eq_true hF⟩⟩

/-- **last_page_sound** (no hypothesis on nulls): a set flag is never wrong. -/
theorem last_page_sound (m : Menu α) (full : List α) (h : m.Repr full) (ps p : Nat) (hps : 0 < ps)
    (pg : Page α) (hpg : (m.createPage ps p).1 = some pg) :
    pg.isLast = true → ps * (p + 1) ≥ full.length := by
  rw [createPage_some h hps hpg, Nat.mul_succ]
  exact fun hl => of_decide_eq_true (Bool.and_eq_true_iff.mp hl).2

/-- **index_stable.**  After *any* sequence of Prepare / CreatePage / GetCandidateAt calls,
`GetCandidateAt(i)` returns `full[i]?` — fetching more, paging or re-reading never changes what an
index holds. -/
theorem index_stable (m : Menu α) (full : List α) (h : m.Repr full) (ops : List MenuOp) (i : Nat) :
    ((ops.foldl Menu.apply m).getCandidateAt i).1 = full[i]? :=
  getCandidateAt_fst (cache_prefix_ops m full h ops).1 i

/-- **empty_iff.**  `Menu::empty()` (hence `Context::HasMenu`) implies an empty list, and is exact
when no null `Peek()` is pending. -/
theorem empty_iff (m : Menu α) (full : List α) (h : m.Repr full) :
    (m.empty = true → full = []) ∧ (Gen.NoNull m.rest → (m.empty = true ↔ full = [])) :=
  ⟨(empty_spec h).1, fun hn => ⟨(empty_spec h).1, (empty_spec h).2 hn⟩⟩

/-- **lazy_refines_full.**  Every observation a client makes through RimeGetContext (page number, last
flag, highlighted index, candidates), the candidate iterator, highlight_candidate(_on_current_page),
change_page and the selector's paging actions on the lazily filled menu equals the observation the
session model computes from the full list, for every call sequence; and the selected index evolves
identically.  This is what justifies `Seg.menu : Option (List Cand)` / `Seg.prepare n = min n |full|`
in `RimeModel.Session`. -/
theorem lazy_refines_full (cfg : Cfg) (hps : 0 < cfg.pageSize) (g : LSeg α) (full : List α)
    (h : g.menu.Repr full) (hn : Gen.NoNull g.menu.rest) (ops : List SegOp) :
    (LSeg.run cfg g ops).2 = (ASeg.run cfg { full := full, sel := g.sel } ops).2 ∧
    (LSeg.run cfg g ops).1.sel = (ASeg.run cfg { full := full, sel := g.sel } ops).1.sel ∧
    (LSeg.run cfg g ops).1.menu.Repr full := by
  obtain ⟨a, b, c⟩ := run_refines cfg hps ops (g := g) (a := { full := full, sel := g.sel }) ⟨h, hn, rfl⟩
  exact ⟨a, b.sel, (congrArg (Menu.Repr _) c).mp b.repr⟩

/-! ## merged translation -/

/-- **merged_is_merge.**  The output of `MergedTranslation` (any number of translations, any
`Candidate::compare`, null peeks included) is an interleaving of its inputs: a permutation of their
concatenation in which every input keeps its own order; and the Peek/Next loop terminates after
exactly `Σ |input|` steps. -/
theorem merged_is_merge (cmp : α → α → Int) (ts : List (Gen α)) :
    let m := Merged.ofList cmp ts
    IsMerge m.trs (Merged.output cmp m) ∧
    (Merged.output cmp m).Perm (ts.flatten) ∧
    (∀ t ∈ ts, t.Sublist (Merged.output cmp m)) ∧
    (iterNext cmp m.size m).exhausted = true := by
  intro m
  obtain ⟨hwf, hkept⟩ := ofList_spec cmp ts
  obtain ⟨hm, hex⟩ := drain_spec cmp m.size m hwf (Nat.le_refl _)
  refine ⟨hm, ?_, ?_, hex⟩
  · have := hm.perm
    rw [hkept, flatten_filter_nonempty] at this
    exact this
  · intro t ht
    cases hte : t with
    | nil => exact List.nil_sublist _
    | cons x xs =>
      apply hm.sublist
      rw [hkept, ← hte]
      exact List.mem_filter.mpr ⟨ht, by rw [hte]; rfl⟩

/-- **elect_scans.**  While every kept translation is non-exhausted (an invariant: `operator+=` skips
exhausted translations and `Next` erases the one it exhausts) `Elect` erases nothing and elects a
valid index — its `erase; k = 0; continue` branch and the "failed to elect" branch are dead code. -/
theorem elect_scans (cmp : α → α → Int) (m : Merged α) (h : AllLive m.trs) :
    (m.elect cmp).trs = m.trs ∧ (m.elect cmp).WF :=
  ⟨(elect_wf cmp m h).2, (elect_wf cmp m h).1⟩

/-- **cache_translation_transparent.**  `CacheTranslation` yields exactly what it wraps. -/
theorem cache_translation_transparent (t : CacheTr α) (h : t.Inv) :
    (t.peek).1 = t.inner.peek ∧ (t.peek).2.inner = t.inner ∧ (t.peek).2.Inv ∧
    (t.next).1.inner = t.inner.tail ∧ (t.next).1.Inv :=
  ⟨(CacheTr.peek_spec h).1, (CacheTr.peek_spec h).2.1, (CacheTr.peek_spec h).2.2,
   (CacheTr.next_spec h).1, (CacheTr.next_spec h).2.1⟩

/-- **distinct_output.**  `DistinctTranslation` yields the first occurrence of every text, in order;
its texts are pairwise different. -/
theorem distinct_output [DecidableEq τ] (text : α → τ) (src : List α) :
    Distinct.output text src = dedupBy text src [] ∧ ((Distinct.output text src).map text).Nodup ∧
    (Distinct.output text src).Sublist src := by
  have e : Distinct.output text src = dedupBy text src [] := by
    unfold Distinct.output
    exact Distinct.drain_eq text src.length { src := src } (Nat.le_refl _) (fun _ _ _ => List.not_mem_nil)
  rw [e]
  exact ⟨rfl, (dedupBy_spec text src []).1, (dedupBy_spec text src []).2.2⟩

/-! ## (c) duplicate-free -/

/-- **uniq_nodup.**  When the uniquified translation is consumed directly by `Menu::Prepare` (the
uniquifier is the last filter), the texts of the menu cache are pairwise different after every
sequence of `Prepare` calls — for the code before and after commit 59481ca alike (`fixed` is arbitrary):
the menu has pushed every candidate it pulled into the shared cache before it calls `Next()`. -/
theorem uniq_nodup [DecidableEq τ] (text : α → τ) (fixed : Bool) (src : List α) (ns : List Nat) :
    let m := ns.foldl (fun m n => (FMenu.prepare text fixed m n).1) (FMenu.ofUniq text fixed src)
    ((m.cache.map (fun g => text g.first)).Nodup) :=
  (FMenu.prepare_foldl_tracks text fixed ns _ (FMenu.ofUniq_tracks text fixed src)).cache_nodup text

/-- **uniq_nodup_any_consumer.**  The uniquifier as it is now (it remembers the texts it handed out):
for ANY sequence of menu-cache contents the consumer lets it see — a prefetching filter that shows it
an empty cache throughout, the menu itself, anything in between — the candidates pulled from it have
pairwise different texts. -/
theorem uniq_nodup_any_consumer [DecidableEq τ] (text : α → τ) (src : List α) (vis0 : List (Group α))
    (vs : List (List (Group α))) :
    ((Uniq.pulls text true vs (Uniq.create text true src vis0).1).map text).Nodup :=
  (pulls_nodup text vs ((uniquify_spec text true [] src vis0).tracks text)).1

/-- **fixed_single_char_nodup.**  cangjie5's filter order (`uniquifier` then `single_char_filter`, whose
`Rearrange` drains the uniquified stream before the menu cache has anything) with the uniquifier as it is
now: the menu's texts are pairwise different after every `Prepare`. -/
theorem fixed_single_char_nodup [DecidableEq τ] (text : α → τ) (isTable single : α → Bool) (src : List α) (ns : List Nat) :
    let m := ns.foldl (fun m n => (FMenu.prepare text true m n).1) (FMenu.ofUniqThenSingleChar text true isTable single src)
    ((m.cache.map (fun g => text g.first)).Nodup) :=
  (FMenu.prepare_foldl_tracks text true ns _ (ofUniqThenSingleChar_tracks text isTable single src)).cache_nodup text

/-- **uniq_menu_is_menu.**  The menu over a uniquified translation (optionally with the prefetch queue of
a `single_char_filter` applied after it) behaves, at the level of the genuine first item of every
entry (its text, comment, preedit), exactly like a `Menu` over one fixed list: projecting the
stateful pair to a plain `Menu` commutes with `Prepare`, the count returned is the same, and the
represented list never changes.  So all the laws above hold for uniquified menus too, although the
uniquifier rewrites cached entries (it replaces them by `UniquifiedCandidate`s and appends to them). -/
theorem uniq_menu_is_menu [DecidableEq τ] (text : α → τ) (fixed : Bool) (m : FMenu α τ)
    (hinv : FMenu.Inv text fixed m) (hsub : FMenu.EmittedSub text fixed m) (n : Nat) :
    FMenu.proj text (m.prepare text fixed n).1 = ((FMenu.proj text m).prepare n).1 ∧
    (m.prepare text fixed n).2 = ((FMenu.proj text m).prepare n).2 ∧
    (FMenu.proj text (m.prepare text fixed n).1).Repr (FMenu.proj text m).full ∧
    FMenu.Inv text fixed (m.prepare text fixed n).1 ∧ FMenu.EmittedSub text fixed (m.prepare text fixed n).1 := by
  obtain ⟨a, b⟩ := fmenu_prepareLoop_proj text fixed n _ m (Nat.le_refl _) ((FMenu.tracks_iff text).mpr ⟨hinv, hsub⟩)
  have a' : FMenu.proj text (m.prepare text fixed n).1 = ((FMenu.proj text m).prepare n).1 := a
  exact ⟨a', (firsts_length _).symm.trans (congrArg (·.cache.length) a'), a' ▸ prepare_repr rfl n,
    (FMenu.tracks_iff text).mp b⟩

/-- **uniq_menu_list.**  Both ways engine.cc can build a uniquified menu start inside the invariant of
`uniq_menu_is_menu`; with the uniquifier as last filter the menu's list is `dedupBy text src []` —
the first occurrence of every text, which is how the session model's driver computes its menus. -/
theorem uniq_menu_list [DecidableEq τ] (text : α → τ) (fixed : Bool) (isTable single : α → Bool) (src : List α) :
    (FMenu.Inv text fixed (FMenu.ofUniq text fixed src) ∧ FMenu.EmittedSub text fixed (FMenu.ofUniq text fixed src) ∧
      (FMenu.proj text (FMenu.ofUniq text fixed src)).full = dedupBy text src []) ∧
    (FMenu.Inv text true (FMenu.ofUniqThenSingleChar text true isTable single src) ∧
      FMenu.EmittedSub text true (FMenu.ofUniqThenSingleChar text true isTable single src)) :=
  have ⟨a, b⟩ := (FMenu.tracks_iff text).mp (FMenu.ofUniq_tracks text fixed src)
  ⟨⟨a, b, fmenu_ofUniq_full text fixed src⟩, (FMenu.tracks_iff text).mp (ofUniqThenSingleChar_tracks text isTable single src)⟩

/-- **old_uniq_counterexample.**  The uniquifier before commit 59481ca consulted only the menu cache.
A consumer that never exposes a cache (as `SingleCharFirstTranslation::Rearrange` does) gets
duplicates from it: source texts `[1, 2, 1]` come out as `[1, 2, 1]`, and the menu built with
cangjie5's filter order lists text `1` at indices 0 and 2 — the defect found on cangjie5
(`cdl` + simplification + extended_charset: 𨱈 at 0 and 2).  The same source through the current code
gives `[1, 2]`. -/
theorem old_uniq_counterexample :
    Uniq.pulls (fun n : Nat => n) false [[], [], []] (Uniq.create (fun n : Nat => n) false [1, 2, 1] []).1 = [1, 2, 1] ∧
    ((FMenu.prepare (fun n : Nat => n) false
        (FMenu.ofUniqThenSingleChar (fun n : Nat => n) false (fun _ => true) (fun _ => true) [1, 2, 1]) 5).1.cache.map (·.first))
      = [1, 2, 1] ∧
    Uniq.pulls (fun n : Nat => n) true [[], [], []] (Uniq.create (fun n : Nat => n) true [1, 2, 1] []).1 = [1, 2] ∧
    ((FMenu.prepare (fun n : Nat => n) true
        (FMenu.ofUniqThenSingleChar (fun n : Nat => n) true (fun _ => true) (fun _ => true) [1, 2, 1]) 5).1.cache.map (·.first))
      = [1, 2] := by
  decide

/-! ## non-vacuity -/

/-- a menu with something cached, a null peek pending and more to come represents its list -/
example : (⟨[10, 11], [some 12, none, some 13]⟩ : Menu Nat).Repr [10, 11, 12, 13] := by
  unfold Menu.Repr; decide

/-- pages of that menu: page 1 of size 3 is `[13]` and is the last page; page 0 is not -/
example : ((⟨[10, 11], [some 12, some 13]⟩ : Menu Nat).createPage 3 1).1
    = some { pageSize := 3, pageNo := 1, isLast := true, cands := [13] } := by decide
example : ((⟨[10, 11], [some 12, some 13]⟩ : Menu Nat).createPage 3 0).1
    = some { pageSize := 3, pageNo := 0, isLast := false, cands := [10, 11, 12] } := by decide

/-- the `NoNull` hypothesis of `last_page_iff` is needed: with a trailing null peek the flag is late -/
example : (((⟨[], [some 1, some 2, none]⟩ : Menu Nat).createPage 2 0).1.map (·.isLast)) = some false := by decide

/-- `Prepare` returns the larger cached count when more was fetched earlier -/
example : ((⟨[1, 2, 3, 4], [some 5]⟩ : Menu Nat).prepare 2).2 = 4 := by decide

/-- a merged translation really interleaves: equal keys keep the earlier translation first (draw),
a better quality in the second translation overtakes -/
example : Merged.output (fun a b : Nat × Int => Key.compare ⟨0, 1, a.2⟩ ⟨0, 1, b.2⟩)
    (Merged.ofList (fun a b : Nat × Int => Key.compare ⟨0, 1, a.2⟩ ⟨0, 1, b.2⟩)
      [[some (1, 5), some (2, 3)], [some (3, 5), some (4, 4)]])
    = [some (1, 5), some (3, 5), some (4, 4), some (2, 3)] := by decide

/-- `Refines` is satisfiable by a non-trivial lazy segment -/
example : Refines (⟨⟨[10], [some 11, some 12]⟩, 1⟩ : LSeg Nat) ⟨[10, 11, 12], 1⟩ :=
  ⟨by unfold Menu.Repr; decide, by intro x hx; simp at hx; rcases hx with h | h <;> simp [h], rfl⟩

/-- the uniquifier merges a later duplicate into the cached entry when consumed by the menu -/
example : (FMenu.prepare (fun n : Nat => n % 10) true (FMenu.ofUniq (fun n : Nat => n % 10) true [1, 2, 11, 3]) 9).1.cache
    = [⟨1, [11]⟩, ⟨2, []⟩, ⟨3, []⟩] := by decide

end C04
