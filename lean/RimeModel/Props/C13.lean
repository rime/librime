import RimeModel.C13.Lemmas
import RimeModel.C13.Crash
import RimeModel.Props.C12
/-!
# C13 — an interrupted deployment is repaired by the next, never mistaken for complete

Property theorems only.  Models: `RimeModel/C13/Model.lean` (a builder = a sequence of abstract stores on a file,
a kill = any prefix; the order of the stores comes from `RimeModel.Gen.DeployFacts`, regenerated from the source
on every run), `RimeModel/C13/Crash.lean` (crash states of a whole deployment in the terms of the C12 model).

Full statement (proved for every artefact kind, from the facts regenerated from the current source):
```
∀ artefact kind, ∀ prefix of its builder's stores:  Load accepts the file  →  the file is the untouched old one
                                                                              or holds all the data of the new build
```
* `table_loadable_complete`, `prism_loadable_complete`, `reverse_loadable_complete`, `yaml_loadable_complete`: the
  proofs use the generated facts (tag stored last, file removed before it is rebuilt, `Load` tests the tag, compiled
  YAML not written in place), so a change of the store order in the source breaks them.
* History, kept on the *old* store order (before 8477a8a / 464c800): `old_reverse_loadable_complete_counterexample`
  (a reverse db rebuilt in place: `Resize` keeps the old tag and checksum and may cut the old data),
  `old_reverse_loadable_complete_partial` (it held only for rebuilds whose estimate did not cut the old file),
  `old_yaml_loadable_complete_counterexample` (compiled YAML written in place: `__build_info` is the first entry
  emitted, so a prefix that stops anywhere after it passes `ConfigNeedsUpdate`).
-/
namespace C13
open RimeModel.C13 RimeModel.Gen

/-- the facts about the source the theorems on mapped artefacts rest on (re-read from the source on every run):
store order and `Load` of table and prism, tag and `Load` of the reverse db, `Allocate` zeroes -/
theorem generated_facts_table_prism :
    DeployFacts.tableRemovedFirst = true ∧ DeployFacts.tableTagLast = true ∧ DeployFacts.tableLoadTestsTag = true ∧
    DeployFacts.prismRemovedFirst = true ∧ DeployFacts.prismTagLast = true ∧ DeployFacts.prismLoadTestsTag = true ∧
    DeployFacts.reverseTagLast = true ∧ DeployFacts.reverseLoadTestsTag = true ∧
    DeployFacts.allocateZeroes = true := by decide

/-- … the old reverse db is removed before the rebuild; compiled YAML is not written in place -/
theorem generated_facts_reverse_yaml :
    DeployFacts.reverseRemovedFirst = true ∧ DeployFacts.yamlSavedInPlace = false := by decide

/-- **`table.bin`**: after a kill at any point of `BuildTable` (Remove, Create, Build, Save), a table file that
`Table::Load` accepts is the untouched old file (nothing was done yet) or holds all the data of the new build
under the new checksum — for every build, every tag length and every number `minTag ≥ 1` of tag bytes `Load`
insists on (a partially stored tag that passes follows complete data). -/
theorem table_loadable_complete (tagLen minTag : Nat) (hmin : 1 ≤ minTag) (b : Build) (f0 f : File)
    (h : Reach (tableProgram tagLen b) f0 f) (hl : load DeployFacts.tableLoadTestsTag minTag f = true) :
    f = f0 ∨ ∃ img, f = some img ∧ CompleteData b img := by
  obtain ⟨h1, h2, h3, -, -, -, -, -, hz⟩ := generated_facts_table_prism
  unfold tableProgram at h
  rw [h1, h2] at h
  rw [h3] at hl
  exact removed_first_tag_last tagLen minTag hmin b f0 f hz h hl

/-- **`prism.bin`**: the same for `BuildPrism`. -/
theorem prism_loadable_complete (tagLen minTag : Nat) (hmin : 1 ≤ minTag) (b : Build) (f0 f : File)
    (h : Reach (prismProgram tagLen b) f0 f) (hl : load DeployFacts.prismLoadTestsTag minTag f = true) :
    f = f0 ∨ ∃ img, f = some img ∧ CompleteData b img := by
  obtain ⟨-, -, -, h1, h2, h3, -, -, hz⟩ := generated_facts_table_prism
  unfold prismProgram at h
  rw [h1, h2] at h
  rw [h3] at hl
  exact removed_first_tag_last tagLen minTag hmin b f0 f hz h hl

/-- **`reverse.bin`**: the same for `BuildReverseDb` — the source removes the old file before rebuilding it
(generated fact `reverseRemovedFirst`). -/
theorem reverse_loadable_complete (tagLen minTag : Nat) (hmin : 1 ≤ minTag) (b : Build) (f0 f : File)
    (h : Reach (reverseProgram tagLen b) f0 f) (hl : load DeployFacts.reverseLoadTestsTag minTag f = true) :
    f = f0 ∨ ∃ img, f = some img ∧ CompleteData b img := by
  obtain ⟨-, -, -, -, -, -, h2, h3, hz⟩ := generated_facts_table_prism
  unfold reverseProgram at h
  rw [generated_facts_reverse_yaml.1, h2] at h
  rw [h3] at hl
  exact removed_first_tag_last tagLen minTag hmin b f0 f hz h hl

/-- **History — `reverse.bin` rebuilt in place** (the store order before 8477a8a: no removal, `Create` resizes
the existing file): a file that `Load` accepts holds all the data of the old build or of the new one *only if
the new capacity estimate is not smaller than the old file*. -/
theorem old_reverse_loadable_complete_partial
    (tagLen minTag : Nat) (hmin : 1 ≤ minTag) (b0 b : Build) (f0 f : File)
    (h0 : f0 = none ∨ ∃ img0, f0 = some img0 ∧ CompleteData b0 img0 ∧ img0.size ≤ b.cap)
    (h : Reach (program false true tagLen b) f0 f) (hl : load true minTag f = true) :
    ∃ img, f = some img ∧ (CompleteData b0 img ∨ CompleteData b img) := by
  rcases tag_last tagLen minTag hmin b f0 f generated_facts_table_prism.2.2.2.2.2.2.2.2 h hl with
    rfl | rfl | ⟨img, h, hc⟩
  · rcases h0 with rfl | ⟨img0, rfl, hc0, -⟩
    · cases hl
    · exact ⟨img0, rfl, Or.inl hc0⟩
  · -- `Create` keeps the old bytes, or starts from zeroes, which `Load` rejects
    rcases h0 with rfl | ⟨img0, rfl, ⟨h1, h2, h3⟩, hs⟩
    · cases (load_tag_zero hmin rfl).symm.trans hl
    · by_cases hr : DeployFacts.createResizesExisting = true
      · exact ⟨{ img0 with size := b.cap }, by simp only [Op.run, hr, ↓reduceIte],
          Or.inl ⟨h1, h2, Nat.le_trans h3 hs⟩⟩
      · simp only [Op.run, if_neg hr] at hl
        cases (load_tag_zero hmin rfl).symm.trans hl
  · exact ⟨img, h, Or.inr hc⟩

/-- **History — the negation of the full statement for a reverse db rebuilt in place**: a complete old reverse
db of 100 bytes, a rebuild whose estimate is 40 bytes, a kill right after `MappedFile::Create` resized the
file: `Load` accepts it (old tag), its checksum is the old one, and its data is cut.  (Found on the real code
as `C13:loadable-incomplete:reverse` / `C13:redeploy-fails:reverse-truncated`.) -/
theorem old_reverse_loadable_complete_counterexample (hcr : DeployFacts.createResizesExisting = true) :
    ∃ (b0 b : Build) (img0 : Img) (f : File), CompleteData b0 img0 ∧ img0.tag = 16 ∧
      Reach (program false true 16 b) (some img0) f ∧ load true 13 f = true ∧
      ∀ img, f = some img → ¬ CompleteData b0 img ∧ ¬ CompleteData b img := by
  refine ⟨⟨1, 120, 10, [50, 100]⟩, ⟨2, 40, 10, [20, 30]⟩, ⟨100, 16, some 1, 2, 100⟩,
    some ⟨40, 16, some 1, 2, 100⟩, ⟨rfl, rfl, by decide⟩, rfl, ⟨1, ?_⟩, by decide, ?_⟩
  · show _ = (Op.create 40).run (some _)
    simp only [Op.run, hcr, ↓reduceIte]
  · intro img h
    cases h
    exact ⟨fun h => absurd h.2.2 (by decide), fun h => absurd h.1 (by decide)⟩

/-! ### compiled YAML -/

/-- **compiled YAML** (and every other config file): the source writes a temporary file and renames it into
place (generated fact `yamlSavedInPlace = false`), so whatever the temporary file held before and wherever the
kill comes — while the temporary file is written, between its last write and the rename, after the rename —
the destination is the old file or the complete new one; a left-over temporary file is never the destination. -/
theorem yaml_loadable_complete (doc : Doc) (s0 s : YState)
    (h : YReach (saveToFile doc) s0 s) : s.dest = s0.dest ∨ s.dest = some doc := by
  have hip := generated_facts_reverse_yaml.2
  obtain ⟨k, hk⟩ := h
  subst hk
  unfold saveToFile yamlProgram
  simp only [hip, Bool.false_eq_true, ↓reduceIte]
  -- the destination is untouched until the rename, which installs the whole document
  have key : ∀ (l : List (String × Nat)) (acc : Doc) (d : Option Doc) (j : Nat),
      (yrun ((l.map YOp.writeTmp ++ [YOp.rename]).take j) ⟨d, some acc⟩).dest = d ∨
      (yrun ((l.map YOp.writeTmp ++ [YOp.rename]).take j) ⟨d, some acc⟩).dest = some (acc ++ l) := by
    intro l
    induction l with
    | nil =>
      intro acc d j
      cases j with
      | zero => exact Or.inl rfl
      | succ j =>
        right
        show (yrun (YOp.rename :: List.take j []) _).dest = _
        rw [List.take_nil, List.append_nil]
        rfl
    | cons e l ih =>
      intro acc d j
      cases j with
      | zero => exact Or.inl rfl
      | succ j => exact (ih (acc ++ [e]) d j).imp_right fun h => h.trans (by rw [List.append_assoc]; rfl)
  cases k with
  | zero => exact Or.inl rfl
  | succ k => exact key doc [] s0.dest k

/-- **History — compiled YAML written in place (before 464c800): the negation of the full statement.**  Witness: a compiled schema with
`__build_info` (value 7 = the timestamps of the current sources) and two more entries; the kill comes after the
second piece reached the file.  The file passes the test `ConfigNeedsUpdate` applies (it parses, its build info
matches the sources), it is neither the old file nor the complete new one, and `engine` is missing. -/
theorem old_yaml_loadable_complete_counterexample :
    ∃ (doc old : Doc) (s : YState), YReach (yamlProgram true doc) ⟨some old, none⟩ s ∧
      yload ("__build_info", 7) s.dest = true ∧ s.dest ≠ some old ∧ s.dest ≠ some doc ∧
      ∀ d, s.dest = some d → ("engine", 3) ∉ d := by
  refine ⟨[("__build_info", 7), ("alphabet", 2), ("engine", 3)], [("__build_info", 5), ("alphabet", 1), ("engine", 3)],
    ⟨some [("__build_info", 7), ("alphabet", 2)], none⟩, ⟨3, rfl⟩, by decide +kernel, by decide +kernel, by decide +kernel, ?_⟩
  · intro d hd
    cases hd
    decide +kernel

/-! ### crash states of a whole deployment -/

section Crash
open RimeModel.C12

variable {K : Type} [DecidableEq K] {cat : Rid → Time → Content}

/-- **Every crash state is consistent** (in the sense of C12): whatever prefix of the planned writes completed
and whichever artefacts the kill left unloadable, every artefact that still loads records the fingerprints of
what it was built from. -/
theorem crash_state_consistent {E : Env K} {S : Src} (hS : SourcesOK E S) (hSt : Stamped cat S) {A X : Arts K}
    (hA : Consistent E cat A) (hX : CrashState A (plan E S) X) : Consistent E cat X := by
  obtain ⟨k, D, rfl⟩ := hX
  refine foldl_inv (P := Consistent E cat) D (fun s _ _ h => consistent_drop h s)
    (hA.applyAssigns _ fun a ha => ?_)
  exact plan_ok hS hSt a (List.mem_of_mem_take ha)

/-- **The next deployment of the same sources repairs it**: deployed over any crash state, the same sources
give every artefact of a clean deployment, identically, with the same verdict. -/
theorem redeploy_after_crash_eq_clean {E : Env K} (hC : CompilerOK E) (hK : CkOK E) {S : Src} (hS : SourcesOK E S)
    (hSt : Stamped cat S) {A X : Arts K} (hA : Consistent E cat A) (hX : CrashState A (plan E S) X)
    (now now' : Time) :
    AgreeOn (deploy E S now X).1 (deploy E S now' Arts.empty).1 ∧
    (deploy E S now X).2.1 = (deploy E S now' Arts.empty).2.1 :=
  _root_.C12.deploy_eq_clean hC hK hS hSt (crash_state_consistent hS hSt hA hX) now now'

/-- `last_build_time` is written only when the schema loop has finished (`workspaceUpdate` stores it last), so a
crash state never carries a newer one than the staging directory it started from: the quick path
(`DetectModifications`) still fires after a kill. -/
theorem crash_keeps_last_build_time {A X : Arts K} {l : List (Assign K)} (hX : CrashState A l X) :
    X.lastBuild = A.lastBuild := by
  obtain ⟨k, D, rfl⟩ := hX
  -- neither losing an artefact nor assigning one touches `last_build_time`
  refine foldl_inv (P := fun B : Arts K => B.lastBuild = A.lastBuild) D (fun s _ B hB => ?_)
    (foldl_inv (P := fun B : Arts K => B.lastBuild = A.lastBuild) _ (fun a _ B hB => ?_) rfl)
  · cases s <;> exact hB
  · cases a <;> exact hB

end Crash

/-! ### non-vacuity -/
section NonVacuity
open RimeModel.C12 RimeModel.C12.Ex

/-- a table build with three data blocks, killed after the second: `Load` rejects it -/
example : load true 13 (run ((tableProgram 16 ⟨2, 4096, 64, [100, 200, 300]⟩).take 6) none) = false := by decide

/-- … killed after the tag: `Load` accepts it and the data is complete -/
example : load true 13 (run ((tableProgram 16 ⟨2, 4096, 64, [100, 200, 300]⟩).take 23) none) = true := by decide

/-- a crash state of the example deployment of C12: the first four planned writes done, the prism of `sa`
unloadable; it is consistent and the redeployment theorem applies to it -/
example : Consistent exE exCat
    ([Slot.prism "sa"].foldl dropSlot (applyAssigns (Arts.empty : Arts ExK) ((plan exE exS).take 4))) :=
  crash_state_consistent (exSourcesOK _ (Or.inl rfl)) (exStamped _ (Or.inl rfl)) (consistent_empty exE exCat)
    ⟨4, [Slot.prism "sa"], rfl⟩

end NonVacuity

end C13
