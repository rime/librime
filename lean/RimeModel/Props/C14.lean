import RimeModel.C14.Lemmas
import RimeModel.C14.CompileLemmas
import RimeModel.C14.Doc
import RimeModel.C14.Scheme
import RimeModel.C14.Custom
import RimeModel.C14.Example
/-!
# C14 — config compiler: includes copy, patches apply in order, sources stay untouched

The theorems below fix what the *reference compiler* (`RimeModel.C14.compileDoc`, built from exact
ports of `EditNode`, `MergeTree`, `AppendToString/List`, `CreateReference`, `ResolveListIndex` and the
copy-on-write references) means, for all trees / document sets, without bounds.

PARTIAL.  The full property is: *the C++ `ConfigCompiler` (dependency graph with priorities, pending
children, in-place entry references, copy-on-write references into shared subtrees, plugins) computes
`compileDoc` on every acyclic document set, never alters a document it reads, and terminates on cyclic
ones.*  What is proved here is the reference side: its semantics (include = copy then override;
patches folded in order; set / append / merge / replace at map and list-index keys; directive-free =
identity; result a function of the reachable documents only) and the termination of the
chain-guarded resolution scheme.  That the C++ graph algorithm equals the reference is NOT proved; it
is tied by the differential check `checks/C14.py` (real compiler vs `driver_c14` on generated
document sets, in-memory tree and re-loaded staging file).
-/
namespace C14
open RimeModel.C14

/-! ## `EditNode`: set, append, merge, replace -/

/-- `key: v` (a patch-literal entry whose key is one plain map key): the entry is set, whatever was
there and whatever `v` is; nothing else changes. -/
theorem edit_set {k : Str} (h : PlainKey k) (kvs : Entries) (v : Tree) :
    editNode (.map kvs) [] k v false = ER.good (.map (mapSet kvs k v)) [] := by
  exact editNode_set h kvs (Or.inl rfl)

/-- A list-index key on a list slot: the element `ResolveListIndex` designates is written
(`ConfigCowRef<ConfigList>::Write`), after inserting a null element there for the `@before`/`@after` forms. -/
theorem edit_set_list_index {key : Str} (hl : isListItemReference key = true) (hs : NoSlash key)
    (xs : List Tree) (v : Tree) :
    editNode (.list xs) [] key v false = ER.good (.list (listWrite xs key v)) [] := by
  have hne : key ≠ [] := by intro e; rw [e] at hl; cases hl
  have hna : key ≠ kAppend := by intro e; rw [e] at hl; revert hl; decide
  have hnm : key ≠ kMerge := by intro e; rw [e] at hl; revert hl; decide
  rw [editNode_assign (keyForm_plain hs hna hnm) hs hne (.list xs) [] (Or.inr (typedOk_list hl xs)) v false
    (Or.inl rfl), assign_one, writeKey_list hl]

/-- where a list-index key writes, in terms of `ResolveListIndex`: plain forms overwrite (padding with
nulls), insert forms put the value *before* position `i` -/
theorem list_write_forms (xs : List Tree) (key : Str) (v : Tree) :
    listWrite xs key v =
      if (resolveListIndex xs.length key).2
      then (padTo xs (resolveListIndex xs.length key).1).take (resolveListIndex xs.length key).1 ++
            v :: (padTo xs (resolveListIndex xs.length key).1).drop (resolveListIndex xs.length key).1
      else listSetAt xs (resolveListIndex xs.length key).1 v := by
  by_cases hb : (resolveListIndex xs.length key).2 = true
  · simp only [listWrite, hb, if_true]; exact listSetAt_insert xs _ v
  · simp [listWrite, hb]

/-- `@next` appends, `@before 0` prepends, `@last` overwrites the last element, `@2` overwrites element 2,
`@after 1` inserts before position 2 -/
theorem list_index_forms (xs : List Tree) (v : Tree) (h : xs.length < U32) :
    listWrite xs atNext v = xs ++ [v] ∧ listWrite xs atBefore0 v = v :: xs ∧
    listWrite xs at2 v = listSetAt xs 2 v ∧
    listWrite xs atAfter1 v = (padTo xs 2).take 2 ++ v :: (padTo xs 2).drop 2 ∧
    (∀ x ys, xs = x :: ys → listWrite xs atLast v = xs.set ys.length v) := by
  refine ⟨?_, ?_, ?_, ?_, ?_⟩
  · simp [listWrite, rli_next, Nat.mod_eq_of_lt h, listSetAt, padTo]
  · simp [listWrite, rli_before0, listSetAt, padTo, listInsert]
  · simp [listWrite, rli_2]
  · simp only [listWrite, rli_after1, if_true]
    exact listSetAt_insert xs 2 v
  · rintro x ys rfl
    have h' : (ys.length + 1) % U32 = ys.length + 1 := Nat.mod_eq_of_lt h
    simp [listWrite, rli_last, h', listSetAt, padTo]

/-- `key/+: [ys]` on an entry that holds a list appends (the existing list is copied, never mutated) -/
theorem edit_append_list {k : Str} (h : PlainKey k) (kvs : Entries) (xs ys : List Tree) (y : Tree)
    (hx : mapGet kvs k = .list xs) :
    editNode (.map kvs) [] (k ++ kAddOp) (.list (y :: ys)) false
      = ER.good (.map (mapSet kvs k (.list (xs ++ y :: ys)))) [] := by
  rw [editNode_form (keyForm_add h.ns) _ (traverse_key h.ns h.ne (.map kvs) [] (Or.inr (typedOk_map h.nl kvs)) false)]
  simp [editAt, getC, readKey_map h.nl, hx, Tree.isNull, appendToString, appendToList, assign, setC,
    writeKey_map h.nl, ER.good]

/-- `__append: [ys]` edits the patched node itself -/
theorem edit_append_self (xs ys : List Tree) (y : Tree) :
    editNode (.list xs) [] kAppend (.list (y :: ys)) false = ER.good (.list (xs ++ y :: ys)) [] := by
  rw [editNode_form keyForm_append _ (traverse_nil _ _ false)]
  simp [editAt, getC, Tree.isNull, appendToString, appendToList, assign, setC, ER.good]

/-- `key/+: "s"` on an entry that holds a scalar concatenates -/
theorem edit_append_string {k : Str} (h : PlainKey k) (kvs : Entries) (e s : Str)
    (hx : mapGet kvs k = .scalar e) :
    editNode (.map kvs) [] (k ++ kAddOp) (.scalar s) false
      = ER.good (.map (mapSet kvs k (.scalar (e ++ s)))) [] := by
  rw [editNode_form (keyForm_add h.ns) _ (traverse_key h.ns h.ne (.map kvs) [] (Or.inr (typedOk_map h.nl kvs)) false)]
  simp [editAt, getC, readKey_map h.nl, hx, Tree.isNull, appendToString, assign, setC, writeKey_map h.nl]

/-- appending to an entry that does not exist yet just sets it -/
theorem edit_append_absent {k : Str} (h : PlainKey k) (kvs : Entries) (v : Tree)
    (hx : mapGet kvs k = .null) :
    editNode (.map kvs) [] (k ++ kAddOp) v false = ER.good (.map (mapSet kvs k v)) [] := by
  rw [editNode_assign (keyForm_add h.ns) h.ns h.ne (.map kvs) [] (Or.inr (typedOk_map h.nl kvs)) v false
    (Or.inr (by rw [getC, readKey_map h.nl, hx]; rfl)), assign_one, writeKey_map h.nl]

/-- `key/=: v` replaces the entry, also under `MergeTree` and also when `v` is a map (no merging) -/
theorem edit_replace {k : Str} (h : PlainKey k) (kvs : Entries) (v : Tree) (mt : Bool) :
    editNode (.map kvs) [] (k ++ kEquOp) v mt = ER.good (.map (mapSet kvs k v)) [] := by
  rw [editNode_assign (keyForm_equ h.ns) h.ns h.ne (.map kvs) [] (Or.inr (typedOk_map h.nl kvs)) v mt
    (Or.inl (by cases mt <;> cases v.isNull || v.isMap <;> rfl)), assign_one, writeKey_map h.nl]

/-- `__merge: {…}` merges into the patched node itself: it is `MergeTree` of the slot -/
theorem edit_merge_self (kvs m : Entries) :
    editNode (.map kvs) [] kMerge (.map m) false = mergeEntries (.map kvs) [] m := by
  rw [editNode_form keyForm_merge _ (traverse_nil _ _ false)]
  simp [editAt, getC, Tree.isNull, ER.fail]

/-- `MergeTree` with a flat map (plain keys, values that are neither null nor maps) sets the keys one
after the other, in key order, and keeps every other entry -/
theorem edit_merge {m : Entries} (hm : Flat m) (kvs : Entries) :
    editNode (.map kvs) [] kMerge (.map m) false = ER.good (.map (setAll kvs m)) [] := by
  rw [edit_merge_self, mergeEntries_flat m hm kvs]

/-- `key/+: {…}` on an entry that holds a map merges into *that entry* (its map is copied on write, the
sibling entries of `key` stay) -/
theorem edit_merge_entry {k : Str} (h : PlainKey k) (kvs old : Entries) (x : Str × Tree) (m : Entries)
    (hm : Flat (x :: m)) (hx : mapGet kvs k = .map old) :
    editNode (.map kvs) [] (k ++ kAddOp) (.map (x :: m)) false
      = ER.good (.map (mapSet kvs k (.map (setAll old (x :: m))))) [] := by
  rw [editNode_form (keyForm_add h.ns) _ (traverse_key h.ns h.ne (.map kvs) [] (Or.inr (typedOk_map h.nl kvs)) false)]
  simp [editAt, getC, readKey_map h.nl, hx, Tree.isNull, appendToString, appendToList, ER.fail,
    mergeEntries_under h m kvs old false hx x hm, ER.good]

/-- under `MergeTree` (an `__include` with sibling keys) a map-valued sibling merges into the included
entry, everything else overwrites it: the flat case -/
theorem merge_tree_flat {m : Entries} (hm : Flat m) (kvs : Entries) :
    mergeTree (.map kvs) [] (.map m) = ER.good (.map (setAll kvs m)) [] := by
  simp [mergeTree, mergeEntries_flat m hm kvs]

/-! ## patches: literal keys in key order, patch entries in list order -/

/-- A patch literal whose keys are plain map keys is the left fold of "set this key" over its entries
in key order (the order of `std::map` iteration): later keys see the effect of earlier ones. -/
theorem patch_literal_flat {m : Entries} (hm : PlainKeys m) (kvs : Entries) :
    patchEntries (.map kvs) [] m = ER.good (.map (setAll kvs m)) [] := by
  induction m generalizing kvs with
  | nil => simp [patchEntries, setAll]
  | cons kv rest ih =>
    obtain ⟨k, v⟩ := kv
    have hk := hm (k, v) (by simp)
    have hr : PlainKeys rest := fun x hx => hm x (by simp [hx])
    unfold patchEntries
    simp [edit_set hk kvs v, ER.good, ih hr, setAll]

/-- `PatchLiteral::Resolve` is a fold: applying the entries `a ++ b` is applying `a`, then `b` to what
`a` left (value and copy-on-write state), for *any* keys and values. -/
theorem patch_entries_fold (base : Tree) (head : Chain) (a b : Entries) :
    (patchEntries base head (a ++ b)).base
        = (patchEntries (patchEntries base head a).base (patchEntries base head a).head b).base ∧
    (patchEntries base head (a ++ b)).head
        = (patchEntries (patchEntries base head a).base (patchEntries base head a).head b).head := by
  induction a generalizing base head with
  | nil => simp [patchEntries, ER.good]
  | cons kv rest ih =>
    obtain ⟨k, v⟩ := kv
    simp only [List.cons_append, patchEntries]
    exact ih _ _

/-- The `__patch` entries of a node are applied in list order: the dependencies `a ++ b` act as `a`
followed by `b` on the slot `a` produced (a failed entry stops the node: the rest is not applied). -/
theorem patches_fold_in_order (docs : Docs) (rec : Rec) (n : NodeId) (pc : RChain) (lits : List Tree)
    (a b : List PDep) (s : Slot) :
    applyPatches docs rec n pc lits (a ++ b) s
      = applyPatches docs rec n pc lits b (applyPatches docs rec n pc lits a s) := by
  induction a generalizing s with
  | nil => rfl
  | cons d ds ih =>
    by_cases h : s.fl.ok = true
    · cases d <;> simp [applyPatches, h, ih]
    · have h' : s.fl.ok = false := by simpa using h
      have hf : ∀ ds : List PDep, applyPatches docs rec n pc lits ds s = s := by
        intro ds; cases ds <;> simp [applyPatches, h']
      simp [hf]

/-- Two literal patches with plain keys on a map slot: the second is applied to the result of the
first, so where both set a key the later patch wins. -/
theorem patches_two_literals (docs : Docs) (rec : Rec) (n : NodeId) (pc : RChain) {l0 l1 : Entries}
    (h0 : PlainKeys l0) (h1 : PlainKeys l1) (kvs : Entries) :
    (applyPatches docs rec n pc [.map l0, .map l1] [.lit 0, .lit 1] { base := .map kvs, head := [], fl := {} }).base
      = .map (setAll (setAll kvs l0) l1) := by
  simp [applyPatches, applyPatchLit, patch_literal_flat h0, patch_literal_flat h1, ER.good, Fl.seq, Fl.ofER]

/-! ## include: copy, then the local entries merged over it -/

/-- `IncludeReference::Resolve` when the reference resolves to `inc`: the slot becomes `inc` — a copy:
values cannot alias — and, if the slot held a non-empty map before (the node's own entries, children
already compiled), those entries are merged over it with `MergeTree`. -/
theorem include_is_copy_then_override (docs : Docs) (rec : Rec) (chain : RChain) (b : Tree) (fl : Fl)
    (ref : Reference) (inc : Tree) (h : (resolveRef docs rec chain ref).val = some inc) :
    (applyInclude docs rec chain { base := b, head := [], fl := fl } ref).base =
      match b.asMap with
      | some (kv :: kvs) => (mergeEntries inc [] (kv :: kvs)).base
      | _ => inc := by
  unfold applyInclude
  simp only [h, getC, setC]
  cases hb : b.asMap with
  | none => simp
  | some l => cases l <;> simp

/-- …and for flat local entries over an included map: the included entries with the local ones set -/
theorem include_flat_override (docs : Docs) (rec : Rec) (chain : RChain) (ov : Entries) (x : Str × Tree)
    (hov : Flat (x :: ov)) (fl : Fl) (ref : Reference) (ikvs : Entries)
    (h : (resolveRef docs rec chain ref).val = some (.map ikvs)) :
    (applyInclude docs rec chain { base := .map (x :: ov), head := [], fl := fl } ref).base
      = .map (setAll ikvs (x :: ov)) := by
  rw [include_is_copy_then_override docs rec chain _ fl ref _ h]
  simp [Tree.asMap, mergeEntries_flat (x :: ov) hov ikvs, ER.good]

/-- an optional reference to a missing target is a no-op on the slot; a non-optional one fails the node -/
theorem include_missing (docs : Docs) (rec : Rec) (chain : RChain) (s : Slot) (ref : Reference)
    (h : (resolveRef docs rec chain ref).val = none) :
    (applyInclude docs rec chain s ref).base = s.base ∧
    ((applyInclude docs rec chain s ref).fl.ok = (s.fl.ok && ref.optional)) := by
  unfold applyInclude
  simp only [h]
  cases ho : ref.optional <;> simp [Fl.seq, Fl.swallow]

/-- The order inside one node: children first (`compileEntries`), then — unless a child failed — the
node's own dependencies (`applyOwn`: include, patches in order, automatic custom patch) on the slot
that holds the compiled children. -/
theorem node_children_then_own (docs : Docs) (rec : Rec) (chain : RChain) (n : NodeId) (kvs : Entries)
    (hc : circular chain n = false) :
    compileNode docs rec chain n false (.map kvs) =
      (let mc := compileEntries rec ({ id := n } :: chain) n.doc n.path kvs {}
       if !mc.fl.ok then { lit := .map mc.data, slot := .map mc.data, fl := mc.fl }
       else { lit := .map mc.data,
              slot := (applyOwn docs rec chain n (.map kvs) mc.lits (.map mc.data) mc.fl).base,
              fl := (applyOwn docs rec chain n (.map kvs) mc.lits (.map mc.data) mc.fl).fl }) := by
  unfold compileNode
  simp [hc]

/-! ## directive-free documents, purity -/

/-- A directive-free document (no `__include` / `__patch` key anywhere; root a map; not a `*.schema`
id, for which the builder adds the default `menu` and `import_preset` expansions by design; no
`<name>.custom` document, or the document is itself a `.custom` one) compiles to itself, and what is
saved is itself minus null entries.  (`__build_info` is left out of `mem` / `saved` by definition.) -/
theorem compile_plain (docs : Docs) (fuel : Nat) (name : Str) (kvs : Entries)
    (hdoc : docs name = some (.map kvs)) (hnd : noDirM kvs = true)
    (hs : Str.endsWith name kDotSchema = false)
    (hc : Str.endsWith name kDotCustom = true ∨ docs (customOf name) = none) :
    compileDocCore docs (fuel + 1) name
      = { loaded := true, mem := .map kvs, saved := some (Tree.map kvs).emitProj, fl := {} } := by
  have hp : parseForm (.map kvs) = .map kvs := congrArg Tree.map (parseFormM_noDir kvs hnd)
  unfold compileDocCore
  simp only [hdoc]
  by_cases hd : nodeHasDeps name [] (.map kvs) = true
  · simp [hd, compile, compileNode_plain_root docs _ name kvs hnd hc, pluginDefault, hs, stampRoot, Tree.isMap]
  · simp [hd, hp, pluginDefault, hs, stampRoot, Tree.isMap]

/-- The compiled result of `name` is a function of the documents reachable from it through reference
texts (`closure`): changing, adding or removing any other document does not change it. -/
theorem compile_pure (docs docs' : Docs) (cf fuel : Nat) (name : Str)
    (h : ∀ n ∈ closure docs cf [name] [], docs' n = docs n) :
    compileDoc docs' cf fuel name = compileDoc docs cf fuel name := by
  unfold compileDoc
  simp only [closure_congr docs docs' cf [name] [] h, restrict_congr docs docs' _ h, closed_congr docs docs' _ h]

/-- Compiling never alters a document and keeps no state: compiling a list of documents is the map of
compiling each one, so the result for `b` is the same whether or not `a` was compiled before it.  (In
the reference this holds by construction — values cannot alias; for the C++ compiler it is what the
aliasing part of the differential check tests.) -/
theorem compile_independent_of_history (docs : Docs) (cf fuel : Nat) (a b : Str) :
    (compileAll docs cf fuel [a, b]).getLast? = (compileAll docs cf fuel [b]).getLast? := by
  simp [compileAll]

/-! ## termination of chain-guarded resolution -/

/-- The recursion scheme of `ResolveDependencies` — refuse a guarded node, else push it on the chain and
resolve its dependencies — terminates on *every* dependency map over a finite universe of nodes,
cyclic or not, provided a node on the chain is guarded: fuel exceeding the number of universe nodes
not on the chain is never exhausted (so the recursion depth is bounded by the number of nodes). -/
theorem resolve_chain_terminates {α : Type} [DecidableEq α] (deps : α → List α) (guard : List α → α → Bool)
    (hguard : ∀ chain n, n ∈ chain → guard chain n = true) (u : List α)
    (hclosed : ∀ x ∈ u, ∀ d ∈ deps x, d ∈ u) :
    ∀ (fuel : Nat) (chain : List α) (n : α), n ∈ u → freeNodes u chain < fuel →
      (resolveAbs deps guard fuel chain n).isSome = true := by
  intro fuel
  induction fuel with
  | zero => intro chain n _ h; omega
  | succ f ih =>
    intro chain n hn hf
    unfold resolveAbs
    by_cases hg : guard chain n = true
    · simp [hg]
    · simp only [hg, Bool.false_eq_true, if_false]
      have hnc : n ∉ chain := fun hm => hg (hguard chain n hm)
      apply allOpt_isSome
      intro d hd
      apply ih (n :: chain) d (hclosed n hn d hd)
      have := freeNodes_push u chain n hn hnc
      omega

/-- in particular from the empty chain: fuel `|universe| + 1` suffices -/
theorem resolve_fuel_bound {α : Type} [DecidableEq α] (deps : α → List α) (guard : List α → α → Bool)
    (hguard : ∀ chain n, n ∈ chain → guard chain n = true) (u : List α)
    (hclosed : ∀ x ∈ u, ∀ d ∈ deps x, d ∈ u) (n : α) (hn : n ∈ u) :
    (resolveAbs deps guard (u.length + 1) [] n).isSome = true := by
  apply resolve_chain_terminates deps guard hguard u hclosed _ _ _ hn
  have : freeNodes u [] ≤ u.length := by
    unfold freeNodes
    exact List.length_filter_le _ _
  omega

/-- the guard of the reference compiler (`circular`, the port of `HasCircularDependencies`) has the one
property the termination argument needs: a node on the chain is guarded -/
theorem circular_guards_chain (chain : RChain) (n : NodeId) (e : CEntry) (he : e ∈ chain) (hid : e.id = n) :
    circular chain n = true := by
  unfold circular
  rw [List.any_eq_true]
  exact ⟨e, he, by simp [hid, isPrefixOf_refl]⟩

/-! ## the producer of the automatic patch: `CustomSettings` -/

/-- `patch` is an ordinary map key -/
theorem plainKey_patch : PlainKey kPatchKey := ⟨by decide, by decide, by decide, by decide, by decide⟩

/-- `Config::SetItem(k, v)` (= `ConfigData::TraverseWrite`) with one plain map key on a map root sets that entry -/
theorem traverseWrite_plain {k : Str} (h : PlainKey k) (kvs : Entries) (v : Tree) :
    traverseWrite (.map kvs) k v = (.map (mapSet kvs k v), true) := by
  have ht : traverseCow (.map kvs) [] k = some [{ key := k, copied := false }] :=
    traverse_key h.ns h.ne (.map kvs) [] (Or.inr (typedOk_map h.nl kvs)) false
  simp [traverseWrite, ht, assign, setC, getC, writeKey_map h.nl, ER.good]

/-- `TraverseWrite` is the traversal of `EditNode` for a key without operator: writing a customization directly and
applying it as a one-entry patch literal give the same tree -/
theorem traverseWrite_eq_editNode {k : Str} (h : PlainKey k) (kvs : Entries) (v : Tree) :
    (traverseWrite (.map kvs) k v).1 = (editNode (.map kvs) [] k v false).base := by
  rw [traverseWrite_plain h, edit_set h]
  rfl

/-- `Customize(key, item)` on a custom document that has a `patch` map: `key` — taken as ONE map key, slashes and all —
is set to `item` in that map; the other patch entries and the other top-level entries stay -/
theorem customize_sets_patch_key (kvs p : Entries) (hp : mapGet kvs kPatchKey = .map p) (key : Str) (item : Tree) :
    customizeOne (.map kvs) key item = .map (mapSet kvs kPatchKey (.map (mapSet p key item))) := by
  simp [customizeOne, traverse1, hp, Tree.asMap, traverseWrite_plain plainKey_patch]

/-- … and on one whose `patch` is missing or not a map: a new one-entry patch map replaces it -/
theorem customize_fresh (kvs : Entries) (hp : (mapGet kvs kPatchKey).isMap = false) (key : Str) (item : Tree) :
    customizeOne (.map kvs) key item = .map (mapSet kvs kPatchKey (.map [(key, item)])) := by
  have : (mapGet kvs kPatchKey).asMap = none := by
    cases h : mapGet kvs kPatchKey <;> simp_all [Tree.asMap, Tree.isMap]
  simp [customizeOne, traverse1, this, traverseWrite_plain plainKey_patch, mapSet]

/-- … and with no custom document at all: the document `{patch: {key: item}}` -/
theorem customize_no_file (key : Str) (item : Tree) :
    customizeOne .null key item = .map [(kPatchKey, .map [(key, item)])] := by
  simp [customizeOne, traverse1, Tree.asMap, traverseWrite, traverseCow, kPatchKey, c_slash, splitPath, Str.trimLeft,
    Str.splitOn, traverseKeys, typeChecked, getC, Tree.isNull, assign, setC, writeKey, isListItemReference, c_at, mapSet, ER.good]

/-- what the compiler's automatic patch reads afterwards: `patch` with `key` set to `item`, every other key as before -/
theorem customize_read_back (kvs p : Entries) (hp : mapGet kvs kPatchKey = .map p) (key : Str) (item : Tree) :
    traverse1 (customizeOne (.map kvs) key item) kPatchKey = .map (mapSet p key item) := by
  rw [customize_sets_patch_key kvs p hp]
  simp [traverse1, mapGet_mapSet_same]

/-! ## non-vacuity: the hypotheses above are met by concrete, non-trivial values -/

-- a whole CustomSettings session on a name without custom document: signed and saved
example : ((customSession none [([103], [118])] [([107], .scalar [118])]).file.getD .null).beq
    (.map [(kCustomization, .map [([103], .scalar [118])]), (kPatchKey, .map [([107], .scalar [118])])]) = true := by decide +kernel

-- nothing customized: nothing saved
example : (customSession none [([103], [118])] []).saved = false := by decide

example : PlainKey Ex.kA := ⟨by decide, by decide, by decide, by decide, by decide⟩

example : Flat [(Ex.kA, .scalar [49])] := by
  intro kv h; simp at h; subst h
  exact ⟨⟨by decide, by decide, by decide, by decide, by decide⟩, rfl, rfl⟩

example : isListItemReference atBefore0 = true ∧ NoSlash atBefore0 := by decide

-- `compile_plain` applies to the directive-free document `b.custom`
example : compileDocCore Ex.docs 1 Ex.kBc
    = { loaded := true, mem := .map [([121], .scalar [50])], saved := some (.map [([121], .scalar [50])]), fl := {} } :=
  compile_plain Ex.docs 0 Ex.kBc _ rfl (by decide +kernel) (by decide +kernel) (Or.inl (by decide +kernel))

-- the hypothesis of `include_is_copy_then_override` is met: `b.custom:/` resolves to that document's root
example : (resolveRef Ex.docs (compile Ex.docs 1) [] (createReference Ex.kA (Ex.kBc ++ [58, 47]))).val
    = some (.map [([121], .scalar [50])]) := by rfl

-- the whole reference on the two-document set: `x` = copy of `b.custom`'s root with `z` merged over it
example : ((compileDoc Ex.docs 10 5 Ex.kA).mem.beq
    (.map [([107], .scalar [118]), ([120], .map [([121], .scalar [50]), ([122], .scalar [49])])])) = true := by decide +kernel

-- `compile_pure`: `b.custom` is reachable from `a`, an unrelated name is not
example : Ex.kBc ∈ closure Ex.docs 10 [Ex.kA] [] ∧ ([99] : Str) ∉ closure Ex.docs 10 [Ex.kA] [] := by decide +kernel

-- a cyclic dependency map terminates with `false` (circular dependency detected)
example : resolveAbs Ex.cyc (fun c n => decide (n ∈ c)) 3 [] 0 = some false := by decide

end C14
