import RimeModel.C20.Model
import RimeModel.C20.Lemmas
import RimeModel.C20.Shapes
import RimeModel.Gen.CopySites
/-!
C20 — strings copied into caller buffers are bounded and terminated.
Property theorems only.  `Gen.copySites` is regenerated from /repo on every run
(/verif/gen/c20_sites.py); `Ok` (the contract) is defined in RimeModel/C20/Shapes.lean.
-/
namespace C20
open RimeModel.C20

/-- every safe shape meets the contract, for every source, buffer image and size ≥ 1 -/
theorem safeShape_ok (s : Site) (hs : s.safeShape = true)
    (src : Bytes) (hsrc : ∀ x ∈ src, x ≠ 0) (buf : Bytes) (n : Nat) (h1 : 1 ≤ n) (hn : n ≤ buf.length) :
    Ok src buf n (s.run src n buf) := by
  obtain ⟨m, rfl⟩ : ∃ m, n = m + 1 := ⟨n - 1, by omega⟩
  obtain ⟨fn, stmts⟩ := s
  dsimp only [Site.safeShape] at hs
  split at hs
  next a g =>
    have ha : a ≤ 1 := of_decide_eq_true hs
    exact strncpy_set_ok hsrc hn (c := m + 1 - a) (by omega) (by omega)
  next => exact snprintf_image_ok hsrc hn
  next => cases hs

/-- GENERATED-FACT obligation: every copy site found in the working tree has a safe shape -/
theorem all_sites_safe : ∀ s ∈ Gen.copySites, s.safeShape = true := by
  decide

/-- the property, for every site of the current source, every string, buffer image and size ≥ 1 -/
theorem site_ok (s : Site) (hs : s ∈ Gen.copySites)
    (src : Bytes) (hsrc : ∀ x ∈ src, x ≠ 0) (buf : Bytes) (n : Nat) (h1 : 1 ≤ n) (hn : n ≤ buf.length) :
    Ok src buf n (s.run src n buf) :=
  safeShape_ok s (all_sites_safe s hs) src hsrc buf n h1 hn

/-- non-vacuity: the hypotheses are met by a concrete truncating call (|src| = 4 > n = 3) -/
example : Ok [108, 117, 110, 97] [170, 170, 170, 170, 170] 3
    (Site.run ⟨"x", [.strncpy 0, .setNul 1 true]⟩ [108, 117, 110, 97] 3 [170, 170, 170, 170, 170]) :=
  safeShape_ok _ (by decide) _ (by decide) _ 3 (by decide) (by decide)

/-- the bare `strncpy(dst, src, n)` shape violates the contract: witness |src| = 4, n = 3 leaves
`l u n` followed by the old bytes — no NUL within n -/
theorem bare_strncpy_counterexample :
    ¬ Ok [108, 117, 110, 97] [170, 170, 170, 170, 170] 3
        (Site.run ⟨"bare", [.strncpy 0]⟩ [108, 117, 110, 97] 3 [170, 170, 170, 170, 170]) := by
  intro ⟨⟨i, hi, h0⟩, _⟩
  have hb : ∀ i < 3, (Site.run ⟨"bare", [.strncpy 0]⟩ [108, 117, 110, 97] 3
      [170, 170, 170, 170, 170])[i]? ≠ some 0 := by decide
  exact hb i hi h0

end C20
