import RimeModel.Session.WellFormed
import RimeModel.Session.Recompose
import RimeModel.Session.RecogPattern
import RimeModel.Session.Shape
import RimeModel.Session.Utf8
/-!
C02 — the context reported after any call is well-formed.  Property theorems only.

Model: RimeModel/Session/* (Context, Composition, Segmentation, engine glue, Speller, Selector,
Navigator, Editor with GENERATED default keymaps, Punctuator, KeyBinder, AsciiComposer, Recognizer and the
shape post-processor, API layer, `view` = RimeGetContext + get_input + get_caret_pos + is_composing).
`View.WellFormed` (RimeModel/Session/WellFormed.lean) is the property.
-/
namespace C02
open RimeModel.Session

/-- a fresh session: nothing typed, no composition; options are whatever the schema's components set -/
def Fresh (c : Ctx) : Prop := c.input = [] ∧ c.caret = 0 ∧ c.comp.segs = [] ∧ c.comp.input = []

/-- **C02, generic form.**  For every schema environment whose recomposition function never leaves a
dangling selected index (`ComposeSpec`), every finite sequence of API calls (keys with arbitrary
keycode/mask, select / highlight / delete by arbitrary global or on-page index, paging, set_input,
set_caret_pos, set_option, commit, clear, get_commit) from a fresh session leaves a well-formed view:
caret within the input; 0 ≤ sel_start ≤ sel_end ≤ |preedit|, cursor ≤ |preedit|; not composing ⇒ no
input, preedit or menu; a reported menu is non-empty with highlighted < #candidates ≤ page size. -/
theorem wellformed_reachable (env : Env) (hps : 0 < env.pageSize) (hrc : ComposeSpec env.recompose)
    (c0 : Ctx) (h0 : Fresh c0) (ops : List Op) :
    (view env (runOps env c0 ops)).WellFormed :=
  view_wf hps (runOps_inv hrc ops (Inv.of_fresh h0))

/-- **C02 for the modelled engine.**  The hypothesis `ComposeSpec` is discharged for the concrete port of
`ConcreteEngine::Compose` (abc + fallback segmentors) with *any* translation oracle and alphabets. -/
theorem wellformed_reachable_concrete (env : Env) (hps : 0 < env.pageSize) (cfg : SegCfg)
    (henv : env.recompose = compose cfg) (c0 : Ctx) (h0 : Fresh c0) (ops : List Op) :
    (view env (runOps env c0 ops)).WellFormed :=
  wellformed_reachable env hps (by rw [henv]; exact compose_spec cfg) c0 h0 ops

/-- **C02 with the `full_shape` option in play.**  A schema is a pair of environments (half / full shape: the punctuation
components re-read the option before every use, the shape formatter and the shape post-processor act only when it is on);
every call runs in the environment of the value the option has once the call has stored its own change
(`runOpsS`, Session/Shape.lean).  If both recomposition functions satisfy `ComposeSpec`, every finite API history from a
fresh session leaves a well-formed view — whatever the processor list (speller, punctuator, selector, navigator, editors)
and whatever the punctuation definitions. -/
theorem wellformed_reachable_shaped (envOf : Bool → Env) (hps : ∀ b, 0 < (envOf b).pageSize)
    (hrc : ∀ b, ComposeSpec (envOf b).recompose) (c0 : Ctx) (h0 : Fresh c0) (ops : List Op) (b : Bool) :
    (view (envOf b) (runOpsS envOf c0 ops)).WellFormed :=
  view_wf (hps b) (runOpsS_inv hrc ops (Inv.of_fresh h0))

/-- **C02 for schemas with the punctuation components.**  `ComposeSpec` is discharged for the port of
`ConcreteEngine::Compose` with abc_segmentor, punct_segmentor, fallback_segmentor, punct_translator + any translation
oracle and any filter (`composeP`), for any punctuation mapping in either shape. -/
theorem wellformed_reachable_punct (envOf : Bool → Env) (hps : ∀ b, 0 < (envOf b).pageSize) (cfg : Bool → PSegCfg)
    (henv : ∀ b, (envOf b).recompose = composeP (cfg b)) (c0 : Ctx) (h0 : Fresh c0) (ops : List Op) (b : Bool) :
    (view (envOf b) (runOpsS envOf c0 ops)).WellFormed :=
  wellformed_reachable_shaped envOf hps (fun b => by rw [henv b]; exact composeP_spec (cfg b)) c0 h0 ops b

/-- non-vacuity: the punctuator at work — `/` is a list of three alternatives, pressed twice: the second press moves
the highlight to the second alternative of the same one-key segment; `,` then confirms and commits both -/
example :
    let m : List (UInt8 × PunctDef) := [(47, .alt [[0xe3, 0x80, 0x81], [47], [0xc3, 0xb7]]), (44, .commit [0xef, 0xbc, 0x8c])]
    let cfg : PSegCfg := { alphabet := [97], initials := [97], finals := [], delimiters := [], translate := fun _ _ => [], punct := m }
    let env : Env := { pageSize := 5, alphabet := [97], initials := [97], processors := [.speller, .punctuator, .selector, .expressEditor],
                       punct := { half := m }, recompose := composeP cfg }
    let c := runOpsS (fun _ => env) { options := [("_auto_commit", true)] } [.key 47 0, .key 47 0]
    let v := view env c
    v.composing = true ∧ v.preview = [47] ∧ (v.menu.map (·.highlighted)) = some 1 ∧ (v.menu.map (·.cands.length)) = some 3 ∧
    (runOpsS (fun _ => env) c [.key 44 0]).commitBuf = [47, 0xef, 0xbc, 0x8c] := by
  decide +kernel

/-- **C02 for schemas with a key binder.**  `key_binder` is a processor of the model (`Proc.keyBinder`: binding lookup on the
exact keycode + modifier pair, the bindings of a key sorted by condition with a later one of the same condition first,
conditions always / composing / has_menu (off in ascii_mode) / paging, ReinterpretPagingKey with `last_key_`, the actions
send / send_sequence / toggle / set_option / unset_option with the radio groups of `switches:`).  A redirected key goes
through `ConcreteEngine::ProcessKey` again (processors and post-processor) with the binder disabled.  A binding may change
`full_shape` itself, so each call runs in the environment of the value the option has after the binder's decision
(`runOpsK`, Session/Shape.lean).  If both recomposition functions satisfy `ComposeSpec`, every finite API history from a
fresh session leaves a well-formed view — whatever the binding list, the switches and the processor list. -/
theorem wellformed_reachable_keybinder (envOf : Bool → Env) (hps : ∀ b, 0 < (envOf b).pageSize)
    (hrc : ∀ b, ComposeSpec (envOf b).recompose) (c0 : Ctx) (h0 : Fresh c0) (ops : List Op) (b : Bool) :
    (view (envOf b) (runOpsK envOf c0 ops)).WellFormed :=
  view_wf (hps b) (runOpsK_inv hrc ops (Inv.of_fresh h0))

/-- **the same with the hypothesis discharged** for the Compose with the punctuation components (`composeP`: any mapping, any
translation oracle, any filter) — the configuration of the synthetic schema `vs_kb`; with an empty mapping it is the
Compose of a schema without punctuator (`vs_kbf`). -/
theorem wellformed_reachable_keybinder_punct (envOf : Bool → Env) (hps : ∀ b, 0 < (envOf b).pageSize) (cfg : Bool → PSegCfg)
    (henv : ∀ b, (envOf b).recompose = composeP (cfg b)) (c0 : Ctx) (h0 : Fresh c0) (ops : List Op) (b : Bool) :
    (view (envOf b) (runOpsK envOf c0 ops)).WellFormed :=
  wellformed_reachable_keybinder envOf hps (fun b => by rw [henv b]; exact composeP_spec (cfg b)) c0 h0 ops b

/-- **C02 for schemas with an ascii composer, for every timing.**  `ascii_composer` is a processor of the model
(`Proc.asciiComposer`: the switch keys Shift_L / Shift_R / Control_L / Control_R / Eisu_toggle / Caps_Lock with the styles
inline_ascii, commit_text, commit_code, clear; the press / release logic with `shift_key_pressed_`, `ctrl_key_pressed_`,
`toggle_with_caps_` and the 500 ms deadline; good_old_caps_lock; letters typed while Caps Lock is on; inline editing and
direct commit in ascii_mode; the temporary inline mode that ends with the composition).  The clock the deadline is measured
on is a parameter: a timed history says how many milliseconds pass before each call.  For EVERY such history from a fresh
session — any delays, any switch-key configuration, with or without a key binder behind the ascii composer — the view is
well-formed. -/
theorem wellformed_reachable_timed (envOf : Bool → Env) (hps : ∀ b, 0 < (envOf b).pageSize)
    (hrc : ∀ b, ComposeSpec (envOf b).recompose) (c0 : Ctx) (h0 : Fresh c0) (ops : List (Nat × Op)) (b : Bool) :
    (view (envOf b) (runOpsT envOf c0 ops)).WellFormed :=
  view_wf (hps b) (runOpsT_inv hrc ops (Inv.of_fresh h0))

/-- non-vacuity: Shift_L is `inline_ascii`.  `a`, then Shift_L tapped within the deadline: ascii_mode goes on and `1` is
added to the composition instead of selecting; Return (fluid editor: commit_composition) commits `A1` and the temporary mode
ends with the composition.  The same tap released 600 ms after the press changes nothing: `1` selects the first candidate. -/
example :
    let cfg : PSegCfg := { alphabet := [97], initials := [97], finals := [], delimiters := [],
                           translate := fun _ g => if g.tags.abc then [Cand.mk [65] [] [] g.start g.stop true] else [] }
    let env : Env := { pageSize := 5, alphabet := [97], initials := [97],
                       processors := [.asciiComposer, .speller, .selector, .navigator, .fluidEditor],
                       asciiKeys := [(xkShiftL, .inline)], recompose := composeP cfg }
    let tap (ms : Nat) : List (Nat × Op) := [(0, .key 97 0), (0, .key xkShiftL 0), (ms, .key xkShiftL (kRelease + kShift)), (0, .key 49 0)]
    let c1 := runOpsT (fun _ => env) {} (tap 100)
    let c2 := runOpsT (fun _ => env) c1 [(0, .key 0xff0d 0)]
    let c3 := runOpsT (fun _ => env) {} (tap 600)
    c1.input = [97, 49] ∧ c1.getOption "ascii_mode" = true ∧ c1.acInline = true ∧
    c2.commitBuf = [65, 49] ∧ c2.isComposing = false ∧ c2.getOption "ascii_mode" = false ∧ c2.acInline = false ∧
    c3.input = [97] ∧ c3.getOption "ascii_mode" = false ∧ (c3.comp.segs.map (·.status)) = [.confirmed, .void] := by
  decide +kernel

/-- **C02 for schemas with the recognizer family.**  `recognizer` is a processor of the model (`Proc.recognizer`:
RecognizerPatterns::GetMatch on the input plus the incoming character against the current segmentation, PushInput and
kAccepted on a match) and `matcher`, `affix_segmentor@…` (prefix / suffix / tips / closing tips / extra tags; the prefix and
suffix segments it splits off are born `kGuess` with a prompt and never carry a menu), `ascii_segmentor` (reads
`ascii_mode` in the middle of a recomposition) are segmentors of the recomposition `composeR`, in any order and number
beside abc / punct / fallback.  The regular expressions are NOT modelled: a pattern is an arbitrary search function
(`RecPattern.search`), so the statement covers every regular expression Boost could be given.  For every such schema —
any patterns, affix configurations, segmentor order, punctuation mapping, translation oracle and filter, with or without
ascii composer and key binder — and every timed API history from a fresh session, the view is well-formed. -/
theorem wellformed_reachable_recognizer (envOf : Bool → Env) (hps : ∀ b, 0 < (envOf b).pageSize) (cfg : Bool → RSegCfg)
    (henv : ∀ b, (envOf b).recompose = composeR (cfg b)) (c0 : Ctx) (h0 : Fresh c0) (ops : List (Nat × Op)) (b : Bool) :
    (view (envOf b) (runOpsT envOf c0 ops)).WellFormed :=
  wellformed_reachable_timed envOf hps (fun b => by rw [henv b]; exact composeR_spec (cfg b)) c0 h0 ops b

/-- non-vacuity: luna_pinyin's reverse-lookup set-up.  Pattern "`[a-c]*'?$" (tag `rev`), an affix segmentor on that tag with
prefix "`", suffix "'" and tips.  The keys "`", `a`, `'` all go through the recognizer (the speller never sees them); the
composition becomes prefix [0,1) / code [1,2) / suffix [2,3): the outer two are `phony` guesses without a menu carrying the
prompt, the code segment is translated by the `rev` translator, and the commit preview is the candidate alone.  With
`ascii_mode` switched on the same input is one raw segment (ascii_segmentor). -/
example :
    let rev : Pattern := { anchoredStart := false, anchoredEnd := true,
                           items := [⟨[(96, 96)], .one⟩, ⟨[(97, 99)], .star⟩, ⟨[(39, 39)], .opt⟩] }
    let pats : List RecPattern := [⟨"rev", rev.search⟩]
    let a : AffixCfg := { tag := "rev", prefix_ := [96], suffix := [39], tips := [84], closingTips := [90] }
    let cfg : RSegCfg := { alphabet := [97, 98, 99], initials := [97, 98, 99], finals := [], delimiters := [39],
                           translate := fun _ g => if g.tags.has "rev" then [Cand.mk [65] [] [] g.start g.stop true] else [],
                           patterns := pats, segmentors := [.ascii, .matcher, .abc, .affix a, .fallback] }
    let env : Env := { pageSize := 5, alphabet := [97, 98, 99], initials := [97, 98, 99], delimiters := [39],
                       processors := [.recognizer, .speller, .selector, .expressEditor], recPatterns := pats,
                       recompose := composeR cfg }
    let c := runOpsT (fun _ => env) {} [(0, .key 96 0), (0, .key 97 0), (0, .key 39 0)]
    let c2 := runOpsT (fun _ => env) c [(0, .setOption "ascii_mode" true)]
    c.input = [96, 97, 39] ∧
    c.comp.segs.map (fun g => (g.start, g.stop, g.status, g.tags.phony, g.menu.isSome)) =
      [(0, 1, .guess, true, false), (1, 2, .guess, false, true), (2, 3, .guess, true, false)] ∧
    (view env c).preview = [65] ∧ c.comp.prompt = [90] ∧
    c2.comp.segs.map (fun g => (g.start, g.stop, g.tags.raw)) = [(0, 3, true)] := by
  decide +kernel

/-- **why the re-entrant ProcessKey needs no fuel.**  `KeyBinder::redirecting_` is set exactly around the loop of
PerformKeyBinding and makes ProcessKeyEvent return kNoop before it looks at anything: the chain a redirected key runs
through is the schema's chain with the key binder taken out — a target that is itself bound is not redirected again, and
the nesting is one level deep whatever the bindings. -/
theorem keybinder_nested_chain (env : Env) (k : Key) (ps : List Proc) (c : Ctx) :
    chainInner env k ps c = chain env k (ps.filter (· != .keyBinder)) c := by
  induction ps generalizing c with
  | nil => rfl
  | cons p ps ih =>
    by_cases hp : p = .keyBinder
    · -- inside a redirection the key binder passes the key on
      subst hp
      exact ih c
    · have e : procRunInner env p k c = procRun env p k c := by
        cases p with
        | keyBinder => exact absurd rfl hp
        | _ => rfl
      rw [List.filter_cons_of_pos (by simpa using hp), chainInner, chain, e]
      simp only [ih]

/-- a key without bindings, pressed when the last key was not a period, passes the key binder unchanged except for
`last_key_` (which becomes the key's code if it has no modifier, 0 if it has — and 0 for a period after a comma) -/
theorem keybinder_unbound_noop (env : Env) (reent : Key → Ctx → Ctx × Bool) (k : Key) (c : Ctx)
    (hk : kbBindingsFor env.bindings k = []) (hlast : c.kbLastKey ≠ 46) (hrel : k.release = false) :
    kbProcess reent env k c =
      (if env.bindings = [] then c else { c with kbLastKey := if kbCh k = 46 ∧ c.kbLastKey = 44 then 0 else kbCh k }, .noop) := by
  unfold kbProcess
  by_cases hb : env.bindings = []
  · simp [hb]
  · have hl' : (decide (c.kbLastKey = 46)) = false := decide_eq_false hlast
    simp only [hb, if_false, kbReinterpret, hrel, Bool.false_eq_true, hl', Bool.false_or, Bool.false_and, kbFind, hk,
      List.find?_nil]
    by_cases h44 : c.kbLastKey = 44 <;> by_cases hch : kbCh k = 46 <;> simp [h44, hch]

/-- non-vacuity: the key binder at work (bindings of the stock configuration).  `a` opens a menu of 7 candidates, the period
pages down (has_menu → Page_Down through the nested chain: the selector tags the segment `paging`), the comma now pages
back (paging → Page_Up), Control+n moves the highlight (composing → Down); then `a`, period, `b`: the letter after the
period puts the period into the input after all (ReinterpretPagingKey) — input `a.b` -/
example :
    let cands : List Cand := (List.range 7).map (fun i => Cand.mk [65 + UInt8.ofNat i] [] [] 0 1 true)
    let cfg : PSegCfg := { alphabet := [97, 98], initials := [97, 98], finals := [], delimiters := [],
                           translate := fun inp g => if g.tags.abc && inp = [97] then cands else [] }
    let env : Env := { pageSize := 3, alphabet := [97, 98], initials := [97, 98],
                       processors := [.keyBinder, .speller, .selector, .navigator, .expressEditor],
                       bindings := [⟨.hasMenu, 46, 0, .send [(0xff56, 0)]⟩, ⟨.paging, 44, 0, .send [(0xff55, 0)]⟩,
                                    ⟨.composing, 110, 4, .send [(0xff54, 0)]⟩],
                       recompose := composeP cfg }
    let c1 := runOpsK (fun _ => env) {} [.key 97 0, .key 46 0]
    let c2 := runOpsK (fun _ => env) c1 [.key 44 0, .key 110 4]
    (view env c1).menu.map (fun m => (m.pageNo, m.highlighted)) = some (1, 0) ∧
    (view env c2).menu.map (fun m => (m.pageNo, m.highlighted)) = some (0, 1) ∧
    (runOpsK (fun _ => env) {} [.key 97 0, .key 46 0, .key 98 0]).input = [97, 46, 98] ∧
    (runOpsK (fun _ => env) {} [.key 44 0]).isComposing = false := by
  decide +kernel

/-- the page number reported is the one containing the highlighted candidate, and the highlighted
entry of the page is the selected candidate of the last segment -/
theorem page_contains_highlight (env : Env) (hps : 0 < env.pageSize) (c : Ctx) (m : MenuView)
    (hm : (view env c).menu = some m) :
    ∃ g, c.comp.segs.getLast? = some g ∧ m.pageNo * m.pageSize + m.highlighted = g.selIdx ∧
      m.cands[m.highlighted]? = g.selected :=
  view_menu_highlight hps hm

/-- the numeric preedit clauses hold for *every* composition (they are a property of how GetPreedit
builds its result, independent of the invariant) -/
theorem preedit_numeric (c : Comp) (full : Bytes) (caret : Nat) (soft : Bytes) :
    (c.getPreedit full caret soft).WF :=
  getPreedit_wf c full caret soft

/-- **UTF-8 clause**: sel_start, sel_end and the cursor of the reported preedit are character boundaries of the
preedit text — for EVERY composition (not only reachable ones) whose own input and raw input are ASCII (all the
key path can produce), whose selected candidates' text / preedit / post-TAB prompt each start a character
(true of valid UTF-8), and whose soft cursor + prompt starts a character -/
theorem preedit_utf8_boundaries (c : Comp) (full : Bytes) (caret : Nat) (soft : Bytes)
    (hci : ∀ b ∈ c.input, b.toNat < 0x80) (hfull : ∀ b ∈ full, b.toNat < 0x80)
    (hcand : ∀ g ∈ c.segs, ∀ cd, g.selected = some cd → CandOK cd)
    (hprompt : PieceOK (soft ++ c.prompt)) :
    let p := c.getPreedit full caret soft
    Bnd p.text p.selStart ∧ Bnd p.text p.selEnd ∧ Bnd p.text p.caretPos :=
  getPreedit_boundaries c full caret soft hci hfull hcand hprompt

/-- non-vacuity of the UTF-8 clause: a converted 3-byte character followed by the highlighted raw rest -/
example :
    let g1 : Seg := { status := .selected, start := 0, stop := 1, length := 1, menu := some [Cand.mk [0xe6, 0x97, 0xa5] [] [] 0 1 true] }
    let g2 : Seg := { status := .guess, start := 1, stop := 2, length := 1, menu := some [] }
    let p := ({ input := [97, 98], segs := [g1, g2] } : Comp).getPreedit [97, 98] 2 []
    p.text = [0xe6, 0x97, 0xa5, 98] ∧ p.selStart = 3 ∧ p.selEnd = 4 ∧ p.caretPos = 4 := by decide

/-- non-vacuity: a concrete two-candidate state reached by typing `a` is composing and shows a menu -/
example :
    let tr : Bytes → Seg → List Cand := fun _ g => [Cand.mk [65] [] [] g.start g.stop true, Cand.mk [66] [] [] g.start g.stop true]
    let cfg : SegCfg := { alphabet := [97], initials := [97], finals := [], delimiters := [], translate := tr }
    let env : Env := { pageSize := 5, alphabet := [97], initials := [97], processors := [.speller], recompose := compose cfg }
    let v := view env (runOps env {} [.key 97 0, .highlight 1])
    v.composing = true ∧ (v.menu.map (·.highlighted)) = some 1 := by
  decide +kernel

/-- the defect repaired in /repo (fix: reject delete_candidate for an index with no candidate): with the
old `DeleteCandidate` (store any index) the invariant fails — witness: one candidate, delete index 7 -/
theorem old_deleteCandidate_counterexample :
    let g : Seg := { menu := some [{ text := [65], start := 0, stop := 1 }], stop := 1, length := 1, status := .guess }
    ¬ SelOK { g with selIdx := 7 } := by
  intro g h
  have := h [{ text := [65], start := 0, stop := 1 }] rfl (by simp)
  simp at this

end C02
