import RimeModel.C15.Lemmas
import RimeModel.C15.Old
import RimeModel.Gen.SessionApi
/-!
# C15 — maintenance excludes sessions and loses no task under any interleaving

Theorems about the two-thread transition system `RimeModel.C15` (`Model.lean`: `Deployer::Run`,
`FinishWork`, `StartWork`, `ScheduleTask`, `NextTask`, `IsWorking`, `IsMaintenanceMode`,
`Service::disabled/CreateSession/GetSession/Notify` and the API calls that drive them, cut at the
`RIME_VERIF_YIELD` points).  `Reach (init script) s` is the reflexive-transitive closure of `step`
over ANY choice of thread at every step: all schedules, no preemption bound, any client script.

Data-race freedom is not a statement about this model (every modelled segment is atomic by
construction); it is exhibited at run time by ThreadSanitizer (see checks/C15.py).
-/
namespace C15
open RimeModel.C15

/-- **E (exclusion), local form.**  In any state in which a worker is running with the
maintenance flag set, a session operation issued by the client (`RimeCreateSession`,
`RimeFindSession`, `RimeGetContext` — everything that goes through `Service::CreateSession` /
`GetSession`) is refused: it reports 0 and changes no session. -/
theorem excl (s : State) (hw : s.working = true) (hf : s.flag = true) (k : OpKind) :
    sessionOp s k = (s.sessions, 0) := by
  simp [sessionOp, State.disabled, State.maintMode, hw, hf]

/-- **E, as a step of the transition system.**  From a reachable state with a running
maintenance worker, the client's next call being a session operation, the call returns 0
("refused") and the set of sessions is unchanged. -/
theorem excl_step {script : List Op} {s s' : State} (_h : Reach (init script) s)
    (hw : s.working = true) (hf : s.flag = true) (hb : s.cpc = .boundary)
    {op : Op} {rest : List Op} (hs : s.script = op :: rest)
    (hop : op = .create ∨ op = .find ∨ op = .ctx) (hstep : step s .client = some s') :
    s'.sessions = s.sessions ∧ s'.live = s.live ∧ ∃ k, s'.log = s.log ++ [.ret k 0] := by
  have hd := excl { s with script := rest } hw hf
  have hb' : beginOp s op rest = some s' := by simpa only [step, clientStep, hb, hs] using hstep
  rcases hop with rfl | rfl | rfl
  · obtain rfl := Option.some.inj hb'
    exact refused_call (hd .create)
  · obtain rfl := Option.some.inj hb'
    exact refused_call (hd .find)
  · obtain rfl := Option.some.inj hb'
    exact refused_call (hd .ctx)

/-- **E for maintenance scripts.**  When the client only uses the API's maintenance calls (no
`StartWork(false)` recovery path), the maintenance flag is set whenever a worker is running — at
every position of `Run()`, in particular while any scheduled task executes — so every session
operation is refused for as long as the work thread has not finished. -/
theorem excl_while_worker_runs {script : List Op} (hm : MaintOnly script) {s : State}
    (h : Reach (init script) s) (hw : s.working = true) (k : OpKind) :
    s.maintMode = true ∧ sessionOp s k = (s.sessions, 0) := by
  have hf : s.flag = true := (invM_reach hm h).2.1 hw
  exact ⟨by simp [State.maintMode, hw, hf], excl s hw hf k⟩

/-- **E for ANY script, by the mode the work thread was launched with.**  From the launch of a work
thread by a maintenance call (`StartMaintenance()`: start_maintenance, sync_user_data) until that
thread's successful last queue check (`FinishWork()`), whatever the client calls in between —
including `Deployer::StartWork(false)` of the user-dictionary recovery — `maintenance_mode_` stays
true, `is_maintenance_mode` answers true and every session operation is refused: `StartWork` stores
its mode only when `working_` is false, and `working_` is true for exactly that stretch. -/
theorem excl_maintenance_thread {script : List Op} {s : State} (h : Reach (init script) s)
    (hs : s.settled = false) (hm : s.wmode = true) (k : OpKind) :
    s.flag = true ∧ s.maintMode = true ∧ sessionOp s k = (s.sessions, 0) := by
  have hf : s.flag = true := ((inv_reach h).f hs).trans hm
  have hw : s.working = true := by
    cases hw : s.working with
    | true => rfl
    | false => exact hs.symm.trans (Worker.settled_of_not_working hw)
  exact ⟨hf, by simp [State.maintMode, hw, hf], excl s hw hf k⟩

/-- **`sync_user_data` drops the sessions before it hands anything to the deployer**: its first
segment clears `sessions_`; the `ScheduleTask`s and the launch of the maintenance thread come
after, so the maintenance call itself never operates on sessions once its thread runs. -/
theorem sync_drops_sessions_first {s s' : State} (hb : s.cpc = .boundary) {os : List Bool} {rest : List Op}
    (hs : s.script = .sync os :: rest) (hstep : step s .client = some s') :
    s'.sessions = [] ∧ s'.worker = s.worker ∧ s'.queue = s.queue := by
  simp [step, clientStep, hb, hs, beginOp] at hstep
  subst hstep; simp

/-- **E, second half: the service accepts sessions again once the worker has finished.**  With no
worker running (future ready or joined), whatever the flag, in a started service (`started_`, cleared by
`RimeFinalize` and set by `RimeInitialize`; see `accepts_after_finish_reach` for the form without that
hypothesis) `create_session` yields a session and `find_session` / `get_context` succeed iff a session
exists. -/
theorem accepts_after_finish (s : State) (hst : s.started = true) (hw : s.working = false) :
    sessionOp s .create = (0 :: s.sessions, 1) ∧
    (sessionOp s .find).1.length = s.live ∧ (sessionOp s .find).2 = (if s.live = 0 then 0 else 1) ∧
    s.maintMode = false := by
  cases hs : s.sessions <;> simp [sessionOp, State.disabled, State.maintMode, State.live, hw, hst, hs]

/-- **The service stays started unless it is finalized.**  In every state reachable by a script
without `RimeFinalize`, `started_` is true. -/
theorem started_unless_finalized {script : List Op} (hn : NoFinalize script) {s : State}
    (h : Reach (init script) s) : s.started = true := started_reach hn h

/-- **E, second half, over all schedules** (any script that never finalizes — in particular every
script over the calls of the property's quantifier): in every reachable state without a running
worker sessions are accepted. -/
theorem accepts_after_finish_reach {script : List Op} (hn : NoFinalize script) {s : State}
    (h : Reach (init script) s) (hw : s.working = false) :
    sessionOp s .create = (0 :: s.sessions, 1) ∧
    (sessionOp s .find).1.length = s.live ∧ (sessionOp s .find).2 = (if s.live = 0 then 0 else 1) ∧
    s.maintMode = false :=
  accepts_after_finish s (started_unless_finalized hn h) hw

/-- **A stopped service refuses every session operation** (between `RimeFinalize` and the next
`RimeInitialize`), and `RimeInitialize` alone makes it accept again when no maintenance runs. -/
theorem refused_while_stopped (s : State) (hst : s.started = false) (k : OpKind) :
    sessionOp s k = (s.sessions, 0) := by
  simp [sessionOp, State.disabled, hst]

/-- **`RimeFinalize` never returns while a work thread is running**: its step is enabled only when no
worker is running, and afterwards there is no worker, no session, and the service is stopped. -/
theorem finalize_waits {s s' : State} (hb : s.cpc = .boundary) {rest : List Op}
    (hs : s.script = .finalize :: rest) (hstep : step s .client = some s') :
    s.working = false ∧ s'.worker = .idle ∧ s'.live = 0 ∧ s'.started = false := by
  cases hw : s.working with
  | true =>
    have hw' : s.worker.working = true := hw
    simp [step, clientStep, hb, hs, beginOp, State.working, hw'] at hstep
  | false =>
    have hw' : s.worker.working = false := hw
    simp [step, clientStep, hb, hs, beginOp, State.finishOp, State.working, hw'] at hstep
    subst hstep; simp [State.live]

/-- **Tasks run synchronously through `Deployer::RunTask`** (`RimeRunTask`, `RimeDeployWorkspace`,
`RimeDeploySchema`, `RimeDeployConfigFile`, `RimePrebuildAllSchemas`) never touch the queue, the worker,
the flags or the sessions: the call only reports the conjunction of the task results. -/
theorem run_sync_leaves_queue {s s' : State} (hb : s.cpc = .boundary) {k : OpKind} {os : List Bool}
    {rest : List Op} (hs : s.script = .runSync k os :: rest) (hstep : step s .client = some s') :
    s'.queue = s.queue ∧ s'.worker = s.worker ∧ s'.flag = s.flag ∧ s'.wflag = s.wflag ∧
    s'.live = s.live ∧ s'.log = s.log ++ [.ret k (if os.all id then 1 else 0)] := by
  simp [step, clientStep, hb, hs, beginOp, State.finishOp] at hstep
  subst hstep; simp [State.live]

/-- **A refused session operation leaves no trace on the sessions**: while a maintenance worker
runs, `find_session` / `get_context` do not refresh the activity stamp of the session either, so
which sessions `RimeCleanupStaleSessions` erases after the maintenance does not depend on the
refused calls. -/
theorem refused_keeps_stale {s : State} (hw : s.working = true) (hf : s.flag = true) (k : OpKind) :
    (sessionOp s k).1.filter (fun age => age ≤ lifeSpan) = s.sessions.filter (fun age => age ≤ lifeSpan) := by
  rw [excl s hw hf k]

/-- **T, first half: no task runs twice, tasks run in the order they were scheduled.**  In every
reachable state the scheduled tasks are exactly: those that ran (in order), then the one being
run, then the queue; task ids are distinct, so the execution log has no duplicates. -/
theorem no_task_twice {script : List Op} {s : State} (h : Reach (init script) s) :
    s.scheduled = s.ran ++ s.inflight ++ s.queue ∧ (s.ran.map (·.id)).Nodup ∧ s.ran.Nodup := by
  obtain ⟨h1, h2⟩ := (inv_reach h).q
  have hnd : (s.scheduled.map (·.id)).Nodup := by rw [h2]; exact List.nodup_range
  have hr : (s.ran.map (·.id)).Nodup := by
    rw [h1, List.map_append, List.map_append] at hnd
    exact (List.nodup_append.1 (List.nodup_append.1 hnd).1).1
  exact ⟨h1, hr, List.Pairwise.of_map (·.id) (fun a b hab e => hab (by rw [e])) hr⟩

/-- **T for arbitrary scripts (including the `StartWork(false)` recovery path).**  Whenever the
client is between two calls and no worker is running, everything scheduled has run. -/
theorem no_lost_task_idle {script : List Op} {s : State}
    (h : Reach (init script) s) (hb : s.atBoundary = true) (hnw : s.working = false) :
    s.queue = [] ∧ s.scheduled = s.ran := by
  have hb' : s.cpc = .boundary := by simpa [State.atBoundary] using hb
  obtain ⟨⟨h1, _⟩, _, hw, hl, _⟩ := inv_reach h
  have hset : s.settled = true := Worker.settled_of_not_working hnw
  have hwf : s.wflag = false := by simpa [InvW, hb', CPc.isLaunch, hset] using hw
  have hq : s.queue = [] := hl hb' hwf
  have hin : s.inflight = [] := Worker.inflight_of_settled hset
  exact ⟨hq, by rw [h1, hq, hin]; simp⟩

/-- **T at full strength (API maintenance calls, any script, any schedule).**  Whenever the client
is between two calls and `is_maintenance_mode` would return false, every task ever handed to
`ScheduleTask` has been run (exactly once, by `no_task_twice`) and the queue is empty: no task is
left behind when the service reports that maintenance is over. -/
theorem no_lost_task {script : List Op} (hm : MaintOnly script) {s : State}
    (h : Reach (init script) s) (hb : s.atBoundary = true) (hover : s.maintenanceOver = true) :
    s.queue = [] ∧ s.scheduled = s.ran ∧ s.lostTask = false := by
  have hnw : s.working = false := by
    cases hwk : s.working with
    | false => rfl
    | true =>
      have := (invM_reach hm h).2.1 hwk
      simp [State.maintenanceOver, State.maintMode, hwk, this] at hover
  obtain ⟨hq, hsr⟩ := no_lost_task_idle h hb hnw
  exact ⟨hq, hsr, by simp [State.lostTask, hsr]⟩

/-- **N (notification grammar) for the notifications SENT** (`Service::Notify(0, "deploy", ·)` calls of
the work threads, whether or not a handler is installed at that moment; any script).  In every
reachable state the sequence is a prefix of a word of `(start (success|failure)+)*`, and whenever no
worker is running it IS such a word: every `start` has been followed by at least one result and
nothing follows the last result. -/
theorem sent_grammar {script : List Op} {s : State} (h : Reach (init script) s) :
    (∃ rest, Lang (s.sent ++ rest)) ∧ (s.working = false → Lang s.sent) := by
  have hg := (inv_reach h).g
  exact ⟨hg.lang_or_open.elim (fun h => ⟨[], by simpa using h⟩) Open.extends,
    fun hw => hg.lang (Worker.settled_of_not_working hw)⟩

/-- **With a handler installed throughout, every notification sent is heard**, in order. -/
theorem heard_all {script : List Op} (hk : KeepsHandler script) {s : State}
    (h : Reach (init script) s) : s.notes = s.sent := (invH_reach hk h).2

/-- **N (notification grammar) as seen by the handler.**  For every script that never removes the
handler (no `RimeSetNotificationHandler(NULL, …)`, the call `Op.clearHandler`), in every reachable state
the sequence of ("deploy", ·) notifications
the handler has received is a prefix of a word of `(start (success|failure)+)*`, and whenever no
worker is running it IS such a word. -/
theorem notes_grammar {script : List Op} (hk : KeepsHandler script) {s : State}
    (h : Reach (init script) s) :
    (∃ rest, Lang (s.notes ++ rest)) ∧ (s.working = false → Lang s.notes) := by
  rw [heard_all hk h]; exact sent_grammar h

/-- **No deadlock.**  In every state in which the client has not finished its script, some thread
can take a step: the client only ever waits (`join_maintenance_thread`, the `JoinWorkThread()`
inside `StartWork`) for a worker that is running, and a running worker can always proceed. -/
theorem no_deadlock (s : State) (hc : s.script ≠ [] ∨ s.cpc ≠ .boundary) :
    ∃ t s', step s t = some s' := by
  cases hw : s.working with
  | true => obtain ⟨s', h⟩ := worker_enabled hw; exact ⟨.worker, s', h⟩
  | false => obtain ⟨s', h⟩ := client_enabled hw hc; exact ⟨.client, s', h⟩

/-- **`StartWork` never waits for a working worker.**  When the client reaches the
`JoinWorkThread()` inside `StartWork`, the previous worker (if any) has already run its last task
and cleared `working_`: it is gone or only has to return from `Run()`. -/
theorem startwork_join_is_short {script : List Op} {s : State} (h : Reach (init script) s)
    {k : OpKind} {rk : RetKind} (hc : s.cpc = .swJoin k rk) :
    s.worker = .idle ∨ s.worker = .finished ∨ ∃ f, s.worker = .running .exit f := by
  have hs := ((inv_reach h).w.launch (congrArg CPc.isLaunch hc)).2
  unfold State.settled at hs
  rcases hw' : s.worker with _ | ⟨pc, f⟩ | _ <;> simp_all
  cases pc <;> simp_all

/-! ### "every session operation": the API surface, regenerated from src/rime_api_impl.h -/

/-- **Every API function that reaches a session goes through the guard.**  The table
`Gen.sessionApi` (regenerated from the working tree on every run by gen/c15_session_api.py) lists
every function of rime_api_impl.h with a session argument; none is `unguarded`: each obtains its
session through `Service::GetSession` / `CreateSession` — whose first statement is
`if (disabled()) return …`, the `sessionOp` of the model — or only drops sessions
(`RimeDestroySession`).  So the three session operations of the model stand for all of them. -/
theorem api_session_ops_guarded : ∀ e ∈ RimeModel.Gen.sessionApi, e.2 ≠ .unguarded := by decide

/-- the translator saw as many functions as an independent count of `RimeSessionId session_id`
parameters finds, and at least the session operations the harness drives -/
theorem api_session_count :
    RimeModel.Gen.sessionApi.length = RimeModel.Gen.sessionApiIndependentCount ∧
    3 ≤ RimeModel.Gen.sessionApi.length := by decide

/-! ### history: the defect fixed by 93b9b46, on the model of the OLD code (`Old.lean`) -/

/-- **The old code loses tasks** (negation of `no_lost_task` on the model of the code before the
fix): under `Old.oldSchedule` the three tasks of `sync_user_data` are still queued, never run, when
`is_maintenance_mode` returns false.  The same schedule produced the same trace on the real code
of 0ff38b9 through the yield hooks. -/
theorem old_no_lost_task_counterexample :
    ∃ s, Old.runStrict (Old.init Old.oldScript) Old.oldSchedule = some s ∧
      s.lostTask = true ∧ s.queue.map (·.id) = [3, 4, 5] ∧ s.ran.map (·.id) = [0, 1, 2] ∧
      s.log.getLast? = some (.ret .isMaint 0) := by
  decide

/-! ### non-vacuity -/

/-- a reachable state with a running maintenance worker and the client about to create a session -/
example : ∃ s, Reach (init [.maint [true, false, true], .create]) s ∧ s.working = true ∧ s.flag = true ∧
    s.cpc = .boundary ∧ s.script = [.create] :=
  ⟨_, reach_of_runStrict Reach.refl (l := List.replicate 7 .client ++ [.worker, .worker]) rfl,
    by decide, by decide, by decide, by decide⟩

/-- the hypotheses of `no_lost_task` are met non-trivially: the old counterexample's script and
schedule prefix, continued to the end on the new model, reaches a boundary state with maintenance
over in which six tasks were scheduled — and all six ran -/
example : ∃ s, MaintOnly Old.oldScript ∧ Reach (init Old.oldScript) s ∧ s.atBoundary = true ∧
    s.maintenanceOver = true ∧ s.scheduled.length = 6 ∧ s.ran.map (·.id) = [0, 1, 2, 3, 4, 5] :=
  ⟨(runSchedule Old.oldScript Old.oldSchedule).1, by unfold MaintOnly; decide,
    reach_of_runStrict Reach.refl (l := (runSchedule Old.oldScript Old.oldSchedule).2) (by decide),
    by decide, by decide, by decide, by decide⟩

/-- a stopped service is reachable, refuses, and accepts again after `RimeInitialize` -/
example : ∃ s, Reach (init [.create, .finalize, .create, .initialize, .create]) s ∧
    s.log = [.ret .create 1, .ret .finalize 2, .ret .create 0, .ret .initialize 2, .ret .create 1] :=
  ⟨_, reach_of_runStrict Reach.refl (l := List.replicate 5 .client) rfl, by decide⟩

/-- a notification sent while no handler is installed is reachable (so `sent` ≠ `notes` in general) -/
example : ∃ s, Reach (init [.clearHandler, .sync [true, true, true]]) s ∧ s.notes = [] ∧
    s.sent = [.start, .success] :=
  ⟨(runSchedule [.clearHandler, .sync [true, true, true]] []).1,
    reach_of_runStrict Reach.refl (l := (runSchedule [.clearHandler, .sync [true, true, true]] []).2) (by decide),
    by decide, by decide⟩

/-- `Lang` is inhabited by a non-trivial word with a late second result -/
example : Lang [.start, .success, .failure, .start, .failure] := by
  have h1 : Lang ([] ++ Note.start :: Note.success :: [Note.failure]) :=
    Lang.block .success [.failure] Lang.nil (by decide) (by decide)
  exact Lang.block (w := [.start, .success, .failure]) .failure [] h1 (by decide) (by simp)

end C15
