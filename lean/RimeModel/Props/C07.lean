import RimeModel.C07.CompleteLemmas
import RimeModel.C07.TransLemmas
import RimeModel.C07.LongLemmas
import RimeModel.C07.BuiltLemmas
import RimeModel.C07.SentenceLemmas
import RimeModel.C07.PoetGraphs
import RimeModel.C07.PoetPtr
/-!
C07 — candidates for an input are exactly the dictionary entries that its code spells.  Property theorems only.

Model: RimeModel/C07/{Model,Translation,Spells}.lean on the C06 index (`Tree`) — ports of `Table::Query`,
`match_extra_code`, `lookup_table`, `Dictionary::Lookup`, `compare_chunk_by_head_element`, `DictEntryIterator`,
`ScriptTranslation`, `Dictionary::LookupWords`, `(Lazy)TableTranslation`, `DistinctTranslation`; the sentence maker
and its word graphs ({Poet,PoetPtr,PoetGraphs}.lean) have their own section below.
The syllable graph `g` and the prism's key lists are inputs (any values), and so is the sentence in `script_order` and
`table_sentence_shape` (the `_ported` versions take the poet's): the theorems hold for all of them, under the two
shape facts every recorded graph has (`KeysNodup`: map keys are distinct; `Forward`: edges go forward).  `Spells g c s e` is the reference notion: a path of `g` from `s` to `e` whose
edges carry the syllables of `c`.
-/
namespace C07
open RimeModel.C06 RimeModel.C07

/-- **query_sound** — every result `Table::Query` pushes for end position `e` ranges over the list of an index
code that the graph spells from `start` to `e` (for a tail accessor: the 3-syllable index code up to the
position where the extra codes are then matched). -/
theorem query_sound (t : Table) (g : Graph) (hk : g.KeysNodup) (start : Nat) (ems : List Emission)
    (h : query t g start = some ems) (em : Emission) (hem : em ∈ ems) :
    Spells g em.2.indexCode start em.1 :=
  query_spells t g hk start ems h em hem

/-- **query_complete** — if the graph spells `c ++ [y]` (1 to 3 syllables) from `start` to `e`, the table can
follow `c` (`Advance` succeeds at every step) and holds a non-empty entry list for `c ++ [y]` (with any further
property `P` of the accessor, e.g. which entries it ranges over), then the query reports such a non-empty accessor
with that index code at `e`. -/
theorem query_complete (t : Table) (g : Graph) (start : Nat) (c : List Nat) (y e : Nat) (P : Accessor → Prop)
    (hs : Spells g (c ++ [y]) start e) (hstart : start < g.interpLen) (hlen : c.length < indexDepth)
    (hf : Followable t c)
    (hacc : ∀ q : TQ, q.indexCode = c → ∃ acc, access t q y = some acc ∧ acc.exhausted = false ∧ P acc) :
    ∃ ems, query t g start = some ems ∧
      ∃ em ∈ ems, em.1 = e ∧ em.2.indexCode = c ++ [y] ∧ em.2.exhausted = false ∧ P em.2 := by
  obtain ⟨m, hsm, hm, he⟩ := spells_snoc_inv c y start e hs
  obtain ⟨q, hq, hqc⟩ := reach t g start c m hsm hm (Nat.le_of_lt hlen) hf
  obtain ⟨acc, ha, hx, hP⟩ := hacc q hqc
  obtain ⟨ems, hqe, hmem⟩ := query_some_of_expand hstart (Nat.le_of_lt hlen) hq
    ((expand_edge t g (m, q) y e (hqc ▸ hlen) he).1 acc ha hx)
  refine ⟨ems, hqe, (e, acc), hmem, rfl, ?_, hx, hP⟩
  rw [(access_indexCode t q y acc ha).2, if_neg (Nat.ne_of_lt (by rw [TQ.level, hqc]; exact hlen)), hqc]

/-- **rows_are_found** — completeness down to the source rows: on a table built by C06's `build` (any admissible
page sorter `S`), every row whose code has one to three syllables and is spelled by the graph from `start` to `e`
is reported at `e` by an accessor ranging over exactly the page of that code (all its homophones, in page order).
Together with C06 `compile_enumerate_perm` this reads: every dictionary entry whose code the input spells is in
the lookup result. -/
theorem rows_are_found (S : List (CRow Dy) → List (CRow Dy)) (hS : ∀ l, (S l).Perm l) (n : Nat) (rs : List (CRow Dy))
    (g : Graph) (start e : Nat) (hstart : start < g.interpLen) (r : CRow Dy) (hr : r ∈ rs)
    (hlen : 1 ≤ r.code.length ∧ r.code.length ≤ 3) (hhead : r.code.getD 0 0 < n) (hs : Spells g r.code start e) :
    ∃ ems, query (build S n rs) g start = some ems ∧
      ∃ em ∈ ems, em.1 = e ∧ em.2.indexCode = r.code ∧
        em.2.span = .entries ((S (pageAt r.code rs)).map toEntry) := by
  rcases List.eq_nil_or_concat r.code with h | ⟨c, y, h⟩
  · rw [h] at hlen; exact absurd hlen.1 (Nat.not_succ_le_zero 0)
  · rw [List.concat_eq_append] at h
    have hl : c.length < indexDepth := by
      have := hlen.2
      rw [h, List.length_append] at this
      exact this
    obtain ⟨hf, hacc⟩ := finds S n rs hS r hr c y h hl hhead
    obtain ⟨ems, hq, em, hem, h1, h2, _, h4⟩ := query_complete (build S n rs) g start c y e
      (fun a => a.span = .entries ((S (pageAt r.code rs)).map toEntry)) (h ▸ hs) hstart hl hf hacc
    exact ⟨ems, hq, em, hem, h1, h2.trans h.symm, h4⟩

/-- **match_extra_sound** — a successful (non-predictive) `match_extra_code` has consumed the whole extra code
along a path of the graph. -/
theorem match_extra_sound (g : Graph) (extra : List Nat) (depth pos d e : Nat)
    (h : matchExtra g false extra depth pos = some (d, e)) :
    d = depth + extra.length ∧ Spells g extra pos e :=
  matchExtra_sound g extra depth pos d e h

/-- **match_extra_farthest** — whenever the graph spells the extra code from `pos` at all, the match succeeds and
ends at least as far as that path: a long entry is listed at its farthest match. -/
theorem match_extra_farthest (g : Graph) (hfw : g.Forward) (extra : List Nat) (depth pos e' : Nat)
    (h : Spells g extra pos e') :
    ∃ d e, matchExtra g false extra depth pos = some (d, e) ∧ e' ≤ e :=
  matchExtra_farthest g hfw extra depth pos e' h

/-- **long_entry_listed_at_farthest_match** — completeness beyond the index depth: if the graph spells the first
three syllables `[a, b, c]` of a code from `start` to a position `m` that has outgoing edges, the table can follow
them and its tail page there holds the entry `le`, and the graph spells the rest of the code (`le.extra`) from
`m` to `e'`, then `lookup_table` produces an exact one-entry chunk for that entry with the full code, filed under
an end position at least `e'` (the farthest match). -/
theorem long_entry_listed_at_farthest_match (t : Table) (g : Graph) (hfw : g.Forward) (start : Nat) (ic : Dy)
    (a b c m : Nat) (hstart : start < g.interpLen) (hs3 : Spells g [a, b, c] start m) (hm : m < g.interpLen)
    (hf : Followable t [a, b, c]) (idx : List (Nat × List Edge)) (hi : g.indexAt m = some idx)
    (es : List (LongEntry Dy)) (ht : tailOf t a b c = some es) (le : LongEntry Dy) (hle : le ∈ es) (e' : Nat)
    (hse : Spells g le.extra m e') :
    ∃ kc ∈ lookupTable t g start false ic, kc.2.code = [a, b, c] ++ le.extra ∧ kc.2.entries = [le.entry] ∧
      kc.2.matching = kc.2.code.length ∧ e' ≤ kc.1 := by
  obtain ⟨q, hq, hqc⟩ := reach t g start [a, b, c] m hs3 hm (Nat.le_refl 3) hf
  have hne : es ≠ [] := fun h => by rw [h] at hle; simp at hle
  obtain ⟨ems, hqe, hmem⟩ := query_some_of_expand hstart (Nat.le_refl 3) hq
    (tail_emission t g (m, q) a b c hqc idx hi es ht hne)
  exact long_chunk t g hfw start ic ems hqe m a b c es q.back hmem le hle e' hse

/-- **iterator_perm** — draining the iterator yields every entry of every chunk exactly once. -/
theorem iterator_perm (it : Iter) (hne : NoEmpty it.rest) :
    ((drainAll it).map (·.2)).Perm (allEntries it.rest) :=
  drain_perm _ it hne (Nat.le_add_right_of_le (Nat.le_add_right _ _))

/-- after `Sort` and after every `Next` the chunk in front is not beaten by any other chunk (the comparison
`compare_chunk_by_head_element` is a strict weak order: `better_asymm`, `better_trans`, `better_nt`) -/
theorem iterator_head_best (it : Iter) : HeadBest it.sort.rest ∧ HeadBest it.next.rest :=
  ⟨sort_headBest it, next_headBest it⟩

/-- **iterator_order** — in what a sorted iterator yields no entry of a predictive chunk precedes an entry of an
exact chunk, and among equally exact chunks the length of the remaining code never decreases.  (The weight part
of the order is `iterator_head_best`: every emitted entry is the head of a chunk no other chunk's head beats;
within a chunk the order is table order — C06 `weight_sorted` unless `sort: original`.) -/
theorem iterator_order (it : Iter) (hne : NoEmpty it.rest) (hb : HeadBest it.rest) :
    (drainAll it).Pairwise (fun a b => staticBetter b.1 a.1 = false) :=
  drain_static_order _ it hne (headStatic_of_headBest _ hne hb)

/-- **script_order** — `ScriptTranslation` emits an optional sentence and then only phrases/completions starting
at the segment start, by non-increasing end position: longer matches come before shorter ones. -/
theorem script_order (t : Table) (g : Graph) (start endOfInput : Nat) (wc : Bool) (sentence : Option Cand) :
    ∃ (s : Option Cand) (body : List Cand), scriptTranslation t g start endOfInput wc sentence = s.toList ++ body ∧
      body.Pairwise (fun a b => b.endPos ≤ a.endPos) ∧
      (∀ c ∈ body, (c.type = "phrase" ∨ c.type = "completion") ∧ c.start = start) ∧
      (s = none ∨ s = sentence) := by
  unfold scriptTranslation
  simp only
  by_cases h : (lookup t g 0 (wc && start + g.interpLen == endOfInput) Dy.zero).isEmpty = true
  · rw [if_pos h]
    exact ⟨none, [], rfl, List.Pairwise.nil, nofun, Or.inl rfl⟩
  · rw [if_neg h]
    refine ⟨_, scriptPhrases _ start, rfl, scriptPhrases_order _ start (lookup_keys_ascending _ _ _ _ _),
      scriptPhrases_types _ start, ?_⟩
    split
    · exact Or.inr rfl
    · exact Or.inl rfl

/-- `DistinctTranslation`: the result is a sublist of the translation, no text occurs twice, and every text of
the translation occurs. -/
theorem distinct_nodup (l : List Cand) :
    (distinct [] l).Sublist l ∧ ((distinct [] l).map (·.text)).Nodup ∧
    ∀ c ∈ l, ∃ c' ∈ distinct [] l, c'.text = c.text :=
  ⟨distinct_sublist [] l, (distinct_spec [] l).1, fun c hc => distinct_complete [] l c hc (by simp)⟩

/-- **table_exact_then_completion** (completion disabled) — with `enable_completion: false` the table translation
contains no completion candidate: every candidate comes from the key that equals the code. -/
theorem table_no_completion_when_disabled (t : Table) (syl : List Bytes) (delims input : Bytes) (start : Nat)
    (exactKey : Option PrismKey) (expansion : List PrismKey)
    (hk : ∀ k ∈ exactKey.toList, k.length = (trimRightDelims delims input).length) :
    ∀ c ∈ tableTranslation t syl delims input start false exactKey expansion, c.type = "table" := by
  intro c hc
  simp only [tableTranslation, tableTranslationWith, Bool.false_eq_true, if_false, if_true, List.mem_map] at hc
  obtain ⟨ce, hce, rfl⟩ := hc
  have hne0 := lookupWords_noEmpty t syl (trimRightDelims delims input).length exactKey.toList
  have hp := sort_rest_perm { done := [], rest := lookupWords t syl (trimRightDelims delims input).length exactKey.toList }
  have hne := noEmpty_perm hp hne0
  obtain ⟨x, hx, hs⟩ := drain_mem_same _ _ ce hne hce
  have := lookupWords_remaining t syl _ exactKey.toList hk x (hp.mem_iff.mp hx)
  simp [tableCand, hs.2.2.1, this]

/-- **table_exact_in_weight_order** — the entries whose code equals the input (one chunk per syllable the spelling
denotes and per table) are shown best first: the iterator the translator starts from has a chunk in front that no
other chunk's head beats, and keeps that after every `Next` (`iterator_head_best`); all chunks are exact with empty
remaining code, so "best" is the larger credibility + weight; within a chunk the order is the table's (C06
`weight_sorted`). -/
theorem table_exact_in_weight_order (t : Table) (syl : List Bytes) (n : Nat) (keys : List PrismKey) :
    HeadBest (Iter.sort { done := [], rest := lookupWords t syl n keys }).rest ∧
    NoEmpty (Iter.sort { done := [], rest := lookupWords t syl n keys }).rest :=
  ⟨sort_headBest _, noEmpty_perm (sort_rest_perm _) (lookupWords_noEmpty t syl n keys)⟩

/-- **old_table_translation_counterexample** — the translator BEFORE the repair (no `Sort()` on the iterator
`LookupWords` fills; finding `C07:table:exact-order`, fixed in /repo) violates the weight order: two one-syllable
entries (syllable 0 "bbb" with the lighter 丩七丩-like entry [65], syllable 1 "cbb" with the heavier [66]) behind one
spelling (algebra `derive/^c/b/`: the key `bbb` denotes both syllables): the old translation shows the lighter
entry first, the repaired one the heavier. -/
theorem old_table_translation_counterexample :
    let t : Table := build id 2 [⟨[0], [65], ⟨1, 0⟩⟩, ⟨[1], [66], ⟨5, 0⟩⟩]
    let key : PrismKey := { length := 3, sylls := [(0, 0), (1, 0)] }
    (tableTranslationOld t [[98, 98, 98], [99, 98, 98]] [39] [98, 98, 98] 0 false (some key) [key]).map (·.text) = [[65], [66]] ∧
    (tableTranslation t [[98, 98, 98], [99, 98, 98]] [39] [98, 98, 98] 0 false (some key) [key]).map (·.text) = [[66], [65]] := by
  decide +kernel

/-- **table_exact_then_completion_partial** — in what one iterator over word chunks yields, entries whose code
equals the input (empty remaining code) come before entries whose code extends it, provided the chunk in front
has a shortest remaining code (true when the key equal to the code comes first in the prism's answer, as the
breadth-first `ExpandSearch` delivers it) — no initial `Sort` is needed for this part.
FULL STATEMENT (not proved): the same for the whole `LazyTableTranslation`, across its re-done lookups with
limits 10, 100, …; missing: an invariant for `fetchMore`/`Iter.skip` saying that the chunks of a later batch
have remaining codes at least as long as those already shown (holds for breadth-first key order without
spelling algebra).  NOT claimed at all: weight order among the exact entries when SEVERAL keys/syllables equal
the code (spelling algebra, or packs: one chunk per table) — that is `table_exact_in_weight_order`, which needs
the initial `Sort()` the repair added. -/
theorem table_exact_then_completion_partial (chunks : List Chunk) (hne : NoEmpty chunks)
    (hall : ∀ c ∈ chunks, c.isExact = true) (hhead : HeadStatic chunks) :
    (drainAll { done := [], rest := chunks }).Pairwise
      (fun a b => ¬ (a.1.remaining.length > 0 ∧ b.1.remaining.length = 0)) := by
  refine List.Pairwise.imp_of_mem ?_ (drain_static_order _ { done := [], rest := chunks } hne hhead)
  intro a b ha hb hab
  obtain ⟨x, hx, hsx⟩ := drain_mem_same _ _ a hne ha
  obtain ⟨y, hy, hsy⟩ := drain_mem_same _ _ b hne hb
  -- both chunks are exact, so the static order compares the remaining codes
  rw [staticBetter, sameChunk_isExact hsx, sameChunk_isExact hsy, hall x hx, hall y hy] at hab
  exact fun ⟨h1, h2⟩ => of_decide_eq_false hab (h2 ▸ h1)

/-! ### sentences of a table-style schema (`enable_sentence`) -/

/-- `consume_trailing_delimiters(pos, input, delimiters)` never goes back and steps over delimiters only -/
theorem consume_trailing_delimiters_spec (delims input : Bytes) (pos : Nat) :
    pos ≤ consumeDelims delims input pos ∧
    ∀ i, pos ≤ i → i < consumeDelims delims input pos → ∃ b, input[i]? = some b ∧ delims.contains b = true :=
  ⟨Nat.le_add_right _ _, fun i h1 h2 => consumeDelims_delims delims input pos i h1 h2⟩

/-- **word_graph_edges_sound** — every edge `[s, e)` of the word graph `MakeSentence` hands to the poet stands for a
key the prism finds at `s` in the rest of the input, that has words, followed by exactly the delimiters the rest of
the input has after it (`e = s + consume_trailing_delimiters(len, input.substr(s))`): the codes and delimiters of any
path from 0 to the end make up the input. -/
theorem word_graph_edges_sound (t : Table) (syl : List Bytes) (delims input : Bytes) (cps : Nat → List PrismKey) :
    ∀ e ∈ (wordGraph t syl delims input cps).edges, EdgeOk t syl delims input cps e :=
  wordGraph_edges_ok t syl delims input cps

/-- **table_sentence_shape** — the sentence translation is empty when the poet cannot reach the end of the input (or
finds nothing); otherwise it is the sentence followed only by `table` candidates that start the segment, by
non-increasing end position (longer first words first). -/
theorem table_sentence_shape (w : WordGraph) (start total : Nat) (sentence : Option Cand) :
    (poetReaches w.edges total = false → sentenceTranslation w start total sentence = []) ∧
    (sentenceTranslation w start total sentence = [] ∨
      ∃ s, sentence = some s ∧ sentenceTranslation w start total sentence = s :: sentenceWords w start) ∧
    (sentenceWords w start).Pairwise (fun a b => b.endPos ≤ a.endPos) ∧
    (∀ c ∈ sentenceWords w start, c.type = "table" ∧ c.start = start) := by
  refine ⟨?_, ?_, (sentenceWords_shape w start).1, (sentenceWords_shape w start).2⟩
  · intro h; simp [sentenceTranslation, h]
  · unfold sentenceTranslation
    split
    · cases sentence with
      | none => exact Or.inl rfl
      | some s => exact Or.inr ⟨s, rfl, rfl⟩
    · exact Or.inl rfl

/-- a sentence is made only when the plain translation is empty and `enable_sentence` is on -/
theorem table_query_plain_first (t : Table) (syl : List Bytes) (delims input : Bytes) (start : Nat) (completion es : Bool)
    (exactKey : Option PrismKey) (expansion : List PrismKey) (cps : Nat → List PrismKey) (sentence : Option Cand)
    (h : tableTranslation t syl delims input start completion exactKey expansion ≠ [] ∨ es = false) :
    tableQuery t syl delims input start completion es exactKey expansion cps sentence
      = tableTranslation t syl delims input start completion exactKey expansion := by
  unfold tableQuery
  rcases h with h | h
  · rw [if_pos (by rw [List.isEmpty_eq_false_iff.mpr h]; rfl)]
  · rw [h, if_pos (by simp)]

/-! ### non-vacuity -/

/-- a two-position graph (syllable 0 on [0,1) and [1,2), syllable 1 on [0,2)) over a table with entries for
codes [0], [1] and [0,0]: the lookup finds [0] at 1, [1] and [0,0] at 2; the translation lists the longer
matches first -/
example :
    let t : Table := build id 2 [⟨[0], [65], ⟨3, 0⟩⟩, ⟨[1], [66], ⟨1, 0⟩⟩, ⟨[0, 0], [67], ⟨2, 0⟩⟩]
    let g : Graph := { inputLen := 2, interpLen := 2, edgeStarts := 2,
                       indices := [(0, [(0, [⟨1, 0, Dy.zero⟩]), (1, [⟨2, 0, Dy.zero⟩])]), (1, [(0, [⟨2, 0, Dy.zero⟩])])] }
    (scriptTranslation t g 0 2 false none).map (fun c => (c.endPos, c.text)) = [(2, [67]), (2, [66]), (1, [65])] ∧
    (lookup t g 0 false Dy.zero).all (fun kv => kv.2.rest.all (fun c => !c.entries.isEmpty)) = true := by
  decide +kernel

/-- a word graph: codes a (syllable 0) and b (syllable 1), delimiter ', input a'b: edges [0,2) and [2,3), the poet
reaches the end, the translation is the sentence followed by the first word with its delimiter -/
example :
    let t : Table := build id 2 [⟨[0], [65], ⟨3, 0⟩⟩, ⟨[1], [66], ⟨1, 0⟩⟩]
    let cps : Nat → List PrismKey := fun s => if s == 0 then [⟨1, [(0, 0)]⟩] else if s == 2 then [⟨1, [(1, 0)]⟩] else []
    let w := wordGraph t [[97], [98]] [39] [97, 39, 98] cps
    w.edges = [(0, 2), (2, 3)] ∧ poetReaches w.edges 3 = true ∧
    (sentenceTranslation w 0 3 (some ⟨"sentence", 0, 3, [65, 66]⟩)).map (fun c => (c.endPos, c.text)) = [(3, [65, 66]), (2, [65])] := by
  decide +kernel

/-! ### the sentence maker (`Poet::MakeSentence` without a grammar plugin: `MakeSentenceWithStrategy<DynamicProgramming>`)

Model: RimeModel/C07/Poet.lean (line-by-line port, generic over the weight operations `WOps`), the word graphs of the
two translators in RimeModel/C07/PoetGraphs.lean.  `Sorted` = start positions strictly increasing (the iteration
order of the `std::map`), `Forward` = every edge ends after its start. -/

/-- **poet_sentence_is_path** — for EVERY weight structure and EVERY comparison function: if the poet returns a
sentence for `(graph, total)`, its components (what `Sentence::Extend` receives, in order) are not empty; each is an
edge of the graph carrying an entry of that edge's entry list; each starts where the previous one ended; none of
them is the edge `[0, total)`; the last ends at `total`; the weights are the running sums
`previous + (entry weight + kPenalty)`; and the first starts at an `Origin`: position 0, or — a quirk of
`states[end_pos]` — the end of an edge that carries no entry at all.  When no edge is without entries the first
component starts at 0: the sentence is a path from 0 to `total` other than the single edge `[0, total)`. -/
theorem poet_sentence_is_path {W : Type} (ops : WOps W) (cmp : Line W → Line W → Bool) (g : PGraph W) (total : Nat)
    (cs : List (Comp W)) (h : poetComponents ops cmp g total = some cs) :
    cs ≠ [] ∧ ∃ o, Origin g o ∧ (NoEmptyEdge g → o = 0) ∧ IsPath ops g total ops.zero o cs ∧ pathEnd o cs = total := by
  obtain ⟨hne, o, ho, hp, he⟩ := poetComponents_sound ops cmp g total cs h
  exact ⟨hne, o, ho, fun hn => origin_zero_of_noEmptyEdge g hn o ho, hp, he⟩

/-- **poet_sentence_fields** — the `Sentence` the poet returns is what `Extend` makes of the components: the text is
the concatenation of the entries' texts, the code the concatenation of their codes, `components()` the entries,
`word_lengths()` the differences of consecutive end positions (the same list `Line::word_lengths` computes), the end
position that of the last component, the weight that of the last component. -/
theorem poet_sentence_fields {W : Type} (ops : WOps W) (cmp : Line W → Line W → Bool) (g : PGraph W) (total : Nat)
    (sen : Sentence W) (h : makeSentence ops cmp g total = some sen) :
    ∃ cs, poetComponents ops cmp g total = some cs ∧ sen.text = cs.flatMap (·.entry.text) ∧
      sen.code = cs.flatMap (·.entry.code) ∧ sen.components = cs.map (·.entry) ∧
      sen.wordLengths = wordLengthsFrom 0 cs ∧ sen.endPos = pathEnd 0 cs ∧ sen.weight = pathWeight ops.zero cs := by
  obtain ⟨cs, hc, rfl⟩ := (makeSentence_some ops cmp g total sen).mp h
  rw [foldl_extend]
  exact ⟨cs, hc, rfl, rfl, rfl, rfl, rfl, rfl⟩

/-- **poet_none_iff_unreachable** — on a graph whose start positions come in increasing order and whose edges go
forward, the poet returns no sentence exactly when `total` is not `Live`: there is no edge WITH entries, other than
`[0, total)`, into `total` from a `Visited` position — one reachable from 0 by a chain of edges other than `[0, total)`
(entries or not: `states[end_pos]` is created before the entry list is looked at).  This is what
`found == states.end() || found->second.empty()` amounts to; in particular `total = 0` never yields a sentence
(position 0 holds the empty line and no forward edge ends there). -/
theorem poet_none_iff_unreachable {W : Type} (ops : WOps W) (cmp : Line W → Line W → Bool) (g : PGraph W) (total : Nat)
    (hs : g.Sorted) (hf : g.Forward) :
    makeSentence ops cmp g total = none ↔ ¬ Live g total total := by
  rw [← poetLine_isSome_iff ops cmp g total hs hf]
  unfold makeSentence poetComponents
  cases poetLine ops cmp g total <;> simp

/-- **poet_some_iff_path** — when moreover every edge carries an entry, the poet returns a sentence exactly when
`total` is reachable from 0 by a chain of at least one edge, none of them the edge `[0, total)` (weights play no
role: any comparison function, any weight structure). -/
theorem poet_some_iff_path {W : Type} (ops : WOps W) (cmp : Line W → Line W → Bool) (g : PGraph W) (total : Nat)
    (hs : g.Sorted) (hf : g.Forward) (hne : NoEmptyEdge g) :
    (∃ best, poetComponents ops cmp g total = some best) ↔
      ∃ cs, cs ≠ [] ∧ IsPath ops g total ops.zero 0 cs ∧ pathEnd 0 cs = total := by
  constructor
  · intro ⟨best, hb⟩
    obtain ⟨h1, o, _, h0, hp, he⟩ := poet_sentence_is_path ops cmp g total best hb
    have := h0 hne
    subst this
    exact ⟨best, h1, hp, he⟩
  · intro ⟨cs, h1, hp, he⟩
    obtain ⟨best, hb, _⟩ := poetComponents_unbeaten ops cmp g total _ (poetOrder_true ops cmp) hs hf cs h1 hp he
    exact ⟨best, hb⟩

/-- **poet_sentence_optimal** — with `Poet::CompareWeight` and weights whose `<` is a strict weak order that adding
the same number on the right never reverses (`WLaws`: integers, exact dyadic numbers, IEEE doubles without NaN), on a
sorted forward graph: no path from 0 to `total` (other than the excluded single edge) has a strictly larger total
weight than the sentence returned. -/
theorem poet_sentence_optimal {W : Type} (ops : WOps W) (hw : WLaws ops) (g : PGraph W) (total : Nat)
    (hs : g.Sorted) (hf : g.Forward) (best : List (Comp W)) (h : poetComponents ops (compareWeight ops) g total = some best)
    (cs : List (Comp W)) (hne : cs ≠ []) (hp : IsPath ops g total ops.zero 0 cs) (he : pathEnd 0 cs = total) :
    ops.lt (pathWeight ops.zero best) (pathWeight ops.zero cs) = false := by
  obtain ⟨l, hl, hr⟩ := poetComponents_unbeaten ops (compareWeight ops) g total _ (poetOrder_compareWeight ops hw) hs hf cs hne hp he
  cases hl.symm.trans h
  rwa [compareWeight, lineWeight_reverse, lineWeight_reverse] at hr

/-- **poet_sentence_optimal_int** — `poet_sentence_optimal` for integer weights (which obey `WLaws`): the sentence
returned weighs at least as much as every path from 0 to `total`. -/
theorem poet_sentence_optimal_int (k : Int) (g : PGraph Int) (total : Nat) (hs : g.Sorted) (hf : g.Forward)
    (best : List (Comp Int)) (h : poetComponents (intOps k) (compareWeight (intOps k)) g total = some best)
    (cs : List (Comp Int)) (hne : cs ≠ []) (hp : IsPath (intOps k) g total 0 0 cs) (he : pathEnd 0 cs = total) :
    pathWeight 0 cs ≤ pathWeight 0 best := by
  have := poet_sentence_optimal (intOps k) (wlaws_int k) g total hs hf best h cs hne hp he
  simp only [intOps, decide_eq_false_iff_not, Int.not_lt] at this
  exact this

/-- **poet_left_associate_optimal** — `Poet::LeftAssociateCompare` (the table translator's) with integer weights
(exact arithmetic; it is the strict monotonicity of `+` that the tie-breaking needs, which rounding to double does
not have): no path from 0 to `total` is heavier than the sentence returned; among the paths of the same weight none
has fewer words; and among those with as many words none has lexicographically larger word lengths (longer words
first: "left associate"). -/
theorem poet_left_associate_optimal (k : Int) (g : PGraph Int) (total : Nat) (hs : g.Sorted) (hf : g.Forward)
    (best : List (Comp Int)) (h : poetComponents (intOps k) (leftAssociateCompare (intOps k)) g total = some best)
    (cs : List (Comp Int)) (hne : cs ≠ []) (hp : IsPath (intOps k) g total 0 0 cs) (he : pathEnd 0 cs = total) :
    pathWeight 0 cs ≤ pathWeight 0 best ∧
    (pathWeight 0 cs = pathWeight 0 best →
      (wordLengthsFrom 0 best).length ≤ (wordLengthsFrom 0 cs).length ∧
      ((wordLengthsFrom 0 best).length = (wordLengthsFrom 0 cs).length →
        lexLt (wordLengthsFrom 0 best) (wordLengthsFrom 0 cs) = false)) := by
  obtain ⟨l, hl, hr⟩ := poetComponents_unbeaten (intOps k) (leftAssociateCompare (intOps k)) g total _ (poetOrder_leftAssociate k) hs hf cs hne hp he
  cases hl.symm.trans h
  have hr := leftAssociate_unbeaten k _ _ hr
  rwa [lineWeight_reverse, lineWeight_reverse, wordLengths_reverse, wordLengths_reverse] at hr

/-- **poet_pointer_lines_agree** — nothing is lost by modelling lines immutably.  The code's `Line` holds a POINTER to its
predecessor, which for the `DynamicProgramming` strategy is the map slot `states[start_pos]` itself; components are found
by following the pointers through the map as it is at that moment (`pPoetStates` / `resolve`: the loop on such objects,
comparisons included).  On a graph whose start positions increase and whose edges go forward, every slot of the pointer
version resolves at the end to the line the immutable version holds, and the line returned is the same: a slot is written
only by edges from smaller start positions, and those are all done when the slot is first read (`fuel` = any number larger
than every position of the graph + 1: the bound on pointer hops). -/
theorem poet_pointer_lines_agree {W : Type} (ops : WOps W) (cmp : Line W → Line W → Bool) (g : PGraph W) (total fuel : Nat)
    (hs : g.Sorted) (hf : g.Forward) (h0 : 0 < fuel) (hfuel : ∀ sv ∈ g, sv.1 + 1 < fuel ∧ ∀ ev ∈ sv.2, ev.1 < fuel) :
    (∀ p, stFind (poetStates ops cmp g total) p = (pFind (pPoetStates ops cmp g total fuel) p).map (resolve (pPoetStates ops cmp g total fuel) fuel)) ∧
    pPoetLine ops cmp g total fuel = poetLine ops cmp g total :=
  pointer_poet_agrees ops cmp g total fuel hs hf h0 (fun sv h => Nat.le_of_lt (hfuel sv h).1)

/-- **table_sentence_is_concatenation_of_entries** — `word_graph_edges_sound` and `poet_sentence_is_path` together:
the sentence a table-style schema shows (port of `TableTranslator::MakeSentence` + `Poet` with `LeftAssociateCompare`
on the word graph of the model) spans the whole input and its text is a concatenation of `TableWord`s — consecutive
pieces `[s, e)` from 0 to the end of the input, each an edge of the word graph (hence `EdgeOk`: a key the prism finds
at `s`, with words, followed by exactly the delimiters after it) with the text of a word entry stored for that key. -/
theorem table_sentence_is_concatenation_of_entries (t : Table) (syl : List Bytes) (delims input : Bytes)
    (cps : Nat → List PrismKey) (start : Nat) (c : Cand) (h : tableSentence t syl delims input cps start = some c) :
    c.type = "sentence" ∧ c.start = start ∧ c.endPos = start + input.length ∧
    Concat (fun s e txt => TableWord t syl delims input cps s e txt ∧ EdgeOk t syl delims input cps (s, e)) 0 input.length c.text :=
  sentenceCand_concat _ _ _ _ _ _ (tablePoetGraph_noEmptyEdge t syl delims input cps)
    (tablePoetGraph_word t syl delims input cps) c h

/-- **script_sentence_is_concatenation_of_entries** — the sentence a script-style schema shows (port of
`ScriptTranslation::MakeSentence` + `Poet` with `CompareWeight` on the dictionary's lookups from every start position
of the syllable graph) spans the interpreted input and its text is a concatenation of `ScriptWord`s: consecutive
pieces `[s, e)` from 0 to the interpreted length, each with the text of a dictionary entry whose code the syllable
graph spells from `s` to `e` (`lookupTable_sound`, from `query_sound` and `match_extra_sound`). -/
theorem script_sentence_is_concatenation_of_entries (t : Table) (g : Graph) (hk : g.KeysNodup) (start : Nat) (c : Cand)
    (h : scriptSentence t g start = some c) :
    c.type = "sentence" ∧ c.start = start ∧ c.endPos = start + g.interpLen ∧
    Concat (ScriptWord t g) 0 g.interpLen c.text :=
  sentenceCand_concat _ _ _ _ _ _ (scriptPoetGraph_noEmptyEdge t g) (scriptPoetGraph_word t g hk) c h

/-- **script_order_ported** — `script_order` with the sentence computed by the port of the poet (no oracle): the
translation is an optional sentence — none, or the poet's, which then is a concatenation of entries covering the
interpreted input — followed by phrases/completions by non-increasing end position. -/
theorem script_order_ported (t : Table) (g : Graph) (hk : g.KeysNodup) (start endOfInput : Nat) (wc : Bool) :
    ∃ (s : Option Cand) (body : List Cand), scriptTranslationP t g start endOfInput wc = s.toList ++ body ∧
      body.Pairwise (fun a b => b.endPos ≤ a.endPos) ∧
      (∀ c ∈ body, (c.type = "phrase" ∨ c.type = "completion") ∧ c.start = start) ∧
      (∀ c, s = some c → c.type = "sentence" ∧ c.start = start ∧ c.endPos = start + g.interpLen ∧
        Concat (ScriptWord t g) 0 g.interpLen c.text) := by
  obtain ⟨s, body, h1, h2, h3, h4⟩ := script_order t g start endOfInput wc (scriptSentence t g start)
  refine ⟨s, body, h1, h2, h3, ?_⟩
  intro c hc
  rcases h4 with h4 | h4
  · rw [h4] at hc; simp at hc
  · exact script_sentence_is_concatenation_of_entries t g hk start c (by rw [← h4, hc])

/-- **table_sentence_shape_ported** — `table_sentence_shape` with the sentence computed by the port of the poet (no
oracle): the sentence translation is empty, or the poet's sentence — a concatenation of word entries whose keys and
delimiters make up the input — followed only by `table` candidates that start the segment, longer first words first. -/
theorem table_sentence_shape_ported (t : Table) (syl : List Bytes) (delims input : Bytes) (cps : Nat → List PrismKey) (start : Nat) :
    let w := wordGraph t syl delims input cps
    let tr := sentenceTranslation w start input.length (tableSentence t syl delims input cps start)
    (tr = [] ∨ ∃ s, tr = s :: sentenceWords w start ∧ s.type = "sentence" ∧ s.start = start ∧ s.endPos = start + input.length ∧
        Concat (fun a b txt => TableWord t syl delims input cps a b txt ∧ EdgeOk t syl delims input cps (a, b)) 0 input.length s.text) ∧
    (sentenceWords w start).Pairwise (fun a b => b.endPos ≤ a.endPos) ∧
    (∀ c ∈ sentenceWords w start, c.type = "table" ∧ c.start = start) := by
  intro w tr
  obtain ⟨_, h2, h3, h4⟩ := table_sentence_shape w start input.length (tableSentence t syl delims input cps start)
  refine ⟨?_, h3, h4⟩
  rcases h2 with h2 | ⟨s, hs, h2⟩
  · exact Or.inl h2
  · exact Or.inr ⟨s, h2, table_sentence_is_concatenation_of_entries t syl delims input cps start s hs⟩

/-! ### non-vacuity (the poet) -/

/-- words A on [0,1), B on [1,2), C on [0,2), D on [0,3), E on [2,3) with weights -1, -2, -1, -9, -1, penalty -3; the
graph is sorted and forward and has no edge without entries.  total 3: D alone is the single edge [0,3) and is never
considered; C E (running weights -4, -8) beats A B E (-4, -9, -13).  total 2: now C is the excluded single word and A B
is returned.  total 0, a total nothing reaches, and a total only the excluded edge reaches give no sentence. -/
example :
    let x : Nat → Int → PEntry Int := fun b w => ⟨[b.toUInt8], [b], w⟩
    let g : PGraph Int := [(0, [(1, [x 65 (-1)]), (2, [x 67 (-1)]), (3, [x 68 (-9)])]), (1, [(2, [x 66 (-2)])]), (2, [(3, [x 69 (-1)])])]
    g.Sorted ∧ g.Forward ∧ NoEmptyEdge g ∧
    (poetComponents (intOps (-3)) (compareWeight (intOps (-3))) g 3).map (·.map fun c => (c.endPos, c.entry.text, c.weight))
      = some [(2, [67], -4), (3, [69], -8)] ∧
    (makeSentence (intOps (-3)) (compareWeight (intOps (-3))) g 3).map (fun s => (s.text, s.code, s.wordLengths, s.endPos, s.weight))
      = some ([67, 69], [67, 69], [2, 1], 3, -8) ∧
    -- with total = 2 the edge [0,2) is the excluded single word: A B is returned although C alone would be heavier
    (poetComponents (intOps (-3)) (compareWeight (intOps (-3))) g 2).map (·.map fun c => (c.endPos, c.entry.text, c.weight))
      = some [(1, [65], -4), (2, [66], -9)] ∧
    -- total = 0, an unreachable total, and a total only the excluded edge reaches
    makeSentence (intOps (-3)) (compareWeight (intOps (-3))) g 0 = none ∧
    makeSentence (intOps (-3)) (compareWeight (intOps (-3))) g 4 = none ∧
    makeSentence (intOps (-3)) (compareWeight (intOps (-3))) [(0, [(1, [x 65 (-1)])])] 1 = none := by
  refine ⟨by decide +kernel, by decide +kernel, by decide +kernel, by decide +kernel, by decide +kernel, by decide +kernel, by decide +kernel,
    by decide +kernel, by decide +kernel⟩

/-- ties: [0,1)+[1,3) and [0,2)+[2,3) weigh the same.  `CompareWeight` keeps the line found first (word lengths 1,2);
`LeftAssociateCompare` replaces it by the one with the longer first word (2,1); a three-word path of the same weight
loses to both (more words) under `LeftAssociateCompare`. -/
example :
    let x : Nat → Int → PEntry Int := fun b w => ⟨[b.toUInt8], [b], w⟩
    let g : PGraph Int := [(0, [(1, [x 65 0]), (2, [x 66 0])]), (1, [(2, [x 69 3]), (3, [x 67 0])]), (2, [(3, [x 68 0])])]
    g.Sorted ∧ g.Forward ∧
    (makeSentence (intOps (-3)) (compareWeight (intOps (-3))) g 3).map (fun s => (s.text, s.wordLengths, s.weight)) = some ([65, 67], [1, 2], -6) ∧
    (makeSentence (intOps (-3)) (leftAssociateCompare (intOps (-3))) g 3).map (fun s => (s.text, s.wordLengths, s.weight)) = some ([66, 68], [2, 1], -6) := by
  decide +kernel

/-- the quirk `Origin` stands for: the edge [0,1) has no entries, so position 1 gets an EMPTY line, is not skipped, and
the "sentence" is the single word B on [1,2) — it does not start at 0 (`TableTranslator::MakeSentence` can produce
such edges, but only into positions that also have an edge with entries or are no start position) -/
example :
    let g : PGraph Int := [(0, [(1, [])]), (1, [(2, [⟨[66], [1], -1⟩])])]
    g.Sorted ∧ g.Forward ∧ ¬ NoEmptyEdge g ∧ Origin g 1 ∧
    (makeSentence (intOps (-3)) (compareWeight (intOps (-3))) g 2).map (fun s => (s.text, s.wordLengths)) = some ([66], [2]) := by
  refine ⟨by decide +kernel, by decide +kernel, ?_, Or.inr ⟨0, [(1, [])], by simp, by simp⟩, by decide +kernel⟩
  intro h; exact h (0, [(1, [])]) (by simp) (1, []) (by simp) rfl

/-- the pointer version on the tie example: same line, found by following `predecessor` through the map; and what goes
wrong without `Forward`: with a backward edge [2,1) the slot of position 1 is overwritten after the line at 2 was built
on it — the pointer version then reads a different chain than the one the line was built from (the immutable version
keeps the old chain): the hypothesis is needed -/
example :
    let x : Nat → Int → PEntry Int := fun b w => ⟨[b.toUInt8], [b], w⟩
    let g : PGraph Int := [(0, [(1, [x 65 0]), (2, [x 66 0])]), (1, [(2, [x 69 3]), (3, [x 67 0])]), (2, [(3, [x 68 0])])]
    (pPoetLine (intOps (-3)) (leftAssociateCompare (intOps (-3))) g 3 5).map (·.map fun c => (c.endPos, c.entry.text))
      = some [(3, [68]), (2, [66])] ∧
    (poetLine (intOps (-3)) (leftAssociateCompare (intOps (-3))) g 3).map (·.map fun c => (c.endPos, c.entry.text))
      = some [(3, [68]), (2, [66])] ∧
    let bad : PGraph Int := [(0, [(1, [x 65 0])]), (1, [(2, [x 66 0])]), (2, [(1, [x 67 9]), (3, [x 68 0])])]
    (pPoetLine (intOps (-3)) (compareWeight (intOps (-3))) bad 3 6).map (·.map fun c => (c.endPos, c.entry.text))
      ≠ (poetLine (intOps (-3)) (compareWeight (intOps (-3))) bad 3).map (·.map fun c => (c.endPos, c.entry.text)) := by
  decide +kernel

/-- the hypotheses of `poet_sentence_optimal` are satisfiable: integers obey `WLaws`; the first example's result is a
path and no heavier path exists -/
example : WLaws (intOps (-3)) ∧
    IsPath (intOps (-3)) [(0, [(1, [⟨[65], [65], -1⟩])]), (1, [(2, [⟨[66], [66], -2⟩])])] 2 0 0
      [⟨⟨[65], [65], -1⟩, 1, -4⟩, ⟨⟨[66], [66], -2⟩, 2, -9⟩] := by
  refine ⟨wlaws_int _, ⟨⟨[(1, [⟨[65], [65], -1⟩])], [⟨[65], [65], -1⟩], by simp, by simp, by simp⟩, by simp, by decide +kernel,
    ⟨[(2, [⟨[66], [66], -2⟩])], [⟨[66], [66], -2⟩], by simp, by simp, by simp⟩, by simp, by decide +kernel, trivial⟩⟩

/-- the port on a translator's own data: codes a (syllable 0) and b (syllable 1), delimiter ', input a'b — the word
graph of the table translator carries A on [0,2) and B on [2,3); the poet's sentence is AB over [0,3) -/
example :
    let t : Table := build id 2 [⟨[0], [65], ⟨3, 0⟩⟩, ⟨[1], [66], ⟨1, 0⟩⟩]
    let cps : Nat → List PrismKey := fun s => if s == 0 then [⟨1, [(0, 0)]⟩] else if s == 2 then [⟨1, [(1, 0)]⟩] else []
    (tablePoetGraph t [[97], [98]] [39] [97, 39, 98] cps).map (fun sv => (sv.1, sv.2.map fun ev => (ev.1, ev.2.map (·.text))))
      = [(0, [(2, [[65]])]), (2, [(3, [[66]])])] ∧
    (tableSentence t [[97], [98]] [39] [97, 39, 98] cps 0).map (fun c => (c.type, c.start, c.endPos, c.text)) = some ("sentence", 0, 3, [65, 66]) := by
  decide +kernel

end C07
