import RimeModel.Session.Commit
import RimeModel.Session.InvProc
import RimeModel.Session.Recompose
import RimeModel.Session.Shape
import RimeModel.Session.KeyBinderCommit
/-!
C03 — what is committed is what was shown, and it is delivered exactly once.  Property theorems only.
Model: RimeModel/Session/* (see C02).  `env.format` is the shape formatter (identity when full_shape is off).
-/
namespace C03
open RimeModel.Session

/-- (a) `commit_composition` on a composing state delivers exactly (the formatted) commit preview that
`get_context` reported immediately before: the session buffer grows by `format preview` and by nothing else. -/
theorem commit_eq_preview (env : Env) (c : Ctx) (hc : c.isComposing = true) :
    (apiStep env c .commitComposition).1.commitBuf = c.commitBuf ++ env.format (view env c).preview :=
  commit_commitBuf env c hc

/-- (b) selecting a candidate that covers the rest of the input (candidate and last segment both end at
the end of the raw input): the text to commit is the text shown ahead of the last segment followed by the
candidate's text — delivered at once by an auto-committing editor, otherwise it is the new commit preview
and nothing is delivered yet.  (`shownPrefix` = commit text of the earlier segments: confirmed selections
and the top guess of unconfirmed ones, exactly what the preedit shows ahead of the highlighted part.) -/
theorem select_to_end (env : Env) (c : Ctx) (g : Seg) (i : Nat) (cd : Cand)
    (hlast : c.comp.segs.getLast? = some g) (hcand : g.candAt i = some cd)
    (hstop : cd.stop = c.input.length) (hg : g.stop = c.input.length)
    (hlen : c.comp.input.length ≤ c.input.length) (hd : c.getOption "dumb" = false) :
    let c' := (Ctx.select env c i).1
    (c.getOption "_auto_commit" = true → c'.commitBuf = c.commitBuf ++ env.format (shownPrefix c ++ cd.text)) ∧
    (c.getOption "_auto_commit" = false → c'.commitText = shownPrefix c ++ cd.text ∧ c'.commitBuf = c.commitBuf) := by
  intro c'
  have hsegs : (c.modLastSeg fun g => { g with selIdx := i, status := .selected }).comp.segs =
      c.comp.segs.dropLast ++ [{ g with selIdx := i, status := .selected }] :=
    modLast_snoc _ _ hlast
  have hc' : c' = { Ctx.onSelect env (c.modLastSeg fun g => { g with selIdx := i, status := .selected }) with navSpans := [] } := by
    show (Ctx.select env c i).1 = _
    unfold Ctx.select
    rw [hlast]
    simp only [hcand]
  rw [hc']
  exact onSelect_end env _ _ _ cd hsegs hcand hg hstop hlen hd

/-- (b) for every state REACHABLE by a finite API history from a fresh session (any environment with
`ComposeSpec`): the length hypothesis of `select_to_end` is an invariant, so only the property's own
premise remains (candidate and last segment end at the end of the raw input, option `dumb` off) -/
theorem select_to_end_reachable (env : Env) (hrc : ComposeSpec env.recompose) (c0 : Ctx)
    (h0 : c0.input = [] ∧ c0.caret = 0 ∧ c0.comp.segs = [] ∧ c0.comp.input = []) (ops : List Op)
    (g : Seg) (i : Nat) (cd : Cand)
    (hlast : (runOps env c0 ops).comp.segs.getLast? = some g) (hcand : g.candAt i = some cd)
    (hstop : cd.stop = (runOps env c0 ops).input.length) (hg : g.stop = (runOps env c0 ops).input.length)
    (hd : (runOps env c0 ops).getOption "dumb" = false) :
    let c := runOps env c0 ops
    let c' := (Ctx.select env c i).1
    (c.getOption "_auto_commit" = true → c'.commitBuf = c.commitBuf ++ env.format (shownPrefix c ++ cd.text)) ∧
    (c.getOption "_auto_commit" = false → c'.commitText = shownPrefix c ++ cd.text ∧ c'.commitBuf = c.commitBuf) := by
  have hinv : Inv (runOps env c0 ops) :=
    runOps_inv hrc ops (Inv.of_fresh h0)
  exact select_to_end env _ g i cd hlast hcand hstop hg hinv.cinput_le hd

/-- the same through the API: `select_candidate_on_current_page i` addresses global index
`page_start + i`, where `page_start` is the first index of the page `get_context` displays -/
theorem select_on_page_index (env : Env) (c : Ctx) (g : Seg) (i : Nat)
    (hm : c.hasMenu = true) (hi : i < env.pageSize) (hlast : c.comp.segs.getLast? = some g) :
    (apiStep env c (.selectOnPage i)).1 = (Ctx.select env c (g.selIdx / env.pageSize * env.pageSize + i)).1 := by
  show (onCurrentPage env c i (Ctx.select env)).1 = _
  unfold onCurrentPage
  simp [hm, hlast, Nat.not_le.mpr hi]

/-- (c) after a commit the session no longer composes that input (for every Compose that maps the empty
input with no segments to no segments — discharged for the concrete port by `compose_empty_spec`) -/
theorem commit_clears (env : Env) (he : ComposeEmptySpec env.recompose) (c : Ctx) (hc : c.isComposing = true) :
    let c' := (apiStep env c .commitComposition).1
    c'.isComposing = false ∧ c'.input = [] ∧ c'.caret = 0 :=
  commit_not_composing env he c hc

theorem commit_clears_concrete (env : Env) (cfg : SegCfg) (henv : env.recompose = compose cfg) (c : Ctx)
    (hc : c.isComposing = true) : (apiStep env c .commitComposition).1.isComposing = false :=
  (commit_clears env (by rw [henv]; exact compose_empty_spec cfg) c hc).1

/-- (c) for schemas with the punctuation components (`composeP`) -/
theorem commit_clears_punct (env : Env) (cfg : PSegCfg) (henv : env.recompose = composeP cfg) (c : Ctx)
    (hc : c.isComposing = true) : (apiStep env c .commitComposition).1.isComposing = false :=
  (commit_clears env (by rw [henv]; exact composeP_empty_spec cfg) c hc).1

/-- (c) for schemas with the recognizer family (`composeR`: any list of ascii / matcher / abc / punct / affix / fallback
segmentors, any pattern search functions, any affix configurations) -/
theorem commit_clears_recognizer (env : Env) (cfg : RSegCfg) (henv : env.recompose = composeR cfg) (c : Ctx)
    (hc : c.isComposing = true) : (apiStep env c .commitComposition).1.isComposing = false :=
  (commit_clears env (by rw [henv]; exact composeR_empty_spec cfg) c hc).1

/-- (a) on a schema with the recognizer family, through the top API layer (`apiStepK`: the environment of the current
`full_shape`, the ascii composer's listener applied at the end): `commit_composition` on a composing state delivers
exactly the formatted commit preview reported just before — the prefix and suffix segments the affix segmentor splits
off are `phony` and contribute to neither — and nothing else -/
theorem commit_eq_preview_recognizer (envOf : Bool → Env) (c : Ctx) (hc : c.isComposing = true) :
    let env := envOf (c.getOption "full_shape")
    (apiStepK envOf c .commitComposition).1.commitBuf = c.commitBuf ++ env.format (view env c).preview := by
  show (acSettle (apiStep (envOf (c.getOption "full_shape")) c .commitComposition).1).commitBuf = _
  rw [acSettle_commitBuf]
  exact commit_eq_preview _ c hc

/-- (d) a key the recognizer takes (a pattern matches the input plus the character) is added to the input and delivers
nothing: the commit buffer is what it was, whatever the recomposition makes of the new input -/
theorem recognizer_key_delivers_nothing (env : Env) (k : Key) (c : Ctx) :
    (recognizerProcess env k c).1.commitBuf = c.commitBuf := by
  unfold recognizerProcess
  split
  · rfl
  · split
    · split
      · exact pushInput_commitBuf c _
      · rfl
    · rfl

/-- (a) for the punctuator's own commit: a `{commit: x}` definition (Punctuator::AutoCommitPunct, run on the state
the key press has just produced) delivers exactly the formatted preview of that state and nothing else -/
theorem punct_autocommit_eq_preview (env : Env) (key : Bool × UInt8) (t : Bytes) (c : Ctx) (hc : c.isComposing = true) :
    (punctFinish env key (.commit t) c).commitBuf = c.commitBuf ++ env.format (view env c).preview :=
  commit_commitBuf env c hc

/-- non-vacuity: `a` then `.` (`{commit: 。}`) in a fluid schema — the punctuator's commit delivers the preview shown after
the key was added to the input (`A。`), at once and once -/
example :
    let m : List (UInt8 × PunctDef) := [(46, .commit [0xe3, 0x80, 0x82])]
    let cfg : PSegCfg := { alphabet := [97], initials := [97], finals := [], delimiters := [],
                           translate := fun _ g => if g.tags.abc then [Cand.mk [65] [] [] g.start g.stop true] else [], punct := m }
    let env : Env := { pageSize := 5, alphabet := [97], initials := [97], processors := [.speller, .punctuator, .selector, .fluidEditor],
                       punct := { half := m }, recompose := composeP cfg }
    let c := runOps env {} [.key 97 0]
    let c1 := Ctx.pushInput env c 46
    (view env c1).preview = [65, 0xe3, 0x80, 0x82] ∧ punctTranslated c1 = true ∧
    (runOps env c [.key 46 0]).commitBuf = [65, 0xe3, 0x80, 0x82] ∧ (runOps env c [.key 46 0]).isComposing = false := by
  decide +kernel

/-- (b) for every state reachable on a schema WITH A KEY BINDER (`runOpsK`: bindings redirected through the nested chain,
option actions incl. those that change `full_shape`; both recomposition functions with `ComposeSpec`): selecting a
candidate that covers the rest of the input commits / previews exactly the text shown, in the environment `envOf b` of
either shape -/
theorem select_to_end_reachable_keybinder (envOf : Bool → Env) (hrc : ∀ b, ComposeSpec (envOf b).recompose) (c0 : Ctx)
    (h0 : c0.input = [] ∧ c0.caret = 0 ∧ c0.comp.segs = [] ∧ c0.comp.input = []) (ops : List Op) (b : Bool)
    (g : Seg) (i : Nat) (cd : Cand)
    (hlast : (runOpsK envOf c0 ops).comp.segs.getLast? = some g) (hcand : g.candAt i = some cd)
    (hstop : cd.stop = (runOpsK envOf c0 ops).input.length) (hg : g.stop = (runOpsK envOf c0 ops).input.length)
    (hd : (runOpsK envOf c0 ops).getOption "dumb" = false) :
    let c := runOpsK envOf c0 ops
    let c' := (Ctx.select (envOf b) c i).1
    (c.getOption "_auto_commit" = true → c'.commitBuf = c.commitBuf ++ (envOf b).format (shownPrefix c ++ cd.text)) ∧
    (c.getOption "_auto_commit" = false → c'.commitText = shownPrefix c ++ cd.text ∧ c'.commitBuf = c.commitBuf) := by
  have hinv : Inv (runOpsK envOf c0 ops) :=
    runOpsK_inv hrc ops (Inv.of_fresh h0)
  exact select_to_end (envOf b) _ g i cd hlast hcand hstop hg hinv.cinput_le hd

/-- (d) **a key bound to an option action delivers nothing**: when the binding the key binder finds for a key is `toggle:`,
`set_option:` or `unset_option:` (plain switch, radio group, switch index, or an option no switch declares), the key is
reported handled and the session's commit buffer is exactly what it was — whatever the recomposition the option change
triggers.  (Also true of ReinterpretPagingKey's `PushInput`, which runs before the lookup.) -/
theorem keybinder_option_action_delivers_nothing (env : Env) (reent : Key → Ctx → Ctx × Bool) (k : Key) (c : Ctx) (b : KbBinding)
    (hne : env.bindings ≠ []) (hre : (kbReinterpret env k c).2 = false)
    (hb : kbFind env k (kbReinterpret env k c).1 = some b) (ha : b.action.isOption = true) :
    (kbProcess reent env k c).2 = .accepted ∧ (kbProcess reent env k c).1.commitBuf = c.commitBuf := by
  unfold kbProcess
  simp only [hne, if_false, hre, Bool.false_eq_true, hb]
  exact ⟨trivial, by rw [kbPerform_option_commitBuf reent b.action ha, kbReinterpret_commitBuf]⟩

/-- non-vacuity: Shift+space bound to `toggle: full_shape` while `a` is being composed — handled, nothing delivered, the
option is on afterwards; then space commits the candidate through the shape formatter of the new value, once -/
example :
    let cfg : PSegCfg := { alphabet := [97], initials := [97], finals := [], delimiters := [],
                           translate := fun _ g => if g.tags.abc then [Cand.mk [65] [] [] g.start g.stop true] else [] }
    let envOf : Bool → Env := fun full =>
      { pageSize := 5, alphabet := [97], initials := [97], processors := [.keyBinder, .speller, .selector, .expressEditor],
        bindings := [⟨.always, 32, 1, .toggle "full_shape"⟩], format := if full then shapeFormat else id, recompose := composeP cfg }
    let c := runOpsK envOf { options := [("_auto_commit", true)] } [.key 97 0]
    let r := apiStepK envOf c (.key 32 1)
    r.2.ok = true ∧ r.1.commitBuf = [] ∧ r.1.getOption "full_shape" = true ∧ r.1.input = [97] ∧
    (runOpsK envOf r.1 [.key 32 0]).commitBuf = [0xef, 0xbc, 0xa1] ∧
    (apiStepK envOf (runOpsK envOf r.1 [.key 32 0]) .getCommit).2 = ⟨true, [0xef, 0xbc, 0xa1]⟩ := by
  decide +kernel

/-- (d) **a letter typed while Caps Lock is on** (ascii composer with a Caps_Lock switch style, good_old_caps_lock off): the key
is handled and exactly one character — the letter with its case swapped, through the shape formatter — is appended to the
commit buffer; the context is untouched. -/
theorem ascii_capslock_letter_delivered_once (env : Env) (st : AcStyle) (k : Key) (c : Ctx)
    (hkey : k.code ≠ xkCapsLock) (hcaps : k.caps = true) (hgood : env.goodOldCapsLock = false) (hrel : k.release = false)
    (hctrl : k.ctrl = false) (hal : isAsciiAlpha k.code = true) :
    acCapsLock env st k c = ({ c with commitBuf := c.commitBuf ++ env.format [swapCase k.code] }, .accepted) := by
  unfold acCapsLock
  simp [hkey, hcaps, hgood, hrel, hctrl, hal]

/-- (d) the end of the ascii composer's temporary inline mode (its context-update listener) delivers nothing -/
theorem ascii_inline_end_delivers_nothing (c : Ctx) : (acSettle c).commitBuf = c.commitBuf :=
  acSettle_commitBuf c

/-- non-vacuity: Caps_Lock is `clear`; with Caps Lock on (Lock bit set) `a` is delivered as `A`, once, and nothing is composed -/
example :
    let env : Env := { pageSize := 5, alphabet := [97], initials := [97], processors := [.asciiComposer, .speller, .expressEditor],
                       asciiKeys := [(xkCapsLock, .clear)] }
    let r := apiStepK (fun _ => env) {} (.key 97 kLock)
    r.2.ok = true ∧ r.1.commitBuf = [65] ∧ r.1.isComposing = false ∧
    (apiStepK (fun _ => env) r.1 .getCommit).2 = ⟨true, [65]⟩ ∧
    (apiStepK (fun _ => env) (apiStepK (fun _ => env) r.1 .getCommit).1 .getCommit).2 = ⟨false, []⟩ := by
  decide +kernel

/-- (d) `get_commit` returns the whole buffer and empties it; with an empty buffer it returns nothing -/
theorem read_returns_buffer (env : Env) (c : Ctx) (h : c.commitBuf ≠ []) :
    apiStep env c .getCommit = ({ c with commitBuf := [] }, ⟨true, c.commitBuf⟩) := by
  simp [apiStep, h]

theorem read_nothing (env : Env) (c : Ctx) (h : c.commitBuf = []) :
    apiStep env c .getCommit = (c, ⟨false, []⟩) := by
  simp [apiStep, h]

/-- an immediate second read returns nothing -/
theorem second_read_empty (env : Env) (c : Ctx) :
    (apiStep env (apiStep env c .getCommit).1 .getCommit).2 = ⟨false, []⟩ := by
  by_cases h : c.commitBuf = [] <;> simp [apiStep, h]

/-- (d) the delivery log: a read returns the concatenation, in order, of everything sunk since the previous
read (Session::OnCommit appends, RimeGetCommit copies then resets) -/
theorem delivery_exactly_once (d : Delivery) (ts : List Bytes) (h0 : d.buf = []) :
    ((ts.foldl Delivery.sink d).read).2 = (if ts.flatten = [] then none else some ts.flatten) ∧
    ((ts.foldl Delivery.sink d).read).1.read.2 = none := by
  have hbuf : ∀ (ts : List Bytes) (d : Delivery), (ts.foldl Delivery.sink d).buf = d.buf ++ ts.flatten := by
    intro ts
    induction ts with
    | nil => intro d; simp
    | cons t ts ih => intro d; simp [ih, Delivery.sink, List.append_assoc]
  have hb := hbuf ts d
  rw [h0, List.nil_append] at hb
  unfold Delivery.read
  rw [hb]
  by_cases he : ts.flatten = [] <;> simp [he, hb]

/-- the API read is the abstract read on the session buffer -/
theorem getCommit_refines_read (env : Env) (c : Ctx) :
    let r := apiStep env c .getCommit
    let a := (Delivery.mk c.commitBuf).read
    r.1.commitBuf = a.1.buf ∧ (if r.2.ok then some r.2.text else none) = a.2 := by
  by_cases h : c.commitBuf = [] <;> simp [apiStep, Delivery.read, h]

/-- non-vacuity of (b): a state meeting its hypotheses — one segment over "a", candidate covers it -/
example :
    let g : Seg := { status := .guess, start := 0, stop := 1, length := 1, menu := some [Cand.mk [65] [] [] 0 1 true] }
    let c : Ctx := { input := [97], caret := 1, comp := { input := [97], segs := [g] }, options := [("_auto_commit", true)] }
    c.comp.segs.getLast? = some g ∧ g.candAt 0 = some (Cand.mk [65] [] [] 0 1 true) ∧
    (1 : Nat) = c.input.length ∧ g.stop = c.input.length ∧ c.comp.input.length ≤ c.input.length ∧
    c.getOption "dumb" = false := by decide

end C03
