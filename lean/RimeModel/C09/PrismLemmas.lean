import RimeModel.C09.SortedLemmas
/-! C09 — lemmas about the prism model: alphabet, trie nodes, breadth-first order, `collect`. -/
namespace RimeModel.C09

theorem alphabetOf_eq (keys : List Bytes) : alphabetOf keys = keys.flatten.foldl (fun A c => insertSet sclt c A) [] :=
  List.foldl_flatten.symm

theorem alphabetOf_sorted (keys : List Bytes) : SortedBy sclt (alphabetOf keys) :=
  alphabetOf_eq keys ▸ (foldl_insertSet_spec sclt_order _ [] List.Pairwise.nil).1

theorem mem_alphabetOf (keys : List Bytes) (c : UInt8) : c ∈ alphabetOf keys ↔ ∃ k ∈ keys, c ∈ k := by
  rw [alphabetOf_eq, (foldl_insertSet_spec sclt_order _ [] List.Pairwise.nil).2, List.mem_flatten]
  exact or_iff_right List.not_mem_nil

theorem isNode_iff {keys : List Bytes} {s : Bytes} : isNode keys s = true ↔ s = [] ∨ ∃ k ∈ keys, s <+: k := by
  simp only [isNode, Bool.or_eq_true, decide_eq_true_eq, List.any_eq_true, List.isPrefixOf_iff_prefix]

theorem isNode_of_mem {keys : List Bytes} {k : Bytes} (h : k ∈ keys) : isNode keys k = true :=
  isNode_iff.mpr (Or.inr ⟨k, h, List.prefix_rfl⟩)

theorem isNode_of_prefix {keys : List Bytes} {p x : Bytes} (hx : isNode keys x = true) (hp : p <+: x) :
    isNode keys p = true := by
  rcases isNode_iff.mp hx with rfl | ⟨k, hk, hxk⟩
  · exact isNode_iff.mpr (Or.inl (List.prefix_nil.mp hp))
  · exact isNode_iff.mpr (Or.inr ⟨k, hk, hp.trans hxk⟩)

theorem length_le_foldl_max (keys : List Bytes) (m : Nat) :
    m ≤ keys.foldl (fun m k => max m k.length) m ∧ ∀ k ∈ keys, k.length ≤ keys.foldl (fun m k => max m k.length) m := by
  induction keys generalizing m with
  | nil => exact ⟨Nat.le_refl _, fun _ h => absurd h List.not_mem_nil⟩
  | cons x keys ih =>
    have ⟨h1, h2⟩ := ih (max m x.length)
    exact ⟨Nat.le_trans (Nat.le_max_left ..) h1,
      List.forall_mem_cons.mpr ⟨Nat.le_trans (Nat.le_max_right ..) h1, h2⟩⟩

theorem length_le_maxLen {keys : List Bytes} {k : Bytes} (h : k ∈ keys) : k.length ≤ maxLen keys :=
  (length_le_foldl_max keys 0).2 k h

theorem lexSc_snoc_of_lex (x y : Bytes) (a b : UInt8) (h : lexSc x y) (hl : x.length = y.length) :
    lexSc (x ++ [a]) (y ++ [b]) := by
  induction x generalizing y with
  | nil => exact h.elim
  | cons c x ih =>
    cases y with
    | nil => exact h.elim
    | cons d y => exact h.imp_right fun h => ⟨h.1, ih y h.2 (Nat.succ.inj hl)⟩

theorem lexSc_snoc_same (x : Bytes) (a b : UInt8) (h : sc a < sc b) : lexSc (x ++ [a]) (x ++ [b]) := by
  induction x with
  | nil => exact Or.inl h
  | cons c x ih => exact Or.inr ⟨rfl, ih⟩

section bfs
variable {keys : List Bytes} {A : List UInt8} {q : Bytes}

theorem mem_children {p x : Bytes} :
    x ∈ children keys A p ↔ ∃ c ∈ A, x = p ++ [c] ∧ isNode keys x = true := by
  rw [children, List.mem_filter, List.mem_map]
  exact ⟨fun ⟨⟨c, hc, e⟩, hn⟩ => ⟨c, hc, e.symm, hn⟩, fun ⟨c, hc, e, hn⟩ => ⟨⟨c, hc, e.symm⟩, hn⟩⟩

theorem pairwise_children (hA : SortedBy sclt A) (p : Bytes) :
    (children keys A p).Pairwise lexSc :=
  List.Pairwise.filter _ (List.pairwise_map.mpr (hA.imp fun h => lexSc_snoc_same p _ _ (of_decide_eq_true h)))

/-- `L` is exactly the set of trie nodes of length `m` below `q`, in `char`-lexicographic order -/
def LevelInv (keys : List Bytes) (q : Bytes) (m : Nat) (L : List Bytes) : Prop :=
  L.Pairwise lexSc ∧ ∀ x, x ∈ L ↔ (isNode keys x = true ∧ q <+: x ∧ x.length = m)

theorem levelInv_self (hq : isNode keys q = true) : LevelInv keys q q.length [q] :=
  ⟨List.pairwise_singleton .., fun _ => List.mem_singleton.trans
    ⟨fun e => e.symm ▸ ⟨hq, List.prefix_rfl, rfl⟩, fun ⟨_, h2, h3⟩ => (h2.eq_of_length h3.symm).symm⟩⟩

variable (hA : SortedBy sclt A) (hcov : ∀ k ∈ keys, ∀ c ∈ k, c ∈ A)
include hA hcov

theorem levelInv_next {m : Nat} (hm : q.length ≤ m) {L : List Bytes}
    (hL : LevelInv keys q m L) : LevelInv keys q (m + 1) (L.flatMap (children keys A)) := by
  refine ⟨List.pairwise_flatMap.mpr ⟨fun p _ => pairwise_children hA p, ?_⟩, fun x => ?_⟩
  · refine hL.1.imp_of_mem fun {p1 p2} h1 h2 hlex x hx y hy => ?_
    obtain ⟨a, _, rfl, _⟩ := mem_children.mp hx
    obtain ⟨b, _, rfl, _⟩ := mem_children.mp hy
    exact lexSc_snoc_of_lex p1 p2 a b hlex (((hL.2 p1).mp h1).2.2.trans ((hL.2 p2).mp h2).2.2.symm)
  · rw [List.mem_flatMap]
    constructor
    · rintro ⟨p, hp, hx⟩
      obtain ⟨c, _, rfl, hn⟩ := mem_children.mp hx
      obtain ⟨_, hqp, hlen⟩ := (hL.2 p).mp hp
      exact ⟨hn, hqp.trans (List.prefix_append p [c]), by rw [List.length_append, hlen]; rfl⟩
    · rintro ⟨hn, hq, hlen⟩
      -- the parent of `x` is on level `m`, and the last letter of `x` is in the alphabet
      have hne : x ≠ [] := fun e => by rw [e] at hlen; cases hlen
      have hpl : x.dropLast.length = m := by rw [List.length_dropLast, hlen]; rfl
      refine ⟨x.dropLast, (hL.2 _).mpr ⟨isNode_of_prefix hn (List.dropLast_prefix x),
        List.prefix_of_prefix_length_le hq (List.dropLast_prefix x) (hpl ▸ hm), hpl⟩,
        mem_children.mpr ⟨x.getLast hne, ?_, (List.dropLast_concat_getLast hne).symm, hn⟩⟩
      rcases isNode_iff.mp hn with h | ⟨k, hk, hxk⟩
      · exact absurd h hne
      · exact hcov k hk _ (hxk.subset (List.getLast_mem hne))

theorem bfs_spec (d m : Nat) (hm : q.length ≤ m) (L : List Bytes)
    (hL : LevelInv keys q m L) :
    (bfs keys A d L).Pairwise bfsLt ∧
    ∀ x, x ∈ bfs keys A d L ↔ (isNode keys x = true ∧ q <+: x ∧ m < x.length ∧ x.length ≤ m + d) := by
  induction d generalizing m L with
  | zero => exact ⟨List.Pairwise.nil, fun x => iff_of_false List.not_mem_nil fun h => Nat.lt_irrefl _ (Nat.lt_of_lt_of_le h.2.2.1 h.2.2.2)⟩
  | succ d ih =>
    have hnext := levelInv_next hA hcov hm hL
    have ⟨ih1, ih2⟩ := ih (m + 1) (Nat.le_succ_of_le hm) _ hnext
    rw [bfs]
    refine ⟨List.pairwise_append.mpr ⟨?_, ih1, fun a ha b hb => ?_⟩, fun x => ?_⟩
    · exact hnext.1.imp_of_mem fun {a b} ha hb hlex =>
        Or.inr ⟨((hnext.2 a).mp ha).2.2.trans ((hnext.2 b).mp hb).2.2.symm, hlex⟩
    · exact Or.inl (((hnext.2 a).mp ha).2.2 ▸ ((ih2 b).mp hb).2.2.1)
    · rw [List.mem_append, hnext.2 x, ih2 x]
      constructor
      · rintro (⟨h1, h2, h3⟩ | ⟨h1, h2, h3, h4⟩)
        · exact ⟨h1, h2, h3 ▸ Nat.lt_succ_self m, h3 ▸ Nat.add_le_add_left (Nat.le_add_left 1 d) m⟩
        · exact ⟨h1, h2, Nat.lt_of_succ_lt h3, Nat.succ_add_eq_add_succ m d ▸ h4⟩
      · rintro ⟨h1, h2, h3, h4⟩
        rcases Nat.eq_or_lt_of_le (Nat.succ_le_of_lt h3) with h | h
        · exact Or.inl ⟨h1, h2, h.symm⟩
        · exact Or.inr ⟨h1, h2, h, (Nat.succ_add_eq_add_succ m d).symm ▸ h4⟩

/-- the visiting order of `ExpandSearch` below a node `q`: exactly the nodes extending `q` (up to the
depth bound), strictly increasing in the breadth-first order -/
theorem visited_spec (hq : isNode keys q = true) (d : Nat) :
    (q :: bfs keys A d [q]).Pairwise bfsLt ∧
    ∀ x, x ∈ q :: bfs keys A d [q] ↔ (isNode keys x = true ∧ q <+: x ∧ x.length ≤ q.length + d) := by
  have ⟨h1, h2⟩ := bfs_spec hA hcov d q.length (Nat.le_refl _) [q] (levelInv_self hq)
  refine ⟨List.pairwise_cons.mpr ⟨fun x hx => Or.inl ((h2 x).mp hx).2.2.1, h1⟩, fun x => ?_⟩
  rw [List.mem_cons, h2 x]
  constructor
  · rintro (rfl | ⟨h1, h2, _, h4⟩)
    · exact ⟨hq, List.prefix_rfl, Nat.le_add_right ..⟩
    · exact ⟨h1, h2, h4⟩
  · rintro ⟨h1, h2, h3⟩
    rcases Nat.eq_or_lt_of_le h2.length_le with hl | hl
    · exact Or.inl (h2.eq_of_length hl).symm
    · exact Or.inr ⟨h1, h2, hl, h3⟩

end bfs

theorem collect_spec (limit : Nat) (ms : List Match) (c : Nat) (h : limit = 0 ∨ c < limit) :
    collect limit ms c = if limit = 0 then ms else ms.take (limit - c) := by
  induction ms generalizing c with
  | nil => rw [List.take_nil, ite_self]; rfl
  | cons m ms ih =>
    rw [collect]
    by_cases h0 : limit = 0
    · rw [if_neg fun h => h.1 h0, if_neg (not_not_intro h0), ih c h, if_pos h0, if_pos h0]
    · have hc : c < limit := h.resolve_left h0
      rw [if_neg h0, ← Nat.succ_pred_eq_of_pos (Nat.sub_pos_of_lt hc), List.take_succ_cons, ← Nat.sub_succ]
      by_cases h1 : c + 1 ≥ limit
      · rw [if_pos ⟨h0, h1⟩, Nat.sub_eq_zero_of_le h1]; rfl
      · rw [if_neg fun h => h1 h.2, if_pos h0, ih (c + 1) (Or.inr (Nat.lt_of_not_le h1)), if_neg h0]
theorem filterMap_idx (keys : List Bytes) (V : List Bytes) :
    V.filterMap (fun s => (idx? s keys).map (fun v => (⟨v, s.length⟩ : Match))) =
      (V.filter (fun s => (idx? s keys).isSome)).map (matchOf keys) := by
  induction V with
  | nil => rfl
  | cons s V ih =>
    rw [List.filterMap_cons, List.filter_cons, ih]
    cases h : idx? s keys with
    | none => rfl
    | some v => rw [Option.map_some, Option.isSome_some, if_pos rfl, List.map_cons, matchOf, h]; rfl

end RimeModel.C09
