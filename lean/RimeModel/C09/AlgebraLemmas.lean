import RimeModel.C09.SortedLemmas
/-! C09 — lemmas about `mergeOne` / `mergeVec` / `Script.merge` / `round` / `applyRules`, about
`Script.addSyllable` / `Script.ofSyllabary`, and about the fold `Merge` performs per syllable (`propsOf`,
`accum`: the least candidate wins). -/
namespace RimeModel.C09

variable {syl : List Bytes} {S : Script}

theorem mem_strs_mergeOne {y : Spelling} {m : List Spelling} {s : Bytes} :
    s ∈ (mergeOne y m).map (·.str) ↔ s ∈ m.map (·.str) ∨ s = y.str := by
  induction m with
  | nil => exact List.mem_singleton.trans (or_iff_right List.not_mem_nil).symm
  | cons z zs ih =>
    rw [mergeOne]
    split
    · exact (or_iff_left_of_imp fun e => e ▸ ‹z.str = y.str› ▸ List.mem_cons_self).symm
    · rw [List.map_cons, List.mem_cons, ih, List.map_cons, List.mem_cons, or_assoc]

theorem nodup_strs_mergeOne (y : Spelling) {m : List Spelling} (hm : (m.map (·.str)).Nodup) :
    ((mergeOne y m).map (·.str)).Nodup := by
  induction m with
  | nil => exact List.pairwise_singleton ..
  | cons z zs ih =>
    have ⟨hz, hzs⟩ := List.nodup_cons.mp hm
    rw [mergeOne]
    split
    · exact hm
    · exact List.nodup_cons.mpr ⟨fun h => (mem_strs_mergeOne.mp h).elim hz ‹¬ z.str = y.str›, ih hzs⟩

theorem forall_mem_mergeOne {P : Spelling → Prop} {y : Spelling} {m : List Spelling} (hm : ∀ x ∈ m, P x) (hy : P y)
    (habs : ∀ z, P z → P { z with props := absorb y.props z.props }) : ∀ x ∈ mergeOne y m, P x := by
  induction m with
  | nil => exact List.forall_mem_singleton.mpr hy
  | cons z zs ih =>
    have ⟨hz, hzs⟩ := List.forall_mem_cons.mp hm
    rw [mergeOne]
    split
    · exact List.forall_mem_cons.mpr ⟨habs z hz, hzs⟩
    · exact List.forall_mem_cons.mpr ⟨hz, ih hzs⟩

/-- `VecOK` without non-emptiness: what holds of `(*this)[s]` while `Merge` runs (the vector may just have been created) -/
def VecOK' (syl : List Bytes) (v : List Spelling) : Prop :=
  (∀ x ∈ v, x.str ∈ syl ∧ x.props.tips = []) ∧ (v.map (·.str)).Nodup

theorem mergeVec_nil (sp : Props) (m : List Spelling) : mergeVec sp [] m = m := rfl

theorem mergeVec_cons (sp : Props) (x : Spelling) (v m : List Spelling) :
    mergeVec sp (x :: v) m = mergeVec sp v (mergeOne ⟨x.str, mergeProps sp x.props⟩ m) := rfl

theorem mergeProps_tips {sp xp : Props} (h1 : sp.tips = []) (h2 : xp.tips = []) : (mergeProps sp xp).tips = [] := by
  rw [mergeProps, h1, h2]; rfl

theorem mem_strs_mergeVec (sp : Props) (v m : List Spelling) (s : Bytes) :
    s ∈ (mergeVec sp v m).map (·.str) ↔ s ∈ m.map (·.str) ∨ s ∈ v.map (·.str) := by
  induction v generalizing m with
  | nil => exact (or_iff_left List.not_mem_nil).symm
  | cons x v ih => rw [mergeVec_cons, ih, mem_strs_mergeOne, List.map_cons, List.mem_cons, or_assoc]

theorem vecOK_mergeVec {sp : Props} (hsp : sp.tips = []) {v m : List Spelling}
    (hv : VecOK syl v) (hm : VecOK' syl m) : VecOK syl (mergeVec sp v m) := by
  -- every `mergeOne` keeps `VecOK'`
  have hm' : VecOK' syl (mergeVec sp v m) :=
    List.foldlRecOn (motive := VecOK' syl) v _ hm fun _ hm x hx =>
      ⟨forall_mem_mergeOne hm.1 ⟨(hv.2.1 x hx).1, mergeProps_tips hsp (hv.2.1 x hx).2⟩ fun _ hz => ⟨hz.1, rfl⟩,
        nodup_strs_mergeOne _ hm.2⟩
  refine ⟨fun e => ?_, hm'⟩
  obtain ⟨x, v', rfl⟩ := List.exists_cons_of_ne_nil hv.1
  have := (mem_strs_mergeVec sp (x :: v') m x.str).mpr (Or.inr List.mem_cons_self)
  rw [e] at this; cases this

theorem sorted_merge (s : Bytes) (sp : Props) (v : List Spelling) (h : SortedBy blt S.keys) :
    SortedBy blt (S.merge s sp v).keys :=
  sorted_upsert_keys blt_order s _ _ S h

theorem get?_merge_self (s : Bytes) (sp : Props) (v : List Spelling) (h : SortedBy blt S.keys) :
    (S.merge s sp v).get? s = some (mergeVec sp v ((S.get? s).getD [])) :=
  lookup_upsert_self blt_order s _ _ S h

theorem get?_merge_ne {s k : Bytes} (sp : Props) (v : List Spelling) (h : k ≠ s) :
    (S.merge s sp v).get? k = S.get? k :=
  lookup_upsert_ne blt_order _ _ h S

theorem wf_merge (hS : S.WF syl) (s : Bytes) {sp : Props} (hsp : sp.tips = [])
    {v : List Spelling} (hv : VecOK syl v) : (S.merge s sp v).WF syl := by
  refine ⟨sorted_merge s sp v hS.1, forall_mem_upsert blt_order hS.1 hS.2 (vecOK_mergeVec hsp hv ?_)⟩
  cases h : List.lookup s S with
  | none => exact ⟨fun _ h => absurd h List.not_mem_nil, List.nodup_nil⟩
  | some old => exact (hS.2 _ (mem_of_lookup_eq_some h)).2

theorem spells_merge_mono (hS : SortedBy blt S.keys) (s : Bytes) (sp : Props) (v : List Spelling)
    {k y : Bytes} (h : S.spells k y) : (S.merge s sp v).spells k y := by
  obtain ⟨w, hw, hy⟩ := h
  by_cases hk : k = s
  · subst hk
    exact ⟨_, get?_merge_self k sp v hS, (mem_strs_mergeVec sp v _ y).mpr (Or.inl (hw ▸ hy))⟩
  · exact ⟨w, (get?_merge_ne sp v hk).trans hw, hy⟩

theorem spells_merge_new (hS : SortedBy blt S.keys) (s : Bytes) (sp : Props) {v : List Spelling}
    {x : Spelling} (hx : x ∈ v) : (S.merge s sp v).spells s x.str :=
  ⟨_, get?_merge_self s sp v hS, (mem_strs_mergeVec sp v _ _).mpr (Or.inr (List.mem_map_of_mem hx))⟩

theorem effect_tips (k : Kind) : k.effect.tips = [] := by cases k <;> rfl

/-- a round step is at most two `Merge`s of the entry's vector, each with properties that carry no tips -/
theorem roundStep_induction {P : Script → Prop} (r : Rule) (e : Bytes × List Spelling)
    (hm : ∀ T s sp, sp.tips = [] → P T → P (T.merge s sp e.2)) {T : Script} (hT : P T) : P (roundStep r T e) := by
  unfold roundStep
  split
  · split <;> split
    · -- adds the result, drops the spelling
      exact hm _ _ _ (effect_tips _) hT
    · -- drops the spelling, adds nothing
      exact hT
    · -- keeps the spelling and adds the result
      exact hm _ _ _ (effect_tips _) (hm _ _ _ rfl hT)
    · -- keeps the spelling, adds nothing
      exact hm _ _ _ rfl hT
  · exact hm _ _ _ rfl hT

theorem foldl_roundStep_induction {P : Script → Prop} (r : Rule) (l : Script)
    (hm : ∀ e ∈ l, ∀ T s sp, sp.tips = [] → P T → P (T.merge s sp e.2)) {T : Script} (hT : P T) :
    P (l.foldl (roundStep r) T) :=
  List.foldlRecOn l (roundStep r) hT fun _ hT e he => roundStep_induction r e (hm e he) hT

theorem round_eq_some {r : Rule} {S T : Script} (h : round r S = some T) : T = S.foldl (roundStep r) [] := by
  unfold round at h
  split at h
  · cases h
  · exact (Option.some.inj h).symm

theorem wf_round {r : Rule} {S T : Script} (hS : S.WF syl) (h : round r S = some T) : T.WF syl := by
  rw [round_eq_some h]
  exact foldl_roundStep_induction (P := Script.WF syl) r S (fun e he _ s _ hsp hT => wf_merge hT s hsp (hS.2 e he))
    ⟨List.Pairwise.nil, fun _ h => absurd h List.not_mem_nil⟩

theorem applyRules_induction {P : Script → Prop} (rules : List Rule) (m : Bool) (hS : P S)
    (hr : ∀ r ∈ rules, ∀ S T, P S → round r S = some T → P T) : P (applyRules rules S m).2 := by
  induction rules generalizing S m with
  | nil => exact hS
  | cons r rs ih =>
    rw [applyRules]
    split
    · exact hS
    · exact ih _ (hr r List.mem_cons_self _ _ hS ‹_›) fun r' hr' => hr r' (List.mem_cons_of_mem _ hr')

theorem apply_induction {P : Script → Prop} (rules : List Rule) (hS : P S)
    (hr : ∀ r ∈ rules, ∀ S T, P S → round r S = some T → P T) : P (Projection.apply rules S).2 := by
  unfold Projection.apply
  split
  · exact hS
  · exact applyRules_induction rules false hS hr

theorem wf_apply (rules : List Rule) (hS : S.WF syl) :
    (Projection.apply rules S).2.WF syl :=
  apply_induction (P := Script.WF syl) rules hS fun _ _ _ _ hS h => wf_round hS h

theorem sorted_foldl_roundStep (r : Rule) (l : Script) {T : Script} (hT : SortedBy blt T.keys) :
    SortedBy blt (l.foldl (roundStep r) T).keys :=
  foldl_roundStep_induction (P := fun T => SortedBy blt T.keys) r l (fun _ _ _ s sp _ h => sorted_merge s sp _ h) hT

theorem spells_roundStep_keep (r : Rule) {T : Script} (hT : SortedBy blt T.keys) (e : Bytes × List Spelling)
    (hkeep : ¬ (r.kind.deletion = true ∧ (r.run e.1).isApplied = true)) {x : Spelling} (hx : x ∈ e.2) :
    (roundStep r T e).spells e.1 x.str := by
  unfold roundStep
  split
  · rename_i res hres
    have hdel : r.kind.deletion = false :=
      Bool.eq_false_iff.mpr fun hd => hkeep ⟨hd, by rw [hres]; rfl⟩
    simp only [hdel]
    split
    · exact spells_merge_mono (sorted_merge _ _ _ hT) _ _ _ (spells_merge_new hT _ _ hx)
    · exact spells_merge_new hT _ _ hx
  · exact spells_merge_new hT _ _ hx

theorem spells_round_keep {r : Rule} {S T : Script} (h : round r S = some T) {k y : Bytes} (hs : S.spells k y)
    (hkeep : ¬ (r.kind.deletion = true ∧ (r.run k).isApplied = true)) : T.spells k y := by
  obtain ⟨v, hv, hy⟩ := hs
  obtain ⟨x, hx, rfl⟩ := List.mem_map.mp hy
  -- the round re-enters `k ↦ x` when it comes to the entry of `k`; the steps after that only merge
  obtain ⟨l₁, l₂, rfl, _⟩ := List.lookup_eq_some_iff.mp hv
  rw [round_eq_some h, List.foldl_append, List.foldl_cons]
  have h₁ := sorted_foldl_roundStep r l₁ (T := []) List.Pairwise.nil
  exact (foldl_roundStep_induction (P := fun T => SortedBy blt T.keys ∧ T.spells k x.str) r l₂
    (fun _ _ _ s sp _ hT => ⟨sorted_merge s sp _ hT.1, spells_merge_mono hT.1 s sp _ hT.2⟩)
    ⟨sorted_foldl_roundStep r [(k, v)] h₁, spells_roundStep_keep r h₁ (k, v) hkeep hx⟩).2

theorem exists_deleting_of_not_spells_apply (rules : List Rule) (S : Script) {k y : Bytes} (hs : S.spells k y)
    (hn : ¬ (Projection.apply rules S).2.spells k y) : ∃ r ∈ rules, r.kind.deletion = true ∧ (r.run k).isApplied = true :=
  apply_induction (P := fun T => ¬ T.spells k y → ∃ r ∈ rules, r.kind.deletion = true ∧ (r.run k).isApplied = true)
    rules (fun hn => absurd hs hn)
    (fun r hr _ _ hS hT hn => Decidable.byCases (fun hdel => ⟨r, hr, hdel⟩)
      fun hkeep => hS fun hs => hn (spells_round_keep hT hs hkeep))
    hn

/-- what `AddSyllable` keeps: sorted keys, and every entry is a syllable of the syllabary spelled by its own name -/
def IdentityLike (syl : List Bytes) (S : Script) : Prop :=
  SortedBy blt S.keys ∧ ∀ e ∈ S, e.1 ∈ syl ∧ e.2 = [⟨e.1, {}⟩]

theorem identityLike_addSyllable (hS : IdentityLike syl S) {y : Bytes}
    (hy : y ∈ syl) : IdentityLike syl (S.addSyllable y) := by
  unfold Script.addSyllable
  split
  · exact hS
  · rename_i hnone
    refine ⟨sorted_upsert_keys blt_order y _ _ S hS.1, forall_mem_upsert blt_order hS.1 hS.2 ⟨hy, ?_⟩⟩
    rw [show List.lookup y S = none from hnone]; rfl

theorem mem_keys_addSyllable (S : Script) (y k : Bytes) : k ∈ (S.addSyllable y).keys ↔ k ∈ S.keys ∨ k = y := by
  unfold Script.addSyllable
  split
  · rename_i v hv
    exact (or_iff_left_of_imp fun e => e ▸ List.mem_map_of_mem (f := (·.1)) (mem_of_lookup_eq_some hv)).symm
  · rw [Script.keys, upsert_keys, mem_insertSet blt_order, or_comm]; rfl

theorem foldl_addSyllable_spec (l : List Bytes) (hS : IdentityLike syl S)
    (hl : ∀ y ∈ l, y ∈ syl) :
    IdentityLike syl (l.foldl Script.addSyllable S) ∧
      ∀ k, k ∈ (l.foldl Script.addSyllable S).keys ↔ k ∈ S.keys ∨ k ∈ l := by
  induction l generalizing S with
  | nil => exact ⟨hS, fun k => (or_iff_left List.not_mem_nil).symm⟩
  | cons y l ih =>
    have ⟨hy, hl⟩ := List.forall_mem_cons.mp hl
    have ⟨h1, h2⟩ := ih (identityLike_addSyllable hS hy) hl
    exact ⟨h1, fun k => by rw [List.foldl_cons, h2, mem_keys_addSyllable, List.mem_cons, or_assoc]⟩

theorem ofSyllabary_spec (syl : List Bytes) :
    IdentityLike syl (Script.ofSyllabary syl) ∧ ∀ k, k ∈ (Script.ofSyllabary syl).keys ↔ k ∈ syl := by
  have ⟨h1, h2⟩ := foldl_addSyllable_spec (syl := syl) syl (S := [])
    ⟨List.Pairwise.nil, fun _ h => absurd h List.not_mem_nil⟩ (fun _ h => h)
  exact ⟨h1, fun k => (h2 k).trans (or_iff_right List.not_mem_nil)⟩

theorem wf_ofSyllabary (syl : List Bytes) : (Script.ofSyllabary syl).WF syl :=
  have ⟨h1, h2⟩ := (ofSyllabary_spec syl).1
  ⟨h1, fun e he => (h2 e he).2 ▸
    ⟨List.cons_ne_nil _ _, List.forall_mem_singleton.mpr ⟨(h2 e he).1, rfl⟩, List.pairwise_singleton ..⟩⟩

theorem ofSyllabary_spells_self {y : Bytes} (hy : y ∈ syl) : (Script.ofSyllabary syl).spells y y := by
  have ⟨⟨h1, h2⟩, h3⟩ := ofSyllabary_spec syl
  obtain ⟨⟨k, v⟩, he, rfl⟩ := List.mem_map.mp ((h3 y).mpr hy)
  have hv : v = [⟨k, {}⟩] := (h2 _ he).2
  exact ⟨v, lookup_eq_some_of_mem blt_order h1 he, hv ▸ List.mem_singleton.mpr rfl⟩

theorem propsOf_nil (t : Bytes) : propsOf [] t = none := rfl

theorem propsOf_cons (z : Spelling) (zs : List Spelling) (t : Bytes) :
    propsOf (z :: zs) t = if z.str = t then some z.props else propsOf zs t := by
  rw [propsOf, List.find?_cons]
  by_cases h : z.str = t
  · rw [if_pos h, decide_eq_true h]; rfl
  · rw [if_neg h, decide_eq_false h]; rfl

/-- what `mergeOne y` does to the properties recorded for `y.str`: `absorb` into those already there, else
start with those of `y` -/
def accum (acc : Option Props) (y : Props) : Option Props :=
  some (match acc with
    | some z => absorb y z
    | none => y)

theorem propsOf_mergeOne (y : Spelling) (t : Bytes) (m : List Spelling) :
    propsOf (mergeOne y m) t = if y.str = t then accum (propsOf m t) y.props else propsOf m t := by
  induction m with
  | nil => exact propsOf_cons y [] t
  | cons z zs ih =>
    rw [mergeOne, propsOf_cons z]
    by_cases hz : z.str = y.str
    · rw [if_pos hz, propsOf_cons, ← hz]
      by_cases ht : z.str = t
      · simp only [if_pos ht]; rfl
      · simp only [if_neg ht]
    · rw [if_neg hz, propsOf_cons, ih]
      by_cases ht : z.str = t
      · simp only [if_pos ht, if_neg fun e : y.str = t => hz (ht.trans e.symm)]
      · simp only [if_neg ht]
theorem propsOf_mergeVec (sp : Props) (t : Bytes) (v m : List Spelling) :
    propsOf (mergeVec sp v m) t =
      ((v.filter (fun x => x.str = t)).map (fun x => mergeProps sp x.props)).foldl accum (propsOf m t) := by
  induction v generalizing m with
  | nil => rfl
  | cons x v ih =>
    rw [mergeVec_cons, ih, propsOf_mergeOne, List.filter_cons]
    by_cases h : x.str = t
    · rw [if_pos h, if_pos (decide_eq_true h)]; rfl
    · rw [if_neg h, if_neg (by rw [decide_eq_false h]; exact Bool.false_ne_true)]

theorem absorb_type (c a : Props) :
    ((absorb c a).type = a.type ∧ a.type.rank ≤ c.type.rank) ∨ ((absorb c a).type = c.type ∧ c.type.rank ≤ a.type.rank) :=
  Decidable.byCases (fun h : c.type.rank < a.type.rank => Or.inr ⟨if_pos h, Nat.le_of_lt h⟩)
    fun h => Or.inl ⟨if_neg h, Nat.not_lt.mp h⟩

theorem absorb_cred (c a : Props) :
    ((absorb c a).cred = a.cred ∧ c.cred ≤ a.cred) ∨ ((absorb c a).cred = c.cred ∧ a.cred ≤ c.cred) :=
  Decidable.byCases (fun h : c.cred > a.cred => Or.inr ⟨if_pos h, Int.le_of_lt h⟩)
    fun h => Or.inl ⟨if_neg h, Int.not_lt.mp h⟩

section least
variable {α : Type} {f : Props → α} {le : α → α → Prop} (refl : ∀ a, le a a)
  (trans : ∀ {a b c}, le a b → le b c → le a c)
  (hsel : ∀ c a, (f (absorb c a) = f a ∧ le (f a) (f c)) ∨ (f (absorb c a) = f c ∧ le (f c) (f a)))
include refl trans hsel

/-- `absorb` keeps, of a quantity `f` of the two elements, the one that is least in the order `le`: then
folding `accum` over candidates yields a least one, and it is attained -/
theorem foldl_accum_least (cs : List Props) (acc : Option Props) (h : acc.toList ++ cs ≠ []) :
    ∃ z, cs.foldl accum acc = some z ∧ (∀ c ∈ acc.toList ++ cs, le (f z) (f c)) ∧
      ∃ c ∈ acc.toList ++ cs, f z = f c := by
  -- the fold starts from the first candidate, be it the old element or the first of `cs`
  suffices hs : ∀ (cs : List Props) (a : Props), ∃ z, cs.foldl accum (some a) = some z ∧
      (∀ c ∈ a :: cs, le (f z) (f c)) ∧ ∃ c ∈ a :: cs, f z = f c by
    cases acc with
    | some a => exact hs cs a
    | none => cases cs with
      | nil => exact absurd rfl h
      | cons c cs => exact hs cs c
  intro cs a
  induction cs generalizing a with
  | nil => exact ⟨a, rfl, List.forall_mem_singleton.mpr (refl _), a, List.mem_singleton.mpr rfl, rfl⟩
  | cons c cs ih =>
    obtain ⟨z, hz, hle, w, hw, hzw⟩ := ih (absorb c a)
    have ⟨hhd, htl⟩ := List.forall_mem_cons.mp hle
    -- `z` is below `absorb c a`, which is the lesser of `a` and `c`
    have hac : le (f z) (f a) ∧ le (f z) (f c) ∧ (f (absorb c a) = f a ∨ f (absorb c a) = f c) := by
      rcases hsel c a with ⟨e, h⟩ | ⟨e, h⟩
      · exact ⟨e ▸ hhd, trans (e ▸ hhd) h, Or.inl e⟩
      · exact ⟨trans (e ▸ hhd) h, e ▸ hhd, Or.inr e⟩
    refine ⟨z, hz, List.forall_mem_cons.mpr ⟨hac.1, List.forall_mem_cons.mpr ⟨hac.2.1, htl⟩⟩, ?_⟩
    rcases List.mem_cons.mp hw with rfl | hw
    · rcases hac.2.2 with e | e
      · exact ⟨a, List.mem_cons_self, hzw.trans e⟩
      · exact ⟨c, List.mem_cons_of_mem _ List.mem_cons_self, hzw.trans e⟩
    · exact ⟨w, List.mem_cons_of_mem _ (List.mem_cons_of_mem _ hw), hzw⟩

theorem mergeVec_least (sp : Props) (v m : List Spelling) (t : Bytes) (h : mergeCandidates sp v m t ≠ []) :
    ∃ z, propsOf (mergeVec sp v m) t = some z ∧
      (∀ c ∈ mergeCandidates sp v m t, le (f z) (f c)) ∧ ∃ c ∈ mergeCandidates sp v m t, f z = f c := by
  rw [propsOf_mergeVec]
  exact foldl_accum_least refl trans hsel _ _ h

end least

theorem mergeVec_none (sp : Props) (v m : List Spelling) (t : Bytes) (h : mergeCandidates sp v m t = []) :
    propsOf (mergeVec sp v m) t = none := by
  rw [propsOf_mergeVec]
  have ⟨h1, h2⟩ := List.append_eq_nil_iff.mp h
  rw [h2]
  cases hp : propsOf m t with
  | none => rfl
  | some z => rw [hp] at h1; cases h1

end RimeModel.C09
