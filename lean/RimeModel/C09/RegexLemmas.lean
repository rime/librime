import RimeModel.C09.Regex
/-! C09 — lemmas on the regex fragment: a literal pattern under whole-string matching -/
namespace RimeModel.C09

theorem drop_isPrefixOf_cons (c : UInt8) (w s : Bytes) (p : Nat) :
    (c :: w).isPrefixOf (s.drop p) = (decide (s[p]? = some c) && w.isPrefixOf (s.drop (p + 1))) := by
  by_cases hp : p < s.length
  · rw [List.drop_eq_getElem_cons hp, List.isPrefixOf, List.getElem?_eq_getElem hp]
    by_cases h : c = s[p]
    · rw [h, beq_self_eq_true, decide_eq_true rfl]
    · rw [beq_false_of_ne h, decide_eq_false fun e => h (Option.some.inj e).symm]
  · rw [List.drop_eq_nil_of_le (Nat.not_lt.mp hp), List.getElem?_eq_none (Nat.not_lt.mp hp)]
    rfl

theorem ends_lits (s w : Bytes) (p : Nat) :
    Re.ends s (Re.lits w) p = if w.isPrefixOf (s.drop p) then [p + w.length] else [] := by
  induction w generalizing p with
  | nil => rfl
  | cons c w ih =>
    rw [drop_isPrefixOf_cons]
    show (Re.ends s (.chr c) p).flatMap (fun q => Re.ends s (Re.lits w) q) = _
    rw [Re.ends]
    by_cases hc : s[p]? = some c
    · rw [if_pos hc, List.flatMap_singleton, ih, decide_eq_true hc, Bool.true_and, List.length_cons,
        Nat.add_assoc, Nat.add_comm 1]
    · rw [if_neg hc, decide_eq_false hc]; rfl

theorem fullMatch_lits_iff (w s : Bytes) : (Re.lits w).fullMatch s = true ↔ s = w := by
  rw [Re.fullMatch, ends_lits, List.drop_zero, Nat.zero_add]
  constructor
  · intro h
    split at h
    · rename_i hp
      exact ((List.isPrefixOf_iff_prefix.mp hp).eq_of_length
        (List.mem_singleton.mp (List.contains_iff_mem.mp h)).symm).symm
    · cases h
  · rintro rfl
    rw [List.isPrefixOf_iff_prefix.mpr List.prefix_rfl, if_pos rfl]
    exact List.contains_iff_mem.mpr List.mem_cons_self

theorem Erasion.isApplied_run (re : Re) (s : Bytes) :
    (Erasion.run re s).isApplied = true ↔ s ≠ [] ∧ re.fullMatch s = true := by
  unfold Erasion.run
  by_cases hs : s = []
  · rw [if_pos hs]; exact iff_of_false Bool.false_ne_true fun h => h.1 hs
  · rw [if_neg hs]
    cases re.fullMatch s with
    | true => exact iff_of_true rfl ⟨hs, rfl⟩
    | false => exact iff_of_false Bool.false_ne_true fun h => Bool.false_ne_true h.2

end RimeModel.C09
