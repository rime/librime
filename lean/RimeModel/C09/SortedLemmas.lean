import RimeModel.C09.Spec
/-! C09 — order laws of `blt` / `sclt`, lemmas on `insertSet`, `upsert`, `idx?`. -/
namespace RimeModel.C09

theorem blt_iff {a b : Bytes} : blt a b = true ↔ a < b := by
  induction a generalizing b with
  | nil => cases b <;> simp [blt]
  | cons x xs ih =>
    cases b with
    | nil => simp [blt]
    | cons y ys =>
      rw [blt, List.cons_lt_cons_iff, ← ih, UInt8.lt_iff_toNat_lt]
      by_cases hxy : x.toNat < y.toNat
      · simp [hxy]
      · by_cases hyx : y.toNat < x.toNat
        · have hne : x ≠ y := fun e => Nat.lt_irrefl _ (e ▸ hyx)
          simp [hxy, hyx, hne]
        · have : x = y := UInt8.toNat_inj.mp (Nat.le_antisymm (Nat.not_lt.mp hyx) (Nat.not_lt.mp hxy))
          simp [this]

theorem blt_order : StrictOrder blt where
  irrefl a := Bool.eq_false_iff.mpr fun h => List.lt_irrefl a (blt_iff.mp h)
  trans _ _ _ h1 h2 := blt_iff.mpr (List.lt_trans (blt_iff.mp h1) (blt_iff.mp h2))
  tri _ _ h1 h2 := List.le_antisymm (List.not_lt.mp fun h => Bool.eq_false_iff.mp h2 (blt_iff.mpr h))
    (List.not_lt.mp fun h => Bool.eq_false_iff.mp h1 (blt_iff.mpr h))

theorem toNat_of_sc (c : UInt8) : (sc c + 128) % 256 = c.toNat := by
  rw [sc, Nat.mod_add_mod, Nat.add_assoc]
  exact (Nat.add_mod_right c.toNat 256).trans (Nat.mod_eq_of_lt c.toNat_lt)

theorem sc_inj {a b : UInt8} (h : sc a = sc b) : a = b :=
  UInt8.toNat_inj.mp (by rw [← toNat_of_sc a, h, toNat_of_sc])

theorem sclt_order : StrictOrder sclt where
  irrefl _ := decide_eq_false (Nat.lt_irrefl _)
  trans _ _ _ h1 h2 := decide_eq_true (Nat.lt_trans (of_decide_eq_true h1) (of_decide_eq_true h2))
  tri _ _ h1 h2 :=
    sc_inj (Nat.le_antisymm (Nat.not_lt.mp (of_decide_eq_false h2)) (Nat.not_lt.mp (of_decide_eq_false h1)))

section generic
variable {K V : Type} {lt : K → K → Bool}

theorem StrictOrder.ne_of_lt (o : StrictOrder lt) {a b : K} (h : lt a b = true) : a ≠ b :=
  fun e => by rw [e, o.irrefl] at h; cases h

theorem StrictOrder.eq_of_not_lt (o : StrictOrder lt) {a b : K} (h1 : ¬ lt a b = true) (h2 : ¬ lt b a = true) :
    a = b :=
  o.tri a b (Bool.eq_false_iff.mpr h1) (Bool.eq_false_iff.mpr h2)

theorem mem_insertSet (o : StrictOrder lt) (k x : K) (l : List K) : x ∈ insertSet lt k l ↔ x = k ∨ x ∈ l := by
  induction l with
  | nil => exact List.mem_singleton.trans (or_iff_left List.not_mem_nil).symm
  | cons y ys ih =>
    rw [insertSet]
    by_cases h1 : lt k y = true
    · rw [if_pos h1]; exact List.mem_cons
    · rw [if_neg h1]
      by_cases h2 : lt y k = true
      · rw [if_pos h2, List.mem_cons, ih, List.mem_cons]; exact or_left_comm
      · cases o.eq_of_not_lt h1 h2
        rw [if_neg h2]; exact (or_iff_right_of_imp fun h => h ▸ List.mem_cons_self).symm

theorem sorted_insertSet (o : StrictOrder lt) (k : K) (l : List K) (h : SortedBy lt l) :
    SortedBy lt (insertSet lt k l) := by
  induction l with
  | nil => exact List.pairwise_singleton ..
  | cons y ys ih =>
    have ⟨hy, hys⟩ := List.pairwise_cons.mp h
    rw [insertSet]
    by_cases h1 : lt k y = true
    · rw [if_pos h1]
      exact List.pairwise_cons.mpr ⟨fun z hz => (List.mem_cons.mp hz).elim (· ▸ h1) (o.trans _ _ _ h1 <| hy z ·), h⟩
    · rw [if_neg h1]
      by_cases h2 : lt y k = true
      · rw [if_pos h2]
        exact List.pairwise_cons.mpr ⟨fun z hz => ((mem_insertSet o k z ys).mp hz).elim (· ▸ h2) (hy z), ih hys⟩
      · rw [if_neg h2]; exact h

theorem foldl_insertSet_spec (o : StrictOrder lt) (l A : List K) (h : SortedBy lt A) :
    SortedBy lt (l.foldl (fun A c => insertSet lt c A) A) ∧
      ∀ c, c ∈ l.foldl (fun A c => insertSet lt c A) A ↔ c ∈ A ∨ c ∈ l := by
  induction l generalizing A with
  | nil => exact ⟨h, fun c => (or_iff_left List.not_mem_nil).symm⟩
  | cons x l ih =>
    have ⟨h1, h2⟩ := ih (insertSet lt x A) (sorted_insertSet o x A h)
    exact ⟨h1, fun c => by rw [List.foldl_cons, h2, mem_insertSet o, List.mem_cons, or_comm (a := c = x), or_assoc]⟩

theorem SortedBy.nodup (o : StrictOrder lt) {l : List K} (h : SortedBy lt l) : l.Nodup :=
  List.Pairwise.imp (fun hab => o.ne_of_lt hab) h

theorem upsert_keys (k : K) (f : V → V) (d : V) (m : List (K × V)) :
    (upsert lt k f d m).map (·.1) = insertSet lt k (m.map (·.1)) := by
  induction m with
  | nil => rfl
  | cons e rest ih =>
    rw [upsert, List.map_cons, insertSet]
    by_cases h1 : lt k e.1 = true
    · rw [if_pos h1, if_pos h1]; rfl
    · rw [if_neg h1, if_neg h1]
      by_cases h2 : lt e.1 k = true
      · rw [if_pos h2, if_pos h2, List.map_cons, ih]
      · rw [if_neg h2, if_neg h2]; rfl

theorem sorted_upsert_keys (o : StrictOrder lt) (k : K) (f : V → V) (d : V) (m : List (K × V))
    (h : SortedBy lt (m.map (·.1))) : SortedBy lt ((upsert lt k f d m).map (·.1)) := by
  rw [upsert_keys]; exact sorted_insertSet o k _ h

theorem upsert_append_of_gt (o : StrictOrder lt) (k : K) (f : V → V) (d : V) (m : List (K × V))
    (h : ∀ x ∈ m.map (·.1), lt x k = true) : upsert lt k f d m = m ++ [(k, f d)] := by
  induction m with
  | nil => rfl
  | cons e rest ih =>
    have he : lt e.1 k = true := h e.1 List.mem_cons_self
    have hne : ¬ lt k e.1 = true := fun hc => o.ne_of_lt (o.trans _ _ _ hc he) rfl
    rw [upsert, if_neg hne, if_pos he, ih fun x hx => h x (List.mem_cons_of_mem _ hx)]; rfl

section lookup
variable [BEq K] [LawfulBEq K]

theorem lookup_eq_none_iff_not_mem {k : K} {m : List (K × V)} : List.lookup k m = none ↔ k ∉ m.map (·.1) := by
  rw [List.lookup_eq_none_iff, List.mem_map]
  exact ⟨fun h ⟨p, hp, e⟩ => by have := h p hp; rw [e] at this; simp at this, fun h p hp => by
    simpa using fun e : k = p.1 => h ⟨p, hp, e.symm⟩⟩

theorem lookup_upsert_ne (o : StrictOrder lt) {k k' : K} (f : V → V) (d : V) (hne : k' ≠ k) (m : List (K × V)) :
    List.lookup k' (upsert lt k f d m) = List.lookup k' m := by
  induction m with
  | nil => rw [upsert, List.lookup_cons, beq_false_of_ne hne]
  | cons e rest ih =>
    rw [upsert]
    by_cases h1 : lt k e.1 = true
    · rw [if_pos h1, List.lookup, beq_false_of_ne hne]
    · rw [if_neg h1]
      by_cases h2 : lt e.1 k = true
      · rw [if_pos h2, List.lookup, List.lookup, ih]
      · cases o.eq_of_not_lt h1 h2
        rw [if_neg h2, List.lookup, List.lookup, beq_false_of_ne hne]

theorem lookup_upsert_self (o : StrictOrder lt) (k : K) (f : V → V) (d : V) (m : List (K × V))
    (hs : SortedBy lt (m.map (·.1))) :
    List.lookup k (upsert lt k f d m) = some (f ((List.lookup k m).getD d)) := by
  induction m with
  | nil => rw [upsert, List.lookup_cons, beq_self_eq_true]; rfl
  | cons e rest ih =>
    have ⟨ha, hrest⟩ := List.pairwise_cons.mp hs
    rw [upsert]
    by_cases h1 : lt k e.1 = true
    · have hn : List.lookup k (e :: rest) = none := lookup_eq_none_iff_not_mem.mpr fun hm =>
        (List.mem_cons.mp hm).elim (o.ne_of_lt h1) fun hm => o.ne_of_lt (o.trans _ _ _ h1 (ha k hm)) rfl
      rw [if_pos h1, hn, List.lookup, beq_self_eq_true]; rfl
    · rw [if_neg h1]
      by_cases h2 : lt e.1 k = true
      · rw [if_pos h2, List.lookup, List.lookup, beq_false_of_ne (o.ne_of_lt h2).symm]
        exact ih hrest
      · cases o.eq_of_not_lt h1 h2
        rw [if_neg h2, List.lookup, List.lookup, beq_self_eq_true]; rfl

theorem mem_of_lookup_eq_some {k : K} {v : V} {m : List (K × V)} (h : List.lookup k m = some v) : (k, v) ∈ m := by
  obtain ⟨l₁, l₂, rfl, _⟩ := List.lookup_eq_some_iff.mp h
  exact List.mem_append_right _ List.mem_cons_self

end lookup

theorem lookup_eq_some_of_mem [BEq K] [LawfulBEq K] (o : StrictOrder lt) {k : K} {v : V} :
    ∀ {m : List (K × V)}, SortedBy lt (m.map (·.1)) → (k, v) ∈ m → List.lookup k m = some v := by
  intro m hs h
  obtain ⟨l₁, l₂, rfl⟩ := List.append_of_mem h
  rw [List.map_append] at hs
  exact List.lookup_eq_some_iff.mpr ⟨l₁, l₂, rfl, fun p hp => bne_iff_ne.mpr
    (o.ne_of_lt ((List.pairwise_append.mp hs).2.2 p.1 (List.mem_map_of_mem hp) k List.mem_cons_self)).symm⟩

theorem forall_mem_upsert [BEq K] [LawfulBEq K] (o : StrictOrder lt) {k : K} {f : V → V} {d : V} {m : List (K × V)}
    (hs : SortedBy lt (m.map (·.1))) {P : K × V → Prop} (hm : ∀ e ∈ m, P e)
    (hk : P (k, f ((List.lookup k m).getD d))) : ∀ e ∈ upsert lt k f d m, P e := by
  intro e he
  have hl := lookup_eq_some_of_mem o (sorted_upsert_keys o k f d m hs) he
  by_cases hke : e.1 = k
  · rw [hke, lookup_upsert_self o k f d m hs] at hl
    exact (Prod.ext hke.symm (Option.some.inj hl) : (k, _) = e) ▸ hk
  · rw [lookup_upsert_ne o f d hke] at hl
    exact hm e (mem_of_lookup_eq_some hl)

end generic

theorem idx?_eq_none_iff {k : Bytes} {l : List Bytes} : idx? k l = none ↔ k ∉ l := by
  induction l with
  | nil => exact iff_of_true rfl List.not_mem_nil
  | cons x xs ih =>
    rw [idx?, List.mem_cons]
    split
    · rename_i h; exact iff_of_false nofun fun hn => hn (Or.inl h.symm)
    · rename_i h
      rw [Option.map_eq_none_iff, ih]
      exact ⟨fun h2 hn => hn.elim (fun e => h e.symm) h2, fun h2 hn => h2 (Or.inr hn)⟩

theorem getElem?_of_idx? {k : Bytes} {l : List Bytes} {i : Nat} (h : idx? k l = some i) : l[i]? = some k := by
  induction l generalizing i with
  | nil => cases h
  | cons x xs ih =>
    rw [idx?] at h
    split at h
    · cases h; rename_i hx; rw [hx]; rfl
    · obtain ⟨j, hj, rfl⟩ := Option.map_eq_some_iff.mp h
      exact ih hj

theorem idx?_of_getElem? {k : Bytes} {l : List Bytes} {i : Nat} (hn : l.Nodup) (h : l[i]? = some k) :
    idx? k l = some i := by
  induction l generalizing i with
  | nil => cases h
  | cons x xs ih =>
    cases i with
    | zero => cases h; rw [idx?, if_pos rfl]
    | succ i =>
      have ⟨hx, hxs⟩ := List.nodup_cons.mp hn
      have hk : k ∈ xs := List.mem_of_getElem? h
      rw [idx?, if_neg fun e : x = k => hx (e ▸ hk), ih hxs h]; rfl

theorem idx?_isSome_iff {k : Bytes} {l : List Bytes} : (idx? k l).isSome = true ↔ k ∈ l := by
  rw [← Decidable.not_iff_not, ← idx?_eq_none_iff, Option.not_isSome_iff_eq_none]
end RimeModel.C09
