import RimeModel.C09.AlgebraLemmas
/-! C09 — lemmas for the `DictCompiler::BuildPrism` glue: a round that matches nothing leaves the
script as it was, and the script of a sorted syllabary is the identity table. -/
namespace RimeModel.C09

theorem mergeProps_default (xp : Props) : mergeProps {} xp = xp := by
  cases xp
  simp [mergeProps, SpellingType.rank]

theorem mergeOne_append_of_not_mem (y : Spelling) (m : List Spelling) (h : y.str ∉ m.map (·.str)) :
    mergeOne y m = m ++ [y] := by
  induction m with
  | nil => rfl
  | cons z zs ih =>
    have ⟨hz, hzs⟩ := not_or.mp (mt List.mem_cons.mpr h)
    rw [mergeOne, if_neg fun e => hz e.symm, ih hzs]; rfl

theorem mergeVec_default_append (v m : List Spelling) (h : ((m ++ v).map (·.str)).Nodup) :
    mergeVec {} v m = m ++ v := by
  induction v generalizing m with
  | nil => exact (List.append_nil m).symm
  | cons x v ih =>
    have hx : x.str ∉ m.map (·.str) := fun hm => by
      rw [List.map_append] at h
      exact (List.nodup_append.mp h).2.2 _ hm _ List.mem_cons_self rfl
    rw [mergeVec_cons, mergeProps_default, mergeOne_append_of_not_mem _ m hx,
      ih (m ++ [x]) (by rwa [List.append_assoc]), List.append_assoc]
    rfl

theorem foldl_roundStep_identity (r : Rule) (post pre : Script) (hs : SortedBy blt (pre ++ post).keys)
    (h : ∀ e ∈ post, r.run e.1 = .notApplied ∧ (e.2.map (·.str)).Nodup) :
    post.foldl (roundStep r) pre = pre ++ post := by
  induction post generalizing pre with
  | nil => exact (List.append_nil pre).symm
  | cons e post ih =>
    have ⟨he, hpost⟩ := List.forall_mem_cons.mp h
    have hgt : ∀ x ∈ pre.map (·.1), blt x e.1 = true := fun x hx => by
      rw [Script.keys, List.map_append] at hs
      exact (List.pairwise_append.mp hs).2.2 x hx e.1 List.mem_cons_self
    have hstep : roundStep r pre e = pre ++ [e] := by
      rw [roundStep, he.1]
      exact (upsert_append_of_gt blt_order e.1 _ _ pre hgt).trans
        (by rw [mergeVec_default_append e.2 [] he.2]; rfl)
    rw [List.foldl_cons, hstep, ih (pre ++ [e]) (by rwa [List.append_assoc]) hpost, List.append_assoc]
    rfl

theorem round_identity {syl : List Bytes} {r : Rule} {S : Script} (hS : S.WF syl)
    (h : ∀ e ∈ S, r.run e.1 = .notApplied) : round r S = some S ∧ anyApplied r S = false := by
  have hany : S.any (fun e => r.run e.1 == .threw) = false :=
    List.any_eq_false.mpr fun e he => by rw [h e he]; exact Bool.false_ne_true
  refine ⟨?_, List.any_eq_false.mpr fun e he => by rw [h e he]; exact Bool.false_ne_true⟩
  rw [round, if_neg (by rw [hany]; exact Bool.false_ne_true),
    foldl_roundStep_identity r S [] hS.1 fun e he => ⟨h e he, (hS.2 e he).2.2⟩]
  rfl

def identityScript (syl : List Bytes) : Script := syl.map (fun y => (y, [⟨y, {}⟩]))

theorem foldl_addSyllable_sorted (post pre : List Bytes) (hs : SortedBy blt (pre ++ post)) :
    post.foldl Script.addSyllable (identityScript pre) = identityScript (pre ++ post) := by
  induction post generalizing pre with
  | nil => rw [List.append_nil]; rfl
  | cons y post ih =>
    have hgt : ∀ x ∈ (identityScript pre).map (·.1), blt x y = true := fun x hx => by
      rw [identityScript, List.map_map] at hx
      obtain ⟨z, hz, rfl⟩ := List.mem_map.mp hx
      exact (List.pairwise_append.mp hs).2.2 z hz y List.mem_cons_self
    have hstep : Script.addSyllable (identityScript pre) y = identityScript (pre ++ [y]) := by
      rw [Script.addSyllable, Script.get?, lookup_eq_none_iff_not_mem.mpr fun h => blt_order.ne_of_lt (hgt y h) rfl]
      rw [upsert_append_of_gt blt_order y _ _ _ hgt]
      show identityScript pre ++ identityScript [y] = _
      exact List.map_append.symm
    rw [List.foldl_cons, hstep, ih (pre ++ [y]) (by rwa [List.append_assoc]), List.append_assoc]
    rfl

theorem ofSyllabary_sorted {syl : List Bytes} (hs : SortedBy blt syl) : Script.ofSyllabary syl = identityScript syl :=
  foldl_addSyllable_sorted syl [] hs
end RimeModel.C09
