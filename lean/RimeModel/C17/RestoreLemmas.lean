import RimeModel.C17.MergeLemmas
/-! C17 — the TSV reader line by line; snapshot writer followed by snapshot reader (UniformBackup ; UniformRestore). -/
namespace RimeModel.C17

/-- key ::= code <space> <Tab> phrase, nothing that the line/column structure of the snapshot file could
mistake: no tab or newline inside, code ends with the space and does not start a comment -/
structure WFKey (k : Bytes) : Prop where
  ex : ∃ code text : Bytes, k = code ++ 9 :: text ∧ code.getLast? = some 32 ∧ 9 ∉ code ∧ 10 ∉ code ∧
        code.head? ≠ some 35 ∧ text ≠ [] ∧ 9 ∉ text ∧ 10 ∉ text

variable {σ : Type} (p : Parser) (S : Sink σ) (r : RState σ)

theorem readLine_inv (P : σ → Prop) (hm : ∀ s k v, P s → P (S.metaPut s k v).1)
    (hp : ∀ s k v, P s → P (S.put s k v).1) (raw : Bytes) (h : P r.st) : P (readLine p S r raw).st := by
  fun_cases readLine p S r raw with
  | case2 => exact hm _ _ _ h
  | case7 => exact hp _ _ _ h
  | _ => exact h

theorem tsvRead_inv (P : σ → Prop) (hm : ∀ s k v, P s → P (S.metaPut s k v).1)
    (hp : ∀ s k v, P s → P (S.put s k v).1) (st : σ) (file : Bytes) (h : P st) : P (tsvRead p S st file).st := by
  unfold tsvRead
  suffices ∀ (ls : List Bytes) (r : RState σ), P r.st → P (ls.foldl (readLine p S) r).st from this _ ⟨st, true, 0⟩ h
  intro ls
  induction ls with
  | nil => exact fun r hr => hr
  | cons l rest ih => exact fun r hr => ih _ (readLine_inv p S r P hm hp l hr)

/-- a `#` line that is neither `#@…` nor `# no comment` is skipped while comments are enabled -/
theorem readLine_comment (he : r.enable = true) (raw rest : Bytes) (ht : trimRight raw = 35 :: rest)
    (h64 : startsWith [35, 64] (35 :: rest) = false) (hnc : 35 :: rest ≠ sNoComment) : readLine p S r raw = r := by
  have h2 : (r.enable && (35 :: rest).head? == some 35) = true := by rw [he]; rfl
  unfold readLine
  dsimp only
  rw [ht, if_neg (List.cons_ne_nil _ _), if_pos h2, if_neg (by rw [h64]; exact Bool.false_ne_true), if_neg hnc]

/-- a `#@` line: `MetaPut` of the two columns after the marker, if there are exactly two -/
theorem readLine_meta (he : r.enable = true) (raw rest : Bytes) (ht : trimRight raw = 35 :: 64 :: rest) :
    readLine p S r raw =
      match splitOn 9 rest with
      | [k, v] => { r with st := (S.metaPut r.st k v).1 }
      | _ => r := by
  have h2 : (r.enable && (35 :: 64 :: rest).head? == some 35) = true := by rw [he]; rfl
  unfold readLine
  dsimp only
  rw [ht, if_neg (List.cons_ne_nil _ _), if_pos h2, if_pos (show startsWith [35, 64] (35 :: 64 :: rest) = true by simp [startsWith])]
  rfl

/-- a line that does not start with `#`: `Put` of what the row parser makes of its columns -/
theorem readLine_record (raw line : Bytes) (ht : trimRight raw = line) (hne : line ≠ [])
    (hh : line.head? ≠ some 35) :
    readLine p S r raw =
      match p (splitOn 9 line) with
      | none => r
      | some kv => ⟨(S.put r.st kv.1 kv.2).1, r.enable, if (S.put r.st kv.1 kv.2).2 then r.count + 1 else r.count⟩ := by
  have h2 : ¬ (r.enable && line.head? == some 35) = true := by
    rw [Bool.and_eq_true, beq_iff_eq]
    exact fun h => hh h.2
  unfold readLine
  dsimp only
  rw [ht, if_neg hne, if_neg h2]
  cases p (splitOn 9 line) <;> rfl

def DataSame (a b : Db) : Prop := ∀ k, isMetaKey k = false → a.fetch k = b.fetch k

theorem readLine_metaLine (r : RState Db) (he : r.enable = true) (e : Bytes × Bytes) :
    (readLine userdbParser dbSink r (metaLine e)).enable = true ∧
    DataSame (readLine userdbParser dbSink r (metaLine e)).st r.st := by
  have ht : trimRight (metaLine e) = 35 :: 64 :: trimRight (e.1 ++ 9 :: e.2) := by
    show trimRight (35 :: 64 :: (e.1 ++ 9 :: e.2)) = _
    rw [trimRight_cons_nonspace 35 _ (by decide), trimRight_cons_nonspace 64 _ (by decide)]
  rw [readLine_meta _ _ r he _ _ ht]
  split
  next k v _ =>
    refine ⟨he, fun key hkey => (fetch_update _ _ _ _).trans (if_neg ?_)⟩
    intro e'
    rw [← e'] at hkey
    cases hkey
  next => exact ⟨he, fun _ _ => rfl⟩

theorem foldl_metaLines (es : List (Bytes × Bytes)) (r : RState Db) (he : r.enable = true) :
    ((es.map metaLine).foldl (readLine userdbParser dbSink) r).enable = true ∧
    DataSame ((es.map metaLine).foldl (readLine userdbParser dbSink) r).st r.st := by
  induction es generalizing r with
  | nil => exact ⟨he, fun _ _ => rfl⟩
  | cons e rest ih =>
    have h1 := readLine_metaLine r he e
    have h2 := ih (readLine userdbParser dbSink r (metaLine e)) h1.1
    exact ⟨h2.1, fun k hk => (h2.2 k hk).trans (h1.2 k hk)⟩

theorem readLine_dataLine (r : RState Db) {k v : Bytes} (hk : WFKey k) (hv : CleanValue v) :
    ∃ line, formatLine userdbFormatter (k, v) = some line ∧ 10 ∉ line ∧
      readLine userdbParser dbSink r line = ⟨r.st.update k v, r.enable, r.count + 1⟩ := by
  obtain ⟨code, text, rfl, hl, h9c, h10c, hh, ht, h9t, h10t⟩ := hk.ex
  obtain ⟨a, c, rfl, hcs⟩ := hv.last
  obtain ⟨x, xs, rfl⟩ := List.exists_cons_of_ne_nil (show code ≠ [] by intro e; rw [e] at hl; cases hl)
  have hcols : ∀ t ∈ [x :: xs, text, a ++ [c]], 9 ∉ t ∧ 10 ∉ t :=
    List.forall_mem_cons.mpr ⟨⟨h9c, h10c⟩, List.forall_mem_cons.mpr ⟨⟨h9t, h10t⟩,
      List.forall_mem_cons.mpr ⟨⟨hv.notab, hv.nonl⟩, fun _ h => nomatch h⟩⟩⟩
  have hkey : splitOn 9 (x :: xs ++ 9 :: text) = [x :: xs, text] := by
    rw [splitOn_append 9 _ _ h9c, splitOn_nosep 9 _ h9t]
  refine ⟨joinWith 9 [x :: xs, text, a ++ [c]], ?_, ?_, ?_⟩
  · simp only [formatLine, userdbFormatter, hkey, List.cons_ne_nil, ht, or_self, if_false]
  · intro h10
    rcases mem_joinWith h10 with h | ⟨t, ht, h⟩
    · cases h
    · exact (hcols t ht).2 h
  · have htrim : trimRight (joinWith 9 [x :: xs, text, a ++ [c]]) = joinWith 9 [x :: xs, text, a ++ [c]] := by
      have : joinWith 9 [x :: xs, text, a ++ [c]] = (x :: xs ++ 9 :: (text ++ 9 :: a)) ++ [c] := by simp [joinWith]
      rw [this, trimRight_append_last _ _ hcs]
    rw [readLine_record _ _ r _ _ htrim (List.cons_ne_nil _ _) hh,
      splitOn_joinWith 9 _ (List.cons_ne_nil _ _) fun t ht => (hcols t ht).1]
    simp only [userdbParser, List.cons_ne_nil, ht, or_self, if_false, fixCode, hl, if_true, dbSink]

theorem foldl_dataLines (es : List (Bytes × Bytes)) (hes : ∀ e ∈ es, WFKey e.1 ∧ CleanValue e.2) (r : RState Db) :
    ((es.filterMap (formatLine userdbFormatter)).foldl (readLine userdbParser dbSink) r).st =
      r.st.upsertAll (fun _ _ v => v) es ∧
    ∀ l ∈ es.filterMap (formatLine userdbFormatter), 10 ∉ l := by
  induction es generalizing r with
  | nil => exact ⟨rfl, fun _ h => nomatch h⟩
  | cons e rest ih =>
    obtain ⟨line, hf, hnl, hr⟩ := readLine_dataLine r (hes e List.mem_cons_self).1 (hes e List.mem_cons_self).2
    have := ih (fun e h => hes e (List.mem_cons_of_mem _ h)) ⟨r.st.update e.1 e.2, r.enable, r.count + 1⟩
    simp only [List.filterMap_cons, hf, List.foldl_cons, hr, List.mem_cons, forall_eq_or_imp]
    exact ⟨this.1, hnl, this.2⟩

theorem restore_backup_fetch (src db0 : Db) (hn : (src.map (·.1)).Nodup)
    (hd : ∀ e ∈ src.queryAll, WFKey e.1 ∧ CleanValue e.2)
    (hm : ∀ e ∈ src.queryMeta, 10 ∉ e.1 ∧ 10 ∉ e.2)
    (k : Bytes) (hk : bytesLt k [32] = false) :
    (uniformRestore db0 (uniformBackup src)).fetch k =
      match src.fetch k with
      | some v => some v
      | none => db0.fetch k := by
  have hfold := foldl_dataLines src.queryAll hd
  have hdesc : descLines descUserDb = [[35, 32] ++ descUserDb] := if_neg (List.cons_ne_nil _ _)
  have hlines : ∀ l ∈ tsvLines descUserDb userdbFormatter src.queryMeta src.queryAll, 10 ∉ l := by
    intro l hl
    simp only [tsvLines, hdesc, List.mem_append, List.mem_singleton, List.mem_map] at hl
    rcases hl with (rfl | ⟨e, he, rfl⟩) | hl
    · decide
    · simp [metaLine, hm e he]
    · exact (hfold ⟨db0, true, 0⟩).2 l hl
  unfold uniformRestore uniformBackup tsvRead tsvWrite
  dsimp only
  rw [linesOf_unlines _ hlines]
  simp only [tsvLines, hdesc, List.foldl_append, List.foldl_cons, List.foldl_nil]
  rw [readLine_comment _ _ ⟨db0, true, 0⟩ rfl _ ([32] ++ descUserDb) (by decide) (by decide) (by decide)]
  have hmeta := foldl_metaLines src.queryMeta ⟨db0, true, 0⟩ rfl
  generalize (src.queryMeta.map metaLine).foldl (readLine userdbParser dbSink) ⟨db0, true, 0⟩ = r1 at hmeta
  rw [(hfold r1).1, fetch_upsertAll _ _ (queryAll_nodup hn), fetch_queryAll hk, hmeta.2 k (not_meta_of_data hk)]
  rfl

end RimeModel.C17
