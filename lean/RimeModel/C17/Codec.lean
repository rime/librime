import RimeModel.C17.Lemmas
/-! C17 — laws assumed of the abstract dee operations, and the value-codec round trip. -/
namespace RimeModel.C17

/-- What the theorems assume of `ostream << double`, `min(10000, strtod)`, `<` and the decay.
`norm d` is the value read back from the text written for `d` (six significant digits, capped).
For IEEE doubles with the codec of the current source these hold on finite non-NaN values; before commit
8bf60d2 `read_render` failed on subnormal numbers — see `C17.old_stod_idempotent_counterexample`. -/
structure LawfulDee {D : Type} (O : DeeOps D) where
  norm : D → D
  lt_irrefl : ∀ a, O.lt a a = false
  lt_trans : ∀ a b c, O.lt a b = true → O.lt b c = true → O.lt a c = true
  lt_connex : ∀ a b, O.lt a b = false → O.lt b a = false → a = b
  /-- the text contains no blank (so it stays one token, one TSV column, one line) -/
  render_clean : ∀ d, ∀ c ∈ O.render d, isSpace c = false
  /-- what is written can be read, and yields the normalised value -/
  read_render : ∀ d, O.read (O.render d) = some (norm d)
  norm_idem : ∀ d, norm (norm d) = norm d
  /-- reading back is monotone -/
  norm_mono : ∀ a b, O.lt b a = false → O.lt (norm b) (norm a) = false
  /-- values that were read, the default, and decayed values print the same before and after a write/read cycle
  (they are within the cap) -/
  stable_read : ∀ s d, O.read s = some d → O.render (norm d) = O.render d
  stable_zero : O.render (norm O.zero) = O.render O.zero
  /-- decaying forward in time (the only way the code calls it: `if (v.tick < tick) …`) stays within the cap -/
  stable_decay : ∀ d a t, a < t → O.render (norm d) = O.render d →
    O.render (norm (O.decay d a t)) = O.render (O.decay d a t)

variable {D : Type} {O : DeeOps D}

/-- a count `std::stoi` can return -/
def IntRange (c : Int) : Prop := intMin ≤ c ∧ c ≤ intMax

theorem stoi_range {s : Bytes} {c : Int} (h : stoi s = some c) : IntRange c := by
  revert h
  fun_cases stoi s with
  | case1 p hd n v hr =>
    exact fun h => Option.some.inj h ▸ hr
  | _ => exact fun h => nomatch h

theorem stoul_range {s : Bytes} {t : Nat} (h : stoul s = some t) : t < ulongLim := by
  revert h
  fun_cases stoul s with
  | case1 p hd n hn =>
    intro h
    cases h
    split
    · exact Nat.mod_lt _ (by decide)
    · exact hn
  | _ => exact fun h => nomatch h

theorem splitEq_kv (k : Nat) (hk : k ≠ 61) (x : Bytes) : splitEq (k :: 61 :: x) = some ([k], x) := by
  simp [splitEq, hk]

def packToks (O : DeeOps D) (v : Value D) : List Bytes :=
  [[99, 61] ++ showInt v.commits, [100, 61] ++ O.render v.dee, [116, 61] ++ showNat v.tick]

theorem pack_eq_joinWith (v : Value D) : pack O v = joinWith 32 (packToks O v) := by
  simp only [pack, packToks, joinWith, List.append_assoc, List.cons_append, List.nil_append]

theorem packToks_clean (L : LawfulDee O) (v : Value D) : ∀ t ∈ packToks O v, ∀ c ∈ t, isSpace c = false := by
  have key : ∀ pre s : Bytes, (∀ c ∈ pre, isSpace c = false) → (∀ c ∈ s, isSpace c = false) →
      ∀ c ∈ pre ++ s, isSpace c = false :=
    fun pre s h1 h2 c hc => (List.mem_append.mp hc).elim (h1 c) (h2 c)
  intro t ht
  simp only [packToks, List.mem_cons, List.not_mem_nil, or_false] at ht
  rcases ht with rfl | rfl | rfl
  · exact key _ _ (by decide) (showInt_clean _)
  · exact key _ _ (by decide) (L.render_clean _)
  · exact key _ _ (by decide) (showNat_clean _)

/-- a stored value as `Pack` writes it: one column, one line, non-empty, not ending in a blank -/
structure CleanValue (v : Bytes) : Prop where
  notab : 9 ∉ v
  nonl : 10 ∉ v
  last : ∃ a c, v = a ++ [c] ∧ isSpace c = false

theorem pack_clean (L : LawfulDee O) (v : Value D) : CleanValue (pack O v) := by
  have hsp : ∀ x ∈ pack O v, isSpace x = true → x = 32 := by
    intro x hx hs
    rw [pack_eq_joinWith] at hx
    rcases mem_joinWith hx with h | ⟨t, ht, hxt⟩
    · exact h
    · rw [packToks_clean L v t ht x hxt] at hs
      cases hs
  refine ⟨fun h => absurd (hsp 9 h rfl) (by decide), fun h => absurd (hsp 10 h rfl) (by decide), ?_⟩
  refine ⟨[99, 61] ++ showInt v.commits ++ [32, 100, 61] ++ O.render v.dee ++ [32, 116, 61] ++ (showNat v.tick).dropLast,
    (showNat v.tick).getLast (showNat_ne_nil _), ?_,
    isDigit_not_space (showNat_digits v.tick _ (List.getLast_mem _))⟩
  rw [List.append_assoc, List.dropLast_concat_getLast]
  rfl

theorem pack_tokens (L : LawfulDee O) (v : Value D) : splitOn 32 (pack O v) = packToks O v := by
  rw [pack_eq_joinWith]
  refine splitOn_joinWith 32 _ (List.cons_ne_nil _ _) fun t ht h32 => ?_
  have := packToks_clean L v t ht 32 h32
  cases this

/-- `Unpack(Pack(v))` on any object: every field is overwritten; dee comes back normalised -/
theorem unpackInto_pack (L : LawfulDee O) (v0 v : Value D) (hc : IntRange v.commits) (ht : v.tick < ulongLim) :
    unpackInto O v0 (pack O v) = (⟨v.commits, L.norm v.dee, v.tick⟩, true) := by
  unfold unpackInto
  rw [pack_tokens L v]
  simp only [packToks, unpackToks, unpackTok, List.cons_append, List.nil_append]
  rw [splitEq_kv 99 (by decide), splitEq_kv 100 (by decide), splitEq_kv 116 (by decide)]
  simp [stoi_showInt _ hc.1 hc.2, L.read_render, stoul_showNat _ ht]

theorem unpack_pack_eq (L : LawfulDee O) (v : Value D) (hc : IntRange v.commits) (ht : v.tick < ulongLim) :
    unpack O (pack O v) = ⟨v.commits, L.norm v.dee, v.tick⟩ := by
  unfold unpack
  rw [unpackInto_pack L _ v hc ht]

end RimeModel.C17
