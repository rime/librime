import RimeModel.C17.MergeFacts
import RimeModel.C17.RestoreLemmas
/-! C17 — two small exact instances of the dee operations.

* `natDee`  : dee as a natural number (think: units of 1e-6), decimal text, cap 10000, decay = halving per
              tick.  Proved lawful (`natLawful`): shows the hypotheses of the theorems are satisfiable, and is
              the instance the non-vacuity examples and `old_merged_entries_uninit_counterexample` compute with.
* `oldDee`  : the same except that `read` rejects the texts "1" … "7" — the shape of the defect of the codec
              before commit 8bf60d2, where `std::stod` rejected the subnormal numbers `Pack` could write. -/
namespace RimeModel.C17

def natRead (s : Bytes) : Option Nat := if headIsDigit s then some (min (digitsVal 0 s) 10000) else none

def natDee : DeeOps Nat where
  zero := 0
  lt := fun a b => decide (a < b)
  decay := fun d ta t => d / 2 ^ (t - ta)
  render := showNat
  read := natRead
  ofCount := fun c => (c + 1).toNat

theorem showNat_inj {a b : Nat} (h : showNat a = showNat b) : a = b := by
  have := congrArg (digitsVal 0) h
  simpa [digitsVal_showNat] using this

def natLawful : LawfulDee natDee where
  norm := fun d => min d 10000
  lt_irrefl := by intro a; simp [natDee]
  lt_trans := by intro a b c; simp [natDee]; omega
  lt_connex := by intro a b; simp [natDee]; omega
  render_clean := by
    intro d c hc
    exact isDigit_not_space (showNat_digits d c hc)
  read_render := by
    intro d
    have hh : headIsDigit (showNat d) = true := by simpa using showNat_head d []
    simp [natDee, natRead, hh, digitsVal_showNat]
  norm_idem := by intro d; omega
  norm_mono := by intro a b; simp only [natDee, decide_eq_false_iff_not]; omega
  stable_read := by
    intro s d h
    simp only [natDee, natRead] at h
    split at h
    · simp only [Option.some.injEq] at h
      have : min d 10000 = d := by omega
      simp [natDee, this]
    · simp at h
  stable_zero := by simp [natDee]
  stable_decay := by
    intro d a t _ h
    have hd : min d 10000 = d := showNat_inj h
    have : d / 2 ^ (t - a) ≤ d := Nat.div_le_self _ _
    have h2 : min (d / 2 ^ (t - a)) 10000 = d / 2 ^ (t - a) := by omega
    simp [natDee, h2]

/-- `read` refuses the band 1..7 although `render` can produce it -/
def oldRead (s : Bytes) : Option Nat :=
  match natRead s with
  | some d => if 0 < d ∧ d < 8 then none else some d
  | none => none

def oldDee : DeeOps Nat := { natDee with read := oldRead }

end RimeModel.C17
