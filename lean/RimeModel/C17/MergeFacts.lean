import RimeModel.C17.MergeLemmas
import RimeModel.C17.Sorted
/-! C17 — what a whole merge (`DbSource(temp) >> UserDbMerger(dest)`, then `CloseMerge`) does to the dictionary, key by key. -/
namespace RimeModel.C17

variable {D : Type} {O : DeeOps D}

/-- "their" tick of a snapshot dictionary: its `/tick` record if readable, else 0 -/
def theirTick (temp : Db) : Nat :=
  match temp.metaFetch kTick with
  | some s => (stoul s).getD 0
  | none => 0

theorem theirTickOf_eq (temp : Db) (hn : (temp.map (·.1)).Nodup) : theirTickOf temp.queryMeta = theirTick temp := by
  rw [theirTickOf, tickAfter_nodup _ (queryMeta_nodup hn), fetch_queryMeta]
  rfl

/-- tick every merged record and the dictionary get -/
def mergedTick (dest temp : Db) : Nat := Nat.max (tickCount dest) (theirTickOf temp.queryMeta)

theorem mergedTick_lt (dest temp : Db) : mergedTick dest temp < ulongLim :=
  Nat.max_lt.mpr ⟨tickCount_lt dest, tickAfter_lt _ 0 (by decide)⟩

/-- the record a merge writes for a key of the snapshot -/
def mergedValue (O : DeeOps D) (dest temp : Db) (ours : Option Bytes) (v : Bytes) : Value D :=
  mergeValue O (tickCount dest) (theirTickOf temp.queryMeta) (mergedTick dest temp) ours v

/-- the dictionary with the records of the snapshot merged in, before `CloseMerge` -/
def mergedData (O : DeeOps D) (dest temp : Db) : Db :=
  dest.upsertAll (fun _ ours v => pack O (mergedValue O dest temp ours v)) temp.queryAll

theorem mergeDb_eq (uid : Bytes) (m0 : Int) (dest temp : Db) :
    mergeDb O uid m0 dest temp =
      if m0 + temp.queryAll.length = 0 then mergedData O dest temp
      else ((mergedData O dest temp).metaUpdate kTick (showNat (mergedTick dest temp))).metaUpdate kUserId uid := by
  have h := metaPut_foldl dest (tickCount dest) 0 m0 temp.queryMeta
  rw [show Nat.max (tickCount dest) 0 = tickCount dest from Nat.max_zero _] at h
  show Merger.close uid (List.foldl (fun s e => (Merger.put O s e.1 e.2).1)
    (List.foldl (fun s e => (Merger.metaPut s e.1 e.2).1) ⟨dest, tickCount dest, 0, tickCount dest, m0⟩ temp.queryMeta)
    temp.queryAll) = _
  rw [h, put_foldl]
  rfl

theorem mergeDb_empty (uid : Bytes) (dest temp : Db) (he : temp.queryAll = []) :
    mergeDb O uid 0 dest temp = dest := by
  rw [mergeDb_eq, mergedData, he]
  rfl

theorem mergeDb_fetch_data (uid : Bytes) (m0 : Int) (dest temp : Db) (k : Bytes) (hk : isMetaKey k = false) :
    (mergeDb O uid m0 dest temp).fetch k = (mergedData O dest temp).fetch k := by
  have hne : ∀ a, 1 :: a ≠ k := fun a e => by rw [← e] at hk; cases hk
  rw [mergeDb_eq]
  split
  · rfl
  · rw [Db.metaUpdate, Db.metaUpdate, fetch_update, if_neg (hne _), fetch_update, if_neg (hne _)]

theorem mergeDb_isSome (uid : Bytes) (m0 : Int) (dest temp : Db) (k : Bytes)
    (h : ((mergedData O dest temp).fetch k).isSome) : ((mergeDb O uid m0 dest temp).fetch k).isSome := by
  rw [mergeDb_eq]
  by_cases h0 : m0 + temp.queryAll.length = 0
  · rw [if_pos h0]
    exact h
  · rw [if_neg h0]
    exact fetch_update_isSome _ _ (fetch_update_isSome _ _ h)

theorem mergeDb_fetch (uid : Bytes) (m0 : Int) (dest temp : Db) (hn : (temp.map (·.1)).Nodup) (k : Bytes)
    (hk : bytesLt k [32] = false) :
    (mergeDb O uid m0 dest temp).fetch k =
      match temp.fetch k with
      | some v => some (pack O (mergedValue O dest temp (dest.fetch k) v))
      | none => dest.fetch k := by
  rw [mergeDb_fetch_data uid m0 dest temp k (not_meta_of_data hk), mergedData,
    fetch_upsertAll _ _ (queryAll_nodup hn), fetch_queryAll hk]
  rfl

theorem mergeDb_fetch_of_nonempty (uid : Bytes) (dest temp : Db) (hne : temp.queryAll ≠ []) (k : Bytes) :
    (mergeDb O uid 0 dest temp).fetch k =
      if 1 :: kUserId = k then some uid
      else if 1 :: kTick = k then some (showNat (mergedTick dest temp))
      else (mergedData O dest temp).fetch k := by
  have hlen : ¬ (0 + (temp.queryAll.length : Int) = 0) := by
    rw [Int.zero_add, Int.natCast_eq_zero, List.length_eq_zero_iff]
    exact hne
  rw [mergeDb_eq, if_neg hlen, Db.metaUpdate, Db.metaUpdate, fetch_update, fetch_update]

theorem mergeDb_tickCount (uid : Bytes) (dest temp : Db) (hne : temp.queryAll ≠ []) :
    tickCount (mergeDb O uid 0 dest temp) = mergedTick dest temp := by
  unfold tickCount Db.metaFetch
  rw [mergeDb_fetch_of_nonempty uid dest temp hne, if_neg (by decide), if_pos rfl]
  simp only [stoul_showNat _ (mergedTick_lt dest temp), Option.getD_some]

theorem commitsAt_mergeDb (L : LawfulDee O) (uid : Bytes) (m0 : Int) (dest temp : Db) (hn : (temp.map (·.1)).Nodup)
    (k : Bytes) (hk : bytesLt k [32] = false) :
    commitsAt O (mergeDb O uid m0 dest temp) k =
      if (commitsAt O dest k).natAbs < (commitsAt O temp k).natAbs then commitsAt O temp k else commitsAt O dest k := by
  rw [commitsAt, mergeDb_fetch uid m0 dest temp hn k hk, commitsAt.eq_1 O temp]
  cases temp.fetch k with
  | none =>
    show commitsAt O dest k = if _ < Int.natAbs 0 then (0 : Int) else commitsAt O dest k
    exact (if_neg (Nat.not_lt_zero _)).symm
  | some v =>
    simp only [(mergeValue_ok L _ _ _ (mergedTick_lt dest temp) _ _).unpack_pack, mergedValue, mergeValue_commits,
      commitsAt_eq]

theorem upsertAll_sorted (f : Bytes → Option Bytes → Bytes → Bytes) (es : List (Bytes × Bytes)) (db : Db)
    (h : db.Sorted) : (db.upsertAll f es).Sorted := by
  induction es generalizing db with
  | nil => exact h
  | cons e r ih => exact ih _ (update_sorted _ _ _ h)

end RimeModel.C17
