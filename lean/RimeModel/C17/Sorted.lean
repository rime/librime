import RimeModel.C17.Lemmas
/-! C17 — the store stays strictly ordered by key (hence a map with unique keys) under `update`. -/
namespace RimeModel.C17

theorem bytesLt_iff {a b : Bytes} : bytesLt a b = true ↔ a < b := by
  fun_induction bytesLt a b with
  | case1 a => exact ⟨(nomatch ·), fun h => absurd h (List.not_lt_nil a)⟩
  | case2 b bs => exact ⟨fun _ => List.nil_lt_cons b bs, fun _ => rfl⟩
  | case3 a as b bs hab => exact ⟨fun _ => List.cons_lt_cons_iff.2 (Or.inl hab), fun _ => rfl⟩
  | case4 a as b bs hab hba =>
    refine ⟨(nomatch ·), fun h => ?_⟩
    rcases List.cons_lt_cons_iff.1 h with h | h
    · exact absurd h hab
    · exact absurd hba (h.1 ▸ Nat.lt_irrefl _)
  | case5 a as b bs hab hba ih =>
    rw [ih, List.cons_lt_cons_iff, or_iff_right hab, and_iff_right (Nat.le_antisymm (Nat.le_of_not_lt hba) (Nat.le_of_not_lt hab))]

theorem bytesLt_irrefl (a : Bytes) : bytesLt a a = false :=
  Bool.eq_false_iff.mpr fun h => List.lt_irrefl a (bytesLt_iff.mp h)

theorem bytesLt_trans (a b c : Bytes) (h1 : bytesLt a b = true) (h2 : bytesLt b c = true) : bytesLt a c = true :=
  bytesLt_iff.mpr (List.lt_trans (bytesLt_iff.mp h1) (bytesLt_iff.mp h2))

theorem bytesLt_connex (a b : Bytes) (h : bytesLt a b = false) (hne : a ≠ b) : bytesLt b a = true :=
  bytesLt_iff.mpr (Std.lt_of_le_of_ne (List.not_lt.mp fun h' => Bool.eq_false_iff.mp h (bytesLt_iff.mpr h')) hne.symm)

/-- keys strictly increasing -/
def Db.Sorted (db : Db) : Prop := db.Pairwise (fun a b => bytesLt a.1 b.1 = true)

theorem Db.sorted_nil : Db.Sorted [] := List.Pairwise.nil

theorem mem_update {db : Db} {k v : Bytes} {e : Bytes × Bytes} (he : e ∈ db.update k v) : e = (k, v) ∨ e ∈ db := by
  fun_induction Db.update db k v with
  | case1 => exact Or.inl (List.mem_singleton.mp he)
  | case2 => exact (List.mem_cons.mp he).imp id (List.mem_cons_of_mem _)
  | case3 => exact List.mem_cons.mp he
  | case4 k' v' r k v hk hlt ih =>
    rcases List.mem_cons.mp he with h | h
    · exact Or.inr (h ▸ List.mem_cons_self)
    · exact (ih h).imp id (List.mem_cons_of_mem _)

theorem update_sorted (db : Db) (k v : Bytes) (h : db.Sorted) : (db.update k v).Sorted := by
  fun_induction Db.update db k v with
  | case1 => exact List.pairwise_singleton _ _
  | case2 v' r k v => exact List.pairwise_cons.mpr (List.pairwise_cons.mp h)
  | case3 k' v' r k v hk hlt =>
    refine List.pairwise_cons.mpr ⟨fun e he => ?_, h⟩
    rcases List.mem_cons.mp he with rfl | he
    · exact hlt
    · exact bytesLt_trans _ _ _ hlt ((List.pairwise_cons.mp h).1 e he)
  | case4 k' v' r k v hk hlt ih =>
    have hd := List.pairwise_cons.mp h
    refine List.pairwise_cons.mpr ⟨fun e he => ?_, ih hd.2⟩
    rcases mem_update he with rfl | he
    · exact bytesLt_connex k k' (Bool.eq_false_iff.mpr hlt) (Ne.symm hk)
    · exact hd.1 e he

theorem sorted_nodup {db : Db} (h : db.Sorted) : (db.map (·.1)).Nodup :=
  List.nodup_iff_pairwise_ne.mpr (List.pairwise_map.mpr (h.imp fun hab e => by
    rw [e, bytesLt_irrefl] at hab
    cases hab))

end RimeModel.C17
