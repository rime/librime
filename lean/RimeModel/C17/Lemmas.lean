import RimeModel.C17.Model
/-! C17 — the byte-string toolkit, the decimal codec, and the store with a list of records written into it. -/
namespace RimeModel.C17

theorem splitOn_ne_nil (sep : Nat) (s : Bytes) : splitOn sep s ≠ [] := by
  fun_cases splitOn sep s with
  | _ => exact List.cons_ne_nil _ _

theorem splitOn_nosep (sep : Nat) (a : Bytes) (h : sep ∉ a) : splitOn sep a = [a] := by
  induction a with
  | nil => simp [splitOn]
  | cons c cs ih =>
    have hc : c ≠ sep := fun e => h (by simp [e])
    have hcs : sep ∉ cs := fun e => h (by simp [e])
    unfold splitOn
    simp [hc, ih hcs]

theorem splitOn_append (sep : Nat) (a b : Bytes) (h : sep ∉ a) :
    splitOn sep (a ++ sep :: b) = a :: splitOn sep b := by
  induction a with
  | nil => simp [splitOn]
  | cons c cs ih =>
    have hc : c ≠ sep := fun e => h (by simp [e])
    have hcs : sep ∉ cs := fun e => h (by simp [e])
    simp only [List.cons_append, splitOn, hc, if_false, ih hcs]

theorem splitOn_joinWith (sep : Nat) (ts : List Bytes) (hne : ts ≠ []) (h : ∀ t ∈ ts, sep ∉ t) :
    splitOn sep (joinWith sep ts) = ts := by
  fun_induction joinWith sep ts with
  | case1 => exact absurd rfl hne
  | case2 a => exact splitOn_nosep sep a (h a List.mem_cons_self)
  | case3 a b r ih =>
    rw [splitOn_append sep a _ (h a List.mem_cons_self),
      ih (List.cons_ne_nil _ _) fun t ht => h t (List.mem_cons_of_mem _ ht)]

theorem mem_joinWith {sep c : Nat} {ts : List Bytes} (h : c ∈ joinWith sep ts) : c = sep ∨ ∃ t ∈ ts, c ∈ t := by
  fun_induction joinWith sep ts with
  | case1 => cases h
  | case2 a => exact Or.inr ⟨a, List.mem_cons_self, h⟩
  | case3 a b r ih =>
    rw [List.mem_append, List.mem_cons] at h
    rcases h with h | h | h
    · exact Or.inr ⟨a, List.mem_cons_self, h⟩
    · exact Or.inl h
    · rcases ih h with h | ⟨t, ht, hc⟩
      · exact Or.inl h
      · exact Or.inr ⟨t, List.mem_cons_of_mem _ ht, hc⟩

theorem isDigit_digit (n : Nat) : isDigit (48 + n % 10) = true := by
  rw [isDigit, Bool.and_eq_true, decide_eq_true_eq, decide_eq_true_eq]
  exact ⟨Nat.le_add_right _ _, Nat.add_le_add_left (Nat.le_of_lt_succ (Nat.mod_lt n (by decide))) 48⟩

theorem digitsVal_digit (n : Nat) (rest : Bytes) :
    digitsVal (n / 10) ((48 + n % 10) :: rest) = digitsVal n rest := by
  rw [digitsVal, if_pos (isDigit_digit n), Nat.add_sub_cancel_left, Nat.div_add_mod']

theorem natDigits_head (fuel n : Nat) (acc : Bytes) (h : headIsDigit acc = true) :
    headIsDigit (natDigits fuel n acc) = true := by
  fun_induction natDigits fuel n acc with
  | case1 => exact h
  | case2 => exact isDigit_digit _
  | case3 f n acc h0 ih => exact ih (isDigit_digit n)

theorem digitsVal_natDigits (fuel n : Nat) (rest : Bytes) (hf : n < fuel) :
    digitsVal 0 (natDigits fuel n rest) = digitsVal n rest := by
  fun_induction natDigits fuel n rest with
  | case1 => exact absurd hf (Nat.not_lt_zero _)
  | case2 f n rest h0 => rw [← digitsVal_digit n rest, h0]
  | case3 f n rest h0 ih =>
    rw [ih (Nat.lt_of_lt_of_le (Nat.div_lt_self (Nat.pos_of_ne_zero fun e => h0 (by rw [e])) (by decide)) (Nat.le_of_lt_succ hf)),
      digitsVal_digit]

theorem natDigits_all_digits (fuel n : Nat) (acc : Bytes) (h : ∀ c ∈ acc, isDigit c = true) :
    ∀ c ∈ natDigits fuel n acc, isDigit c = true := by
  have hd : ∀ n acc, (∀ c ∈ acc, isDigit c = true) → ∀ c ∈ (48 + n % 10) :: acc, isDigit c = true :=
    fun n acc h => List.forall_mem_cons.2 ⟨isDigit_digit n, h⟩
  fun_induction natDigits fuel n acc with
  | case1 => exact h
  | case2 f n acc => exact hd n acc h
  | case3 f n acc h0 ih => exact ih (hd n acc h)

theorem showNat_digits (n : Nat) : ∀ c ∈ showNat n, isDigit c = true :=
  natDigits_all_digits _ _ _ (fun _ h => nomatch h)

theorem showNat_headIsDigit (n : Nat) : headIsDigit (showNat n) = true := by
  unfold showNat natDigits
  split
  · exact isDigit_digit n
  · exact natDigits_head _ _ _ (isDigit_digit n)

theorem showNat_head (n : Nat) (r : Bytes) : headIsDigit (showNat n ++ r) = true := by
  have h := showNat_headIsDigit n
  cases hs : showNat n with
  | nil => rw [hs] at h; cases h
  | cons c cs => rw [hs] at h; exact h

theorem showNat_ne_nil (n : Nat) : showNat n ≠ [] := by
  intro e
  have h := showNat_headIsDigit n
  rw [e] at h
  cases h

theorem digitsVal_append_digits (acc : Nat) (ds rest : Bytes) (h : ∀ c ∈ ds, isDigit c = true) :
    digitsVal acc (ds ++ rest) = digitsVal (digitsVal acc ds) rest := by
  fun_induction digitsVal acc ds with
  | case1 => rfl
  | case2 acc c cs hc ih =>
    rw [List.cons_append, digitsVal, if_pos hc, ih fun x hx => h x (List.mem_cons_of_mem _ hx)]
  | case3 acc c cs hc => exact absurd (h c List.mem_cons_self) hc

theorem digitsVal_showNat (n : Nat) : digitsVal 0 (showNat n) = n := by
  have := digitsVal_natDigits (n + 1) n [] (by omega)
  simpa [showNat, digitsVal] using this

theorem isDigit_not_space {c : Nat} (h : isDigit c = true) : isSpace c = false := by
  simp [isDigit] at h
  simp [isSpace]
  omega

theorem skipWs_of_head {s : Bytes} (h : headIsDigit s = true) : skipWs s = s := by
  fun_cases skipWs s with
  | case1 => rfl
  | case2 c cs hc =>
    rw [isDigit_not_space h] at hc
    cases hc
  | case3 => rfl

theorem takeSign_cons (c : Nat) (cs : Bytes) (h1 : c ≠ 45) (h2 : c ≠ 43) :
    takeSign (c :: cs) = (false, c :: cs) := by
  unfold takeSign
  split
  · simp_all
  · simp_all
  · rfl

theorem takeSign_of_head {s : Bytes} (h : headIsDigit s = true) : takeSign s = (false, s) := by
  fun_cases takeSign s with
  | case1 r => cases h
  | case2 r => cases h
  | case3 => rfl

theorem stoul_showNat (t : Nat) (h : t < ulongLim) : stoul (showNat t) = some t := by
  have hh : headIsDigit (showNat t) = true := showNat_headIsDigit t
  unfold stoul
  simp [skipWs_of_head hh, takeSign_of_head hh, hh, digitsVal_showNat, h]

theorem stoi_showInt (c : Int) (h1 : intMin ≤ c) (h2 : c ≤ intMax) : stoi (showInt c) = some c := by
  unfold showInt
  split
  next hneg =>
    have hh : headIsDigit (showNat c.natAbs) = true := showNat_headIsDigit c.natAbs
    unfold stoi
    simp only [skipWs, isSpace, takeSign]
    have : ((c.natAbs : Nat) : Int) = -c := Int.ofNat_natAbs_of_nonpos (Int.le_of_lt hneg)
    simp [hh, digitsVal_showNat, this, h1, h2]
  next hpos =>
    have hh : headIsDigit (showNat c.natAbs) = true := showNat_headIsDigit c.natAbs
    unfold stoi
    have : ((c.natAbs : Nat) : Int) = c := Int.natAbs_of_nonneg (Int.not_lt.1 hpos)
    simp [skipWs_of_head hh, takeSign_of_head hh, hh, digitsVal_showNat, this, h1, h2]

theorem showNat_clean (n : Nat) : ∀ c ∈ showNat n, isSpace c = false :=
  fun c hc => isDigit_not_space (showNat_digits n c hc)

theorem showInt_clean (i : Int) : ∀ c ∈ showInt i, isSpace c = false := by
  fun_cases showInt i with
  | case1 => exact List.forall_mem_cons.2 ⟨rfl, showNat_clean _⟩
  | case2 => exact showNat_clean _

theorem dropLastEmpty_append_nil (ls : List Bytes) : dropLastEmpty (ls ++ [[]]) = ls := by
  induction ls with
  | nil => simp [dropLastEmpty]
  | cons l r ih =>
    cases r with
    | nil => simp [dropLastEmpty]
    | cons m r' =>
      simp only [List.cons_append] at ih ⊢
      simp [dropLastEmpty, ih]

theorem splitOn_unlines (ls : List Bytes) (h : ∀ l ∈ ls, 10 ∉ l) :
    splitOn 10 (unlines ls) = ls ++ [[]] := by
  induction ls with
  | nil => simp [unlines, splitOn]
  | cons l r ih =>
    have hl : 10 ∉ l := h l (by simp)
    have hr : ∀ x ∈ r, 10 ∉ x := fun x hx => h x (by simp [hx])
    simp [unlines, splitOn_append 10 l _ hl, ih hr]

theorem linesOf_unlines (ls : List Bytes) (h : ∀ l ∈ ls, 10 ∉ l) : linesOf (unlines ls) = ls := by
  simp [linesOf, splitOn_unlines ls h, dropLastEmpty_append_nil]

theorem trimRight_append_last (a : Bytes) (c : Nat) (hc : isSpace c = false) :
    trimRight (a ++ [c]) = a ++ [c] := by
  induction a with
  | nil => simp [trimRight, hc]
  | cons x xs ih =>
    simp only [List.cons_append, trimRight, ih]
    cases xs <;> simp

theorem trimRight_cons_nonspace (c : Nat) (cs : Bytes) (h : isSpace c = false) :
    trimRight (c :: cs) = c :: trimRight cs := by
  simp only [trimRight]
  cases trimRight cs <;> simp [h]

theorem fetch_update (db : Db) (k v q : Bytes) :
    (db.update k v).fetch q = if k = q then some v else db.fetch q := by
  fun_induction Db.update db k v with
  | case1 => rfl
  | case2 v' r k v =>
    rw [Db.fetch, Db.fetch]
    by_cases hq : k = q
    · rw [if_pos hq, if_pos hq]
    · rw [if_neg hq, if_neg hq, if_neg hq]
  | case3 k' v' r k v hk hlt => rfl
  | case4 k' v' r k v hk hlt ih =>
    rw [Db.fetch, Db.fetch, ih]
    by_cases he : k' = q
    · rw [if_pos he, if_pos he, if_neg (fun h => hk (he.trans h.symm))]
    · rw [if_neg he, if_neg he]
theorem fetch_update_isSome {db : Db} {q : Bytes} (k v : Bytes) (h : (db.fetch q).isSome) :
    ((db.update k v).fetch q).isSome := by
  rw [fetch_update]
  by_cases hk : k = q
  · rw [if_pos hk]
    rfl
  · rw [if_neg hk]
    exact h

theorem fetch_mem {db : Db} {k v : Bytes} (h : db.fetch k = some v) : (k, v) ∈ db := by
  revert h
  fun_induction Db.fetch db k with
  | case1 => exact fun h => nomatch h
  | case2 v' r k => exact fun h => Option.some.inj h ▸ List.mem_cons_self
  | case3 k' v' r k hk ih => exact fun h => List.mem_cons_of_mem _ (ih h)

theorem fetch_isSome_iff {db : Db} {k : Bytes} : (db.fetch k).isSome ↔ k ∈ db.map (·.1) := by
  fun_induction Db.fetch db k with
  | case1 => exact ⟨(nomatch ·), (nomatch ·)⟩
  | case2 v' r k => exact ⟨fun _ => List.mem_cons_self, fun _ => rfl⟩
  | case3 k' v' r k hk ih => rw [ih, List.map_cons, List.mem_cons, or_iff_right (fun h' => hk h'.symm)]

theorem fetch_none_of_not_mem {db : Db} {k : Bytes} (h : k ∉ db.map (·.1)) : db.fetch k = none :=
  Option.not_isSome_iff_eq_none.mp fun hs => h (fetch_isSome_iff.mp hs)

theorem fetch_of_mem_nodup {db : Db} (hn : (db.map (·.1)).Nodup) {k v : Bytes} (h : (k, v) ∈ db) :
    db.fetch k = some v := by
  induction db with
  | nil => simp at h
  | cons e r ih =>
    obtain ⟨ke, ve⟩ := e
    simp only [List.map_cons, List.nodup_cons] at hn
    rcases List.mem_cons.mp h with e | hm
    · cases e; simp [Db.fetch]
    · have : ke ≠ k := fun e => hn.1 (by subst e; exact List.mem_map_of_mem (f := (·.1)) hm)
      simp [Db.fetch, this, ih hn.2 hm]

theorem fetch_filter (p : Bytes → Bool) (db : Db) (k : Bytes) :
    Db.fetch (db.filter fun e => p e.1) k = if p k then db.fetch k else none := by
  induction db with
  | nil => simp [Db.fetch]
  | cons e r ih =>
    by_cases he : e.1 = k
    · cases hp : p k <;> simp [Db.fetch, he, hp, ih]
    · cases hp : p e.1 <;> simp [Db.fetch, he, hp, ih]

theorem isMetaKey_iff {k : Bytes} : isMetaKey k = true ↔ ∃ a, k = 1 :: a := by
  fun_cases isMetaKey k with
  | case1 a => exact ⟨fun _ => ⟨a, rfl⟩, fun _ => rfl⟩
  | case2 k hk => exact ⟨(nomatch ·), fun ⟨a, e⟩ => absurd e (hk a)⟩

theorem not_meta_of_data {k : Bytes} (h : bytesLt k [32] = false) : isMetaKey k = false := by
  cases hm : isMetaKey k with
  | false => rfl
  | true =>
    obtain ⟨a, rfl⟩ := isMetaKey_iff.mp hm
    simp [bytesLt] at h

theorem fetch_queryMeta (db : Db) (k : Bytes) : Db.fetch db.queryMeta k = db.metaFetch k := by
  induction db with
  | nil => rfl
  | cons e r ih =>
    obtain ⟨ke, ve⟩ := e
    simp only [Db.queryMeta, Db.metaFetch, List.filter_cons, Db.fetch] at ih ⊢
    by_cases hm : isMetaKey ke = true
    · obtain ⟨a, rfl⟩ := isMetaKey_iff.mp hm
      simp only [hm, if_true, List.map_cons, Db.fetch, List.tail_cons, List.cons.injEq, true_and, ih]
    · have : ke ≠ 1 :: k := fun h => hm (h ▸ rfl)
      simp only [hm, this, Bool.false_eq_true, if_false, ih]

theorem mem_queryAll {db : Db} {e : Bytes × Bytes} : e ∈ db.queryAll ↔ e ∈ db ∧ bytesLt e.1 [32] = false := by
  simp [Db.queryAll, List.mem_filter]

theorem queryAll_nodup {db : Db} (hn : (db.map (·.1)).Nodup) : (db.queryAll.map (·.1)).Nodup :=
  hn.sublist (List.filter_sublist.map _)

theorem queryMeta_nodup {db : Db} (hn : (db.map (·.1)).Nodup) : (db.queryMeta.map (·.1)).Nodup := by
  unfold Db.queryMeta
  rw [List.map_map, List.nodup_iff_pairwise_ne, List.pairwise_map, List.pairwise_filter]
  refine (List.pairwise_map.mp (List.nodup_iff_pairwise_ne.mp hn)).imp ?_
  intro a b hab ha hb ht
  obtain ⟨x, hx⟩ := isMetaKey_iff.mp ha
  obtain ⟨y, hy⟩ := isMetaKey_iff.mp hb
  simp only [Function.comp, hx, hy, List.tail_cons] at ht
  exact hab (by rw [hx, hy, ht])

theorem fetch_queryAll {db : Db} {k : Bytes} (hk : bytesLt k [32] = false) : Db.fetch db.queryAll k = db.fetch k := by
  simp only [Db.queryAll, fetch_filter (fun k => !bytesLt k [32]), hk, Bool.not_false, if_true]

/-- the shape `DbSink`, `UserDbMerger` and `UserDbImporter` share: each record's value combined with what the store holds -/
def Db.upsertAll (f : Bytes → Option Bytes → Bytes → Bytes) (db : Db) (es : List (Bytes × Bytes)) : Db :=
  es.foldl (fun db e => db.update e.1 (f e.1 (db.fetch e.1) e.2)) db

theorem Db.upsertAll_cons (f : Bytes → Option Bytes → Bytes → Bytes) (db : Db) (e : Bytes × Bytes)
    (r : List (Bytes × Bytes)) :
    db.upsertAll f (e :: r) = (db.update e.1 (f e.1 (db.fetch e.1) e.2)).upsertAll f r := rfl

theorem fetch_upsertAll (f : Bytes → Option Bytes → Bytes → Bytes) (es : List (Bytes × Bytes))
    (hn : (es.map (·.1)).Nodup) (db : Db) (k : Bytes) :
    (db.upsertAll f es).fetch k =
      match Db.fetch es k with
      | some v => some (f k (db.fetch k) v)
      | none => db.fetch k := by
  induction es generalizing db with
  | nil => rfl
  | cons e r ih =>
    simp only [List.map_cons, List.nodup_cons] at hn
    rw [Db.upsertAll_cons, ih hn.2, fetch_update]
    by_cases he : e.1 = k
    · simp only [Db.fetch, he, fetch_none_of_not_mem (he ▸ hn.1), if_true]
    · simp only [Db.fetch, he, if_false]

theorem upsertAll_isSome (f : Bytes → Option Bytes → Bytes → Bytes) (es : List (Bytes × Bytes)) (db : Db) (k : Bytes) :
    ((db.upsertAll f es).fetch k).isSome ↔ (db.fetch k).isSome ∨ k ∈ es.map (·.1) := by
  induction es generalizing db with
  | nil => exact ⟨Or.inl, fun h => h.elim id fun h => nomatch h⟩
  | cons e r ih =>
    rw [Db.upsertAll_cons, ih, fetch_update, List.map_cons, List.mem_cons]
    by_cases he : e.1 = k
    · rw [if_pos he]
      exact ⟨fun _ => Or.inr (Or.inl he.symm), fun _ => Or.inl rfl⟩
    · rw [if_neg he, or_iff_right (fun h : k = e.1 => he h.symm)]

theorem foldl_and_snd {α β : Type} (f : α → β → α × Bool) (l : List β) (a : α) (b : Bool) :
    (l.foldl (fun (acc : α × Bool) x => ((f acc.1 x).1, acc.2 && (f acc.1 x).2)) (a, b)).2 =
      (b && (l.foldl (fun (acc : α × Bool) x => ((f acc.1 x).1, acc.2 && (f acc.1 x).2)) (a, true)).2) := by
  induction l generalizing a b with
  | nil => exact (Bool.and_true b).symm
  | cons x xs ih => rw [List.foldl_cons, List.foldl_cons, ih, ih (b := true && _), Bool.true_and, Bool.and_assoc]

end RimeModel.C17
