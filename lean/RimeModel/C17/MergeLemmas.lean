import RimeModel.C17.Codec
/-! C17 — the record `UserDbMerger` / `UserDbImporter` write for one key; `MetaPut` and `Put` folded over a source. -/
namespace RimeModel.C17

variable {D : Type} {O : DeeOps D}

/-- commit count stored under `k` (0 when absent) -/
def commitsAt (O : DeeOps D) (db : Db) (k : Bytes) : Int :=
  match db.fetch k with
  | some v => (unpack O v).commits
  | none => 0

theorem commitsAt_eq (db : Db) (k : Bytes) : commitsAt O db k = (oursBase O (db.fetch k)).commits := by
  unfold commitsAt oursBase
  cases db.fetch k <;> rfl

/-- `render (norm d) = render d`: the text of `d` survives a write/read cycle -/
def Stable (L : LawfulDee O) (d : D) : Prop := O.render (L.norm d) = O.render d

/-- a value as `Unpack` can produce it: count in `int`, tick in `unsigned long`, dee within the cap -/
def Value.Ok (L : LawfulDee O) (v : Value D) : Prop := IntRange v.commits ∧ v.tick < ulongLim ∧ Stable L v.dee

theorem Value.Ok.unpack_pack {L : LawfulDee O} {v : Value D} (hv : v.Ok L) :
    unpack O (pack O v) = ⟨v.commits, L.norm v.dee, v.tick⟩ := unpack_pack_eq L v hv.1 hv.2.1

theorem dflt_ok (L : LawfulDee O) : (Value.dflt O).Ok L :=
  ⟨⟨show intMin ≤ 0 by decide, show (0 : Int) ≤ intMax by decide⟩, show 0 < ulongLim by decide, L.stable_zero⟩

theorem unpackTok_ok (L : LawfulDee O) {v v' : Value D} {tok : Bytes} (h : unpackTok O v tok = some v')
    (hv : v.Ok L) : v'.Ok L := by
  revert h
  fun_cases unpackTok O v tok with
  | case2 x =>
    intro h
    obtain ⟨a, ha, rfl⟩ := Option.map_eq_some_iff.mp h
    exact ⟨stoi_range ha, hv.2⟩
  | case3 x =>
    intro h
    obtain ⟨a, ha, rfl⟩ := Option.map_eq_some_iff.mp h
    exact ⟨hv.1, hv.2.1, L.stable_read _ _ ha⟩
  | case4 x =>
    intro h
    obtain ⟨a, ha, rfl⟩ := Option.map_eq_some_iff.mp h
    exact ⟨hv.1, stoul_range ha, hv.2.2⟩
  | _ =>
    intro h
    cases h
    exact hv

theorem unpackToks_ok (L : LawfulDee O) (toks : List Bytes) (v : Value D) (hv : v.Ok L) :
    (unpackToks O v toks).1.Ok L := by
  fun_induction unpackToks O v toks with
  | case1 => exact hv
  | case2 => exact hv
  | case3 v t ts v' h ih => exact ih (unpackTok_ok L h hv)

theorem unpack_ok (L : LawfulDee O) (s : Bytes) : (unpack O s).Ok L := unpackToks_ok L _ _ (dflt_ok L)

theorem oursBase_ok (L : LawfulDee O) (ours : Option Bytes) : (oursBase O ours).Ok L := by
  cases ours with
  | none => exact dflt_ok L
  | some s => exact unpack_ok L s

theorem decayTo_commits (v : Value D) (t : Nat) : (decayTo O v t).commits = v.commits := by
  fun_cases decayTo O v t with
  | _ => rfl

theorem decayTo_tick (v : Value D) (t : Nat) : (decayTo O v t).tick = v.tick := by
  fun_cases decayTo O v t with
  | _ => rfl

theorem decayTo_of_ge (v : Value D) (t : Nat) (h : ¬ v.tick < t) : decayTo O v t = v := if_neg h

theorem decayTo_ok (L : LawfulDee O) (v : Value D) (t : Nat) (h : v.Ok L) : (decayTo O v t).Ok L := by
  fun_cases decayTo O v t with
  | case1 hlt => exact ⟨h.1, h.2.1, L.stable_decay _ _ _ hlt h.2.2⟩
  | case2 => exact h

theorem max_stable (L : LawfulDee O) {a b : D} (ha : Stable L a) (hb : Stable L b) : Stable L (O.max a b) := by
  fun_cases DeeOps.max O a b with
  | case1 => exact hb
  | case2 => exact ha

theorem mergeValue_stable (L : LawfulDee O) (our their maxT : Nat) (ours : Option Bytes) (value : Bytes) :
    Stable L (mergeValue O our their maxT ours value).dee :=
  max_stable L (decayTo_ok L _ _ (oursBase_ok L ours)).2.2 (decayTo_ok L _ _ (unpack_ok L value)).2.2

theorem mergeValue_commits (our their maxT : Nat) (ours : Option Bytes) (value : Bytes) :
    (mergeValue O our their maxT ours value).commits =
      if (oursBase O ours).commits.natAbs < (unpack O value).commits.natAbs then (unpack O value).commits
      else (oursBase O ours).commits := by
  simp only [mergeValue, theirValue, ourValue, decayTo_commits]

theorem mergeValue_ok (L : LawfulDee O) (our their maxT : Nat) (hm : maxT < ulongLim) (ours : Option Bytes)
    (value : Bytes) : (mergeValue O our their maxT ours value).Ok L := by
  refine ⟨?_, hm, mergeValue_stable L our their maxT ours value⟩
  rw [mergeValue_commits]
  split
  · exact (unpack_ok L value).1
  · exact (oursBase_ok L ours).1

/-- the order fact behind idempotence: writing max(a,b), reading it back and taking the max with b again
prints the same text -/
theorem render_max_again (L : LawfulDee O) {a b : D} (ha : Stable L a) (hb : Stable L b) :
    O.render (O.max (L.norm (O.max a b)) b) = O.render (O.max a b) := by
  have hm : Stable L (O.max a b) := max_stable L ha hb
  have hle : O.lt (O.max a b) b = false := by
    unfold DeeOps.max
    split
    · exact L.lt_irrefl b
    · next h => simpa using h
  generalize O.max a b = m at hm hle
  unfold DeeOps.max
  split
  next hlt =>
    -- norm m < b ≤ m: then norm b = norm m
    have h1 : O.lt (L.norm m) (L.norm b) = false := L.norm_mono b m hle
    have hnb : O.lt b (L.norm m) = false := by
      cases hh : O.lt b (L.norm m) with
      | false => rfl
      | true =>
        have := L.lt_trans _ _ _ hlt hh
        rw [L.lt_irrefl] at this
        cases this
    have h2 : O.lt (L.norm b) (L.norm m) = false := by
      have := L.norm_mono (L.norm m) b hnb
      rwa [L.norm_idem] at this
    have e : L.norm b = L.norm m := L.lt_connex _ _ h2 h1
    calc O.render b = O.render (L.norm b) := hb.symm
      _ = O.render (L.norm m) := by rw [e]
      _ = O.render m := hm
  next => exact hm

theorem pack_congr {v w : Value D} (hc : v.commits = w.commits) (hd : O.render v.dee = O.render w.dee)
    (ht : v.tick = w.tick) : pack O v = pack O w := by
  simp only [pack, hc, hd, ht]

theorem mergeValue_of_pack (L : LawfulDee O) {w : Value D} (hw : w.Ok L) (their : Nat) (value : Bytes) :
    mergeValue O w.tick their w.tick (some (pack O w)) value =
      ⟨if w.commits.natAbs < (unpack O value).commits.natAbs then (unpack O value).commits else w.commits,
        O.max (L.norm w.dee) (theirValue O their value).dee, w.tick⟩ := by
  have hours : ourValue O w.tick (some (pack O w)) = ⟨w.commits, L.norm w.dee, w.tick⟩ := by
    rw [ourValue, oursBase, hw.unpack_pack]
    exact decayTo_of_ge _ _ (Nat.lt_irrefl _)
  simp only [mergeValue, hours, theirValue, decayTo_commits]

/-- the second merge of a record runs at the tick the first one left behind -/
theorem mergeValue_again (L : LawfulDee O) (our their maxT : Nat) (hm : maxT < ulongLim) (ours : Option Bytes)
    (value : Bytes) :
    pack O (mergeValue O maxT their maxT (some (pack O (mergeValue O our their maxT ours value))) value) =
      pack O (mergeValue O our their maxT ours value) := by
  refine (congrArg (pack O) (mergeValue_of_pack L (mergeValue_ok L our their maxT hm ours value) their value)).trans ?_
  refine pack_congr ?_ ?_ rfl
  · -- the first merge already took the larger magnitude
    simp only [mergeValue_commits]
    by_cases h : (oursBase O ours).commits.natAbs < (unpack O value).commits.natAbs
    · simp only [h, if_true, Nat.lt_irrefl, if_false]
    · simp only [h, if_false]
  · exact render_max_again L (decayTo_ok L _ _ (oursBase_ok L ours)).2.2 (decayTo_ok L _ _ (unpack_ok L value)).2.2

theorem importValue_commits (ours : Option Bytes) (value : Bytes) :
    (importValue O ours value).commits =
      if (unpack O value).commits > 0 then max (oursBase O ours).commits (unpack O value).commits
      else if (unpack O value).commits < 0 then min (unpack O value).commits (-((oursBase O ours).commits.natAbs : Int))
      else (oursBase O ours).commits := by
  unfold importValue
  rw [apply_ite Value.commits, apply_ite Value.commits]

theorem importValue_tick (ours : Option Bytes) (value : Bytes) :
    (importValue O ours value).tick = (oursBase O ours).tick := by
  unfold importValue
  rw [apply_ite Value.tick, apply_ite Value.tick]
  simp only [ite_self]

theorem importValue_ok (L : LawfulDee O) (ours : Option Bytes) (value : Bytes) : (importValue O ours value).Ok L := by
  have ho := oursBase_ok L ours
  have hv := unpack_ok L value
  fun_cases importValue O ours value with
  | case1 hp =>
    exact ⟨⟨Int.le_trans ho.1.1 (Int.le_max_left _ _), Int.max_le.mpr ⟨ho.1.2, hv.1.2⟩⟩, ho.2.1,
      max_stable L ho.2.2 hv.2.2⟩
  | case2 hp hn =>
    refine ⟨⟨Int.le_min.mpr ⟨hv.1.1, ?_⟩, Int.le_trans (Int.min_le_left _ _) hv.1.2⟩, ho.2.1, ho.2.2⟩
    have h1 := ho.1.1
    have h2 := ho.1.2
    simp only [intMin, intMax] at h1 h2 ⊢
    omega
  | case3 => exact ho

theorem tickCount_lt (db : Db) : tickCount db < ulongLim := by
  fun_cases tickCount db with
  | case1 s hs =>
    cases h : stoul s with
    | none => decide
    | some t => exact stoul_range h
  | case2 => decide

/-- the tick `MetaPut` records when fed these metadata records in order, starting from `t0`: the last readable `/tick` -/
def tickAfter (t0 : Nat) (metas : List (Bytes × Bytes)) : Nat :=
  metas.foldl (fun t e => if e.1 = kTick then (stoul e.2).getD t else t) t0

def theirTickOf (metas : List (Bytes × Bytes)) : Nat := tickAfter 0 metas

theorem tickAfter_lt (metas : List (Bytes × Bytes)) (t0 : Nat) (h : t0 < ulongLim) : tickAfter t0 metas < ulongLim := by
  induction metas generalizing t0 with
  | nil => exact h
  | cons e r ih =>
    refine ih _ ?_
    dsimp only
    split
    · cases hs : stoul e.2 with
      | none => exact h
      | some t => exact stoul_range hs
    · exact h

theorem tickAfter_nodup (es : List (Bytes × Bytes)) (hn : (es.map (·.1)).Nodup) (t0 : Nat) :
    tickAfter t0 es =
      match Db.fetch es kTick with
      | some s => (stoul s).getD t0
      | none => t0 := by
  induction es generalizing t0 with
  | nil => rfl
  | cons e r ih =>
    simp only [List.map_cons, List.nodup_cons] at hn
    simp only [tickAfter, List.foldl_cons, Db.fetch]
    rw [← tickAfter, ih hn.2]
    by_cases he : e.1 = kTick
    · simp only [he, if_true, fetch_none_of_not_mem (he ▸ hn.1)]
    · simp only [he, if_false]

theorem metaPut_foldl (db : Db) (our their : Nat) (merged : Int) (es : List (Bytes × Bytes)) :
    es.foldl (fun s e => (Merger.metaPut s e.1 e.2).1) ⟨db, our, their, Nat.max our their, merged⟩ =
      ⟨db, our, tickAfter their es, Nat.max our (tickAfter their es), merged⟩ := by
  induction es generalizing their with
  | nil => rfl
  | cons e r ih =>
    have step : (Merger.metaPut ⟨db, our, their, Nat.max our their, merged⟩ e.1 e.2).1 =
        ⟨db, our, if e.1 = kTick then (stoul e.2).getD their else their,
          Nat.max our (if e.1 = kTick then (stoul e.2).getD their else their), merged⟩ := by
      unfold Merger.metaPut
      split
      · cases stoul e.2 <;> rfl
      · rfl
    rw [List.foldl_cons, step, ih]
    rfl

theorem put_foldl (m : Merger) (es : List (Bytes × Bytes)) :
    es.foldl (fun s e => (Merger.put O s e.1 e.2).1) m =
      { m with db := m.db.upsertAll (fun _ ours v => pack O (mergeValue O m.ourTick m.theirTick m.maxTick ours v)) es,
               merged := m.merged + es.length } := by
  induction es generalizing m with
  | nil => simp [Db.upsertAll]
  | cons e r ih =>
    rw [List.foldl_cons, ih]
    simp only [Merger.put, Db.upsertAll_cons, List.length_cons, Int.natCast_add, Int.natCast_one, Int.add_assoc,
      Int.add_comm 1]

end RimeModel.C17
