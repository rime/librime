import RimeModel.C13.Model
/-! # C13 — helper lemmas about prefixes of store sequences -/
namespace RimeModel.C13
open RimeModel.Gen

theorem run_nil (f : File) : run [] f = f := rfl
theorem run_cons (op : Op) (l : List Op) (f : File) : run (op :: l) f = run l (op.run f) := rfl
theorem run_append (l m : List Op) (f : File) : run (l ++ m) f = run m (run l f) :=
  List.foldl_append

theorem reach_nil {f0 f : File} : Reach [] f0 f ↔ f = f0 :=
  ⟨fun ⟨_, h⟩ => by rwa [List.take_nil] at h, fun h => ⟨0, h⟩⟩

theorem reach_cons {op : Op} {l : List Op} {f0 f : File} :
    Reach (op :: l) f0 f ↔ f = f0 ∨ Reach l (op.run f0) f := by
  constructor
  · rintro ⟨k, h⟩
    cases k with
    | zero => exact Or.inl h
    | succ k => exact Or.inr ⟨k, h⟩
  · rintro (h | ⟨k, h⟩)
    · exact ⟨0, h⟩
    · exact ⟨k + 1, h⟩

theorem reach_append {l m : List Op} {f0 f : File} :
    Reach (l ++ m) f0 f ↔ Reach l f0 f ∨ Reach m (run l f0) f := by
  induction l generalizing f0 with
  | nil => exact ⟨Or.inr, fun h => h.elim (fun h => reach_nil.1 h ▸ ⟨0, rfl⟩) id⟩
  | cons op l ih => simp only [List.cons_append, reach_cons, ih, run_cons, or_assoc]

theorem reach_run (l : List Op) (f0 : File) : Reach l f0 (run l f0) :=
  ⟨l.length, by rw [List.take_length]⟩

theorem Reach.inv {P : File → Prop} {l : List Op} (hstep : ∀ op ∈ l, ∀ g, P g → P (op.run g)) :
    ∀ {f0 f : File}, P f0 → Reach l f0 f → P f := by
  induction l with
  | nil => intro f0 f h0 h; exact reach_nil.1 h ▸ h0
  | cons op l ih =>
    intro f0 f h0 h
    rcases reach_cons.1 h with rfl | h
    · exact h0
    · exact ih (fun o ho => hstep o (List.mem_cons_of_mem _ ho)) (hstep op List.mem_cons_self f0 h0) h

theorem run_blocks (ends : List Nat) : ∀ (img : Img), ∃ img', run (ends.map Op.storeBlock) (some img) = some img' ∧
    img'.tag = img.tag ∧ img'.ck = img.ck ∧ img'.blocks = img.blocks + ends.length ∧
    (img.need ≤ img.size → img'.need ≤ img'.size) := by
  induction ends with
  | nil => intro img; exact ⟨img, rfl, rfl, rfl, rfl, id⟩
  | cons e ends ih =>
    intro img
    obtain ⟨img', h1, h2, h3, h4, h5⟩ :=
      ih { img with blocks := img.blocks + 1, need := max img.need e, size := max img.size e }
    exact ⟨img', h1, h2, h3, by rw [h4, List.length_cons, Nat.add_assoc, Nat.add_comm 1],
      fun hle => h5 (Nat.max_le.2 ⟨Nat.le_trans hle (Nat.le_max_left _ _), Nat.le_max_right _ _⟩)⟩

/-- `Load` rejects a file that holds no byte of the format tag -/
theorem load_tag_zero {minTag : Nat} (hmin : 1 ≤ minTag) {img : Img} (ht : img.tag = 0) :
    load true minTag (some img) = false := by
  simp only [load, ht, ↓reduceIte, decide_eq_false_iff_not]
  exact fun h => Nat.not_succ_le_zero 0 (Nat.le_trans hmin h)

theorem reach_tagOps (n : Nat) (img : Img) (f : File) (h : Reach (tagOps n) (some img) f) :
    ∃ t, f = some { img with tag := t } := by
  refine h.inv (P := fun g => ∃ t, g = some { img with tag := t }) (fun op hop g hg => ?_) ⟨img.tag, rfl⟩
  obtain ⟨i, _, rfl⟩ := List.mem_map.1 hop
  obtain ⟨t, rfl⟩ := hg
  exact ⟨i + 1, rfl⟩

/-- **a builder that stores the format tag last**: `Create`, metadata zeroed, checksum, data, tag, shrink.  A prefix
    that `Load` accepts is the file as it was, or as `Create` left it, or holds all the data: until the first byte of
    the tag is stored the file has none. -/
theorem tag_last (tagLen minTag : Nat) (hmin : 1 ≤ minTag) (b : Build) (f1 f : File)
    (hz : DeployFacts.allocateZeroes = true)
    (hr : Reach (Op.create b.cap :: Op.zeroMeta b.metaSize ::
      (((Op.storeCk b.g :: b.ends.map Op.storeBlock) ++ tagOps tagLen) ++ [Op.shrink])) f1 f)
    (hl : load true minTag f = true) :
    f = f1 ∨ f = (Op.create b.cap).run f1 ∨ ∃ img', f = some img' ∧ CompleteData b img' := by
  rcases reach_cons.1 hr with h | hr
  · exact Or.inl h
  obtain ⟨img, h1⟩ : ∃ img, (Op.create b.cap).run f1 = some img := by
    cases f1 with
    | none => exact ⟨_, rfl⟩
    | some i => simp only [Op.run]; split <;> exact ⟨_, rfl⟩
  rw [h1] at hr ⊢
  rcases reach_cons.1 hr with h | hr
  · exact Or.inr (Or.inl h)
  refine Or.inr (Or.inr ?_)
  simp only [Op.run, hz, ↓reduceIte] at hr
  obtain ⟨img5, r5, _, c5, b5, n5⟩ := run_blocks b.ends
    { img with tag := 0, ck := some b.g, blocks := 0, need := b.metaSize, size := max img.size b.metaSize }
  have hc : ∀ t, CompleteData b { img5 with tag := t } := fun t =>
    ⟨c5, by rw [b5]; exact Nat.zero_add _, n5 (Nat.le_max_right _ _)⟩
  rcases reach_append.1 hr with hr | hr
  · rcases reach_append.1 hr with hr | hr
    · -- no store before the tag phase writes a tag
      obtain ⟨img', rfl, ht⟩ := hr.inv (P := fun g => ∃ img', g = some img' ∧ img'.tag = 0)
        (fun op hop g hg => by
          obtain ⟨img', rfl, ht⟩ := hg
          rcases List.mem_cons.1 hop with rfl | hop
          · exact ⟨_, rfl, ht⟩
          · obtain ⟨e, _, rfl⟩ := List.mem_map.1 hop
            exact ⟨_, rfl, ht⟩)
        ⟨_, rfl, rfl⟩
      cases (load_tag_zero hmin ht).symm.trans hl
    · rw [run_cons, Op.run, r5] at hr
      obtain ⟨t, rfl⟩ := reach_tagOps _ _ _ hr
      exact ⟨_, rfl, hc t⟩
  · obtain ⟨t, ht⟩ := reach_tagOps _ _ _ (reach_run (tagOps tagLen) (some img5))
    rw [run_append, run_cons, Op.run, r5, ht] at hr
    rcases reach_cons.1 hr with rfl | hr
    · exact ⟨_, rfl, hc t⟩
    · exact ⟨_, reach_nil.1 hr, c5, (hc t).2.1, Nat.le_refl _⟩

/-- the store order the source has for all three mapped artefacts: removed first, tag last -/
theorem removed_first_tag_last (tagLen minTag : Nat) (hmin : 1 ≤ minTag) (b : Build) (f0 f : File)
    (hz : DeployFacts.allocateZeroes = true) (h : Reach (program true true tagLen b) f0 f)
    (hl : load true minTag f = true) : f = f0 ∨ ∃ img, f = some img ∧ CompleteData b img := by
  rcases reach_cons.1 h with h | h
  · exact Or.inl h
  -- after `Remove` there is no file, and `Create` makes one of zeroes: `Load` rejects both
  rcases tag_last tagLen minTag hmin b none f hz h hl with rfl | rfl | h
  · cases hl
  · cases (load_tag_zero hmin rfl).symm.trans hl
  · exact Or.inr h

end RimeModel.C13
