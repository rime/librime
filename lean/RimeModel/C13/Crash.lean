import RimeModel.C12.Lemmas
import RimeModel.C12.Cover
/-!
# C13 — crash states of a deployment, in the terms of the C12 model

A deployment performs the assignments of `plan E S` in order (C12, `workspaceUpdate_spec` and its step-wise
simulation).  A kill leaves: the assignments completed so far, and — for the file being written, or any file a
kill left unloadable — nothing that loads.  That every file left behind is of this kind (old and intact, new
and complete, or rejected by `Load`) is what the artefact-level theorems of `Props/C13.lean` and the kill-point
runs of `checks/C13.py` establish.
-/
namespace RimeModel.C13
open RimeModel.C12

set_option linter.unusedSectionVars false

variable {K : Type} [DecidableEq K] {cat : Rid → Time → Content}

inductive Slot where
  | cfg (id : CfgId)
  | table (n : String)
  | prism (n : String)
  | reverse (n : String)
deriving DecidableEq, Repr

/-- the artefact in this slot is missing or rejected by its `Load` -/
def dropSlot (A : Arts K) : Slot → Arts K
  | .cfg id => { A with cfg := fun x => if x = id then none else A.cfg x }
  | .table n => { A with table := fun x => if x = n then none else A.table x }
  | .prism n => { A with prism := fun x => if x = n then none else A.prism x }
  | .reverse n => { A with reverse := fun x => if x = n then none else A.reverse x }

theorem forall_erase {α β : Type} [DecidableEq α] {P : α → β → Prop} {f : α → Option β} {k : α}
    (h : ∀ i x, f i = some x → P i x) : ∀ i x, (if i = k then none else f i) = some x → P i x := by
  intro i x hx
  split at hx
  · cases hx
  · exact h i x hx

theorem consistent_drop {E : Env K} {A : Arts K} (h : Consistent E cat A) (s : Slot) :
    Consistent E cat (dropSlot A s) := by
  cases s with
  | cfg id => exact ⟨forall_erase h.cfg, h.table, h.prism, h.reverse⟩
  | table n => exact ⟨h.cfg, forall_erase h.table, h.prism, h.reverse⟩
  | prism n => exact ⟨h.cfg, h.table, forall_erase h.prism, h.reverse⟩
  | reverse n => exact ⟨h.cfg, h.table, h.prism, forall_erase h.reverse⟩

/-- the staging directory a kill during a deployment of plan `l` over `A` can leave -/
def CrashState (A : Arts K) (l : List (Assign K)) (X : Arts K) : Prop :=
  ∃ (k : Nat) (D : List Slot), X = D.foldl dropSlot (applyAssigns A (l.take k))

theorem plan_ok {E : Env K} {S : Src} (hS : SourcesOK E S) (hSt : Stamped cat S) :
    ∀ a ∈ plan E S, a.OK E cat := by
  obtain ⟨c0, l, hc0, hl, _, hreach⟩ := hS.default
  intro a ha
  rcases (mem_plan_iff hc0 hl).1 ha with rfl | ⟨sid, hr, hp, hok, ha⟩
  · exact cfgOK_fresh hS.pos hSt hc0
  · exact schemaAssigns_ok hS.pos hSt (hreach sid hr hp hok) a ha

end RimeModel.C13
