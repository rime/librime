import RimeModel.C12.Spec
/-! # C12 — a concrete environment (two schemas, a dependency, a pack) used by the non-vacuity examples -/
namespace RimeModel.C12.Ex
open RimeModel.C12

/-- an ideal checksum: the list of everything fed to it (trivially injective) -/
abbrev ExK := Option CfgArt × List (List Content)

def exCompile : CfgId → Src → Option CfgArt
  | .default, S =>
    match S "default" with
    | none => none
    | some ct => some
        { stamps := [("default", recorded ct.2), ("default.custom", stampOf S "default.custom")]
          inputs := [("default", some ct.1), ("default.custom", (S "default.custom").map (·.1))]
          schemaList := some ["sa", "sb"], dict := none, prism := "", packs := [], deps := [] }
  | .schema sid, S =>
    match S (sid ++ ".schema") with
    | none => none
    | some ct => some
        { stamps := [(sid ++ ".schema", recorded ct.2)]
          inputs := [(sid ++ ".schema", some ct.1)]
          schemaList := none
          dict := some (if sid = "sa" then "da" else "db")
          prism := sid
          packs := if sid = "sa" then ["pk"] else []
          deps := if sid = "sa" then ["sb"] else [] }

def exE : Env ExK :=
  { compile := exCompile
    schemaPresent := fun s => s = "sa" || s = "sb"
    schemaOk := fun s => s = "sa" || s = "sb"
    dictSrc := fun d =>
      if d = "da" then ⟨true, true, some [100, 101]⟩
      else if d = "db" then ⟨true, true, some [102]⟩
      else if d = "pk" then ⟨true, true, some [103]⟩
      else ⟨false, false, none⟩
    ck := fun s l => (s.1, l :: s.2)
    zero := (none, [])
    fck := fun a => (some a, []) }

/-- an earlier state of the sources: `sa.schema.yaml` had content 7 and mtime 9; `sb.schema.yaml` is dated
    2040-01-01T00:00:12Z (recorded as the negative `int` -2085978484 by the 32-bit variant, as itself by the 64-bit one) -/
def exS0 : Src := fun r =>
  if r = "default" then some (1, 10) else if r = "sa.schema" then some (7, 9)
  else if r = "sb.schema" then some (3, 2208988812) else none

/-- the current sources: `sa.schema.yaml` was edited (content 2, mtime 11) -/
def exS : Src := fun r =>
  if r = "default" then some (1, 10) else if r = "sa.schema" then some (2, 11)
  else if r = "sb.schema" then some (3, 2208988812) else none

def exCat : Rid → Stamp → Content := fun _ t => if t = 9 then 7 else if t = 10 then 1 else if t = 11 then 2 else 3

/-! ### the example meets every hypothesis of the C12 theorems -/

theorem map_fst_eq_seen (S : Src) (r : Rid) : (S r).map (·.1) = (seen S r).map (·.1) := by
  unfold seen
  cases S r <;> rfl

theorem stampOf_eq_seen (S : Src) (r : Rid) : stampOf S r = ((seen S r).map (·.2)).getD 0 := by
  unfold seen stampOf
  cases S r <;> rfl

theorem exCompilerOK : CompilerOK exE := by
  suffices key : ∀ id S a, exCompile id S = some a → (∀ p ∈ a.stamps, p.2 = stampOf S p.1) ∧
      ∀ S', (∀ p ∈ a.stamps, seen S' p.1 = seen S p.1) → exCompile id S' = some a from
    ⟨fun id S a h => (key id S a h).1, fun id S S' a h => (key id S a h).2 S'⟩
  intro id S a h
  cases id with
  | default =>
    simp only [exCompile] at h ⊢
    cases hs : S "default" with
    | none => rw [hs] at h; cases h
    | some ct =>
      rw [hs] at h
      cases h
      refine ⟨by simp [stampOf, hs], fun S' hag => ?_⟩
      have h1 := hag ("default", recorded ct.2) (by simp)
      have h2 := hag ("default.custom", stampOf S "default.custom") (by simp)
      simp only at h1 h2
      obtain ⟨ct', hs', e⟩ := Option.map_eq_some_iff.1 (h1.trans (congrArg _ hs))
      simp [hs', (Prod.mk.inj e).1, (Prod.mk.inj e).2, map_fst_eq_seen S, map_fst_eq_seen S', stampOf_eq_seen, h2]
  | schema sid =>
    simp only [exCompile] at h ⊢
    cases hs : S (sid ++ ".schema") with
    | none => rw [hs] at h; cases h
    | some ct =>
      rw [hs] at h
      cases h
      refine ⟨by simp [stampOf, hs], fun S' hag => ?_⟩
      have h1 := hag (sid ++ ".schema", recorded ct.2) (by simp)
      simp only at h1
      obtain ⟨ct', hs', e⟩ := Option.map_eq_some_iff.1 (h1.trans (congrArg _ hs))
      simp [hs', (Prod.mk.inj e).1, (Prod.mk.inj e).2]

theorem exCkOK : CkOK exE := by
  constructor
  · intro s l s' l' _ _ h
    simp only [exE, Prod.mk.injEq, List.cons.injEq] at h
    exact ⟨Prod.ext h.1 h.2.2, h.2.1⟩
  · intro s l _ h
    simp [exE] at h
  · intro a b h
    simp only [exE, Prod.mk.injEq, Option.some.injEq, and_true] at h
    exact h

theorem of_ite_some {α : Type} {c : Prop} [Decidable c] {a x : α} {o : Option α}
    (h : (if c then some a else o) = some x) : x = a ∨ o = some x := by
  split at h
  · exact Or.inl (Option.some.inj h).symm
  · exact Or.inr h

theorem exSrc_cases {S : Src} (h : S = exS ∨ S = exS0) {r : Rid} {ct : Content × Time} (hr : S r = some ct) :
    ct = (1, 10) ∨ ct = (2, 11) ∨ ct = (7, 9) ∨ ct = (3, 2208988812) := by
  have last : ∀ {x : Content × Time}, (if r = "sb.schema" then some x else none) = some ct → ct = x :=
    fun h => (of_ite_some h).resolve_right (nomatch ·)
  rcases h with rfl | rfl
  · exact (of_ite_some hr).imp_right fun h => (of_ite_some h).imp_right fun h => Or.inr (last h)
  · exact (of_ite_some hr).imp_right fun h => Or.inr ((of_ite_some h).imp_right last)

theorem exPos (S : Src) (h : S = exS ∨ S = exS0) : PosTimes S := by
  intro r c t hr
  rcases exSrc_cases h hr with h | h | h | h <;> cases h <;> decide

theorem exStamped (S : Src) (h : S = exS ∨ S = exS0) : Stamped exCat S := by
  intro r c t hr
  rcases exSrc_cases h hr with h | h | h | h <;> cases h <;> rfl

theorem exDictOK (d : String) (h : d ∈ ["da", "db", "pk"]) : DictOK exE d := by
  simp only [List.mem_cons, List.not_mem_nil, or_false] at h
  rcases h with rfl | rfl | rfl <;> exact ⟨rfl, rfl, _, rfl, List.cons_ne_nil _ _⟩

/-- by evaluation of the compiler on the four (source state, schema) pairs -/
theorem exBuildOK (S : Src) (h : S = exS ∨ S = exS0) (sid : String) (hs : sid = "sa" ∨ sid = "sb") :
    SchemaBuildOK exE S sid := by
  rcases hs with rfl | rfl
  · rcases h with rfl | rfl <;> refine ⟨_, rfl, fun d hd => ?_⟩ <;> cases hd <;>
      exact ⟨exDictOK _ (.head _), fun q hq => exDictOK q (.tail _ (.tail _ hq))⟩
  · rcases h with rfl | rfl <;> refine ⟨_, rfl, fun d hd => ?_⟩ <;> cases hd <;>
      exact ⟨exDictOK _ (.tail _ (.head _)), fun q hq => nomatch hq⟩

theorem exSourcesOK (S : Src) (h : S = exS ∨ S = exS0) : SourcesOK exE S := by
  obtain ⟨c0, hc, hl⟩ : ∃ c0, exE.compile .default S = some c0 ∧ c0.schemaList = some ["sa", "sb"] := by
    rcases h with rfl | rfl <;> exact ⟨_, rfl, rfl⟩
  refine ⟨exPos S h, c0, _, hc, hl, fun sid hs => ?_, fun sid _ hp _ => exBuildOK S h sid (by simpa [exE] using hp)⟩
  simp only [List.mem_cons, List.not_mem_nil, or_false] at hs
  rcases hs with rfl | rfl <;> exact ⟨rfl, rfl⟩

theorem exFunctional : Functional (plan exE exS) := by decide +kernel

end RimeModel.C12.Ex
