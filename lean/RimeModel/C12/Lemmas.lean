import RimeModel.C12.Spec
/-! # C12 — helper lemmas: each deployment step, on a consistent staging directory, performs exactly its
planned assignments, and logs a write only for an assignment that was not already in place. -/
namespace RimeModel.C12

variable {K : Type} [DecidableEq K] {cat : Rid → Stamp → Content}

section
omit [DecidableEq K]

theorem foldl_rel {α β γ : Type} {R : α → β → Prop} {f : α → γ → α} {g : β → γ → β} (l : List γ)
    (h : ∀ x ∈ l, ∀ a b, R a b → R (f a x) (g b x)) : ∀ {a b}, R a b → R (l.foldl f a) (l.foldl g b) := by
  induction l with
  | nil => exact id
  | cons x l ih =>
    intro a b hab
    exact ih (fun y hy => h y (List.mem_cons_of_mem _ hy)) (h x List.mem_cons_self a b hab)

theorem foldl_inv {α γ : Type} {P : α → Prop} {f : α → γ → α} (l : List γ) (h : ∀ x ∈ l, ∀ a, P a → P (f a x))
    {a : α} (ha : P a) : P (l.foldl f a) :=
  foldl_rel (R := fun a (_ : Unit) => P a) (g := fun u _ => u) l (fun x hx a _ => h x hx a) (b := ()) ha

theorem upd_same {α β : Type} [DecidableEq α] (f : α → Option β) (k : α) (v : β) (h : f k = some v) :
    upd f k v = f := by
  funext x
  unfold upd
  split
  · next hx => rw [hx, h]
  · rfl

@[simp] theorem upd_self {α β : Type} [DecidableEq α] (f : α → Option β) (k : α) (v : β) :
    upd f k v k = some v := if_pos rfl

theorem upd_ne {α β : Type} [DecidableEq α] (f : α → Option β) (k x : α) (v : β) (h : x ≠ k) :
    upd f k v x = f x := if_neg h

theorem forall_upd {α β : Type} [DecidableEq α] {P : α → β → Prop} {f : α → Option β} {k : α} {v : β}
    (h : ∀ i x, f i = some x → P i x) (hv : P k v) : ∀ i x, upd f k v i = some x → P i x := by
  intro i x hx
  unfold upd at hx
  split at hx
  · next e => cases hx; exact e ▸ hv
  · exact h i x hx

theorem holds_set_self (A : Arts K) (a : Assign K) : (A.set a).Holds a := by
  cases a <;> exact upd_self _ _ _

theorem holds_set_other {A : Arts K} {a x : Assign K} (hn : ¬ a.SameName x) (h : A.Holds a) :
    (A.set x).Holds a := by
  -- `x` is of another kind, or names another file of the same kind
  cases a <;> cases x <;> first | exact h | exact (upd_ne _ _ _ _ hn).trans h

theorem set_of_holds {A : Arts K} {a : Assign K} (h : A.Holds a) : A.set a = A := by
  cases a <;> simp only [Arts.set, upd_same _ _ _ h]

theorem applyAssigns_append (A : Arts K) (l m : List (Assign K)) :
    applyAssigns A (l ++ m) = applyAssigns (applyAssigns A l) m :=
  List.foldl_append

theorem applyAssigns_eq_self (l : List (Assign K)) {A : Arts K} (h : ∀ a ∈ l, A.Holds a) :
    applyAssigns A l = A :=
  foldl_inv (P := (· = A)) l (fun a ha X hX => by rw [hX, set_of_holds (h a ha)]) rfl

theorem holds_applyAssigns {l : List (Assign K)} (hf : Functional l) (A : Arts K) {a : Assign K} (ha : a ∈ l) :
    (applyAssigns A l).Holds a := by
  -- `a` holds once it is assigned, and no later assignment of `l` names its file with another content
  obtain ⟨l1, l2, rfl⟩ := List.append_of_mem ha
  rw [applyAssigns_append]
  refine foldl_inv (P := fun X : Arts K => X.Holds a) l2 (fun b hb X hX => ?_) (holds_set_self _ a)
  by_cases hab : a = b
  · exact hab ▸ holds_set_self X a
  · exact holds_set_other (fun hs => hab (hf a ha b (by simp [hb]) hs)) hX

def Assign.isCfg : Assign K → Bool
  | .cfg _ _ => true
  | _ => false

theorem applyAssigns_cfg_of_noCfg (l : List (Assign K)) (X : Arts K) (h : ∀ a ∈ l, a.isCfg = false) :
    (applyAssigns X l).cfg = X.cfg :=
  foldl_inv (P := fun Y : Arts K => Y.cfg = X.cfg) l
    (fun a ha Y hY => by
      have ha := h a ha
      cases a with
      | cfg i c => cases ha
      | _ => exact hY)
    rfl

theorem dictAssigns_noCfg (E : Env K) (d p : String) (packs : List String) (sc : CfgArt) :
    ∀ a ∈ dictAssigns E d p packs sc, a.isCfg = false := by
  simp only [dictAssigns, List.forall_mem_append, List.forall_mem_cons, List.forall_mem_map]
  exact ⟨⟨rfl, rfl, rfl, fun _ h => (nomatch h)⟩, fun _ _ => rfl⟩

theorem schemaAssigns_cfg {E : Env K} {S : Src} {sid : String} {c : CfgArt}
    (hc : E.compile (.schema sid) S = some c) (X : Arts K) :
    (applyAssigns X (schemaAssigns E S sid)).cfg = upd X.cfg (.schema sid) c := by
  simp only [schemaAssigns, hc]
  cases c.dict with
  | none => rfl
  | some d => exact applyAssigns_cfg_of_noCfg _ (X.set (.cfg (.schema sid) c)) (dictAssigns_noCfg E d c.prism c.packs c)

def NoWrites (log : List Event) : Prop := ∀ e ∈ log, e.isWrite = false

theorem NoWrites.append {a b : List Event} (ha : NoWrites a) (hb : NoWrites b) : NoWrites (a ++ b) := by
  intro e he
  rcases List.mem_append.mp he with h | h
  · exact ha e h
  · exact hb e h

/-- a deployment that finds every assignment of `l` in place logs no write -/
def Quiet (A : Arts K) (l : List (Assign K)) (log : List Event) : Prop :=
  (∀ a ∈ l, A.Holds a) → NoWrites log

/-- a step from `A` to `A'` that logs `log` makes the assignments of `l`, and writes only if one of them was not in
    place -/
structure Performs (A : Arts K) (l : List (Assign K)) (A' : Arts K) (log : List Event) : Prop where
  arts : A' = applyAssigns A l
  quiet : Quiet A l log

theorem Performs.append {A A' A'' : Arts K} {l m : List (Assign K)} {log log' : List Event}
    (h : Performs A l A' log) (h' : Performs A' m A'' log') : Performs A (l ++ m) A'' (log ++ log') := by
  refine ⟨by rw [h'.arts, h.arts, applyAssigns_append], fun H => ?_⟩
  rw [List.forall_mem_append] at H
  refine (h.quiet H.1).append (h'.quiet ?_)
  rw [h.arts, applyAssigns_eq_self l H.1]
  exact H.2

/-- a write decided for an artefact that was not in place -/
theorem Performs.write {A : Arts K} {a : Assign K} {log : List Event} (h : ¬ A.Holds a) :
    Performs A [a] (A.set a) log :=
  ⟨rfl, fun H => absurd (H a (List.mem_singleton_self a)) h⟩

/-- an artefact found in place and kept -/
theorem Performs.keep {A : Arts K} {a : Assign K} {log : List Event} (h : A.Holds a) (hl : NoWrites log) :
    Performs A [a] A log :=
  ⟨(set_of_holds h).symm, fun _ => hl⟩

def Assign.OK (E : Env K) (cat : Rid → Stamp → Content) : Assign K → Prop
  | .cfg id a => CfgOK E cat id a
  | .table _ t => TableOK E t
  | .reverse _ r => ReverseOK E r
  | .prism _ p => PrismOK E p

theorem Consistent.set {E : Env K} {A : Arts K} (h : Consistent E cat A) {a : Assign K}
    (ha : a.OK E cat) : Consistent E cat (A.set a) := by
  cases a with
  | cfg id c => exact ⟨forall_upd h.cfg ha, h.table, h.prism, h.reverse⟩
  | table n t => exact ⟨h.cfg, forall_upd h.table ha, h.prism, h.reverse⟩
  | reverse n r => exact ⟨h.cfg, h.table, h.prism, forall_upd h.reverse ha⟩
  | prism n p => exact ⟨h.cfg, h.table, forall_upd h.prism ha, h.reverse⟩

theorem Consistent.applyAssigns {E : Env K} (l : List (Assign K)) {A : Arts K} (h : Consistent E cat A)
    (hl : ∀ a ∈ l, a.OK E cat) : Consistent E cat (applyAssigns A l) :=
  foldl_inv l (fun a ha _ hX => hX.set (hl a ha)) h

theorem consistent_empty (E : Env K) (cat : Rid → Stamp → Content) : Consistent E cat (Arts.empty : Arts K) :=
  ⟨fun _ _ h => (nomatch h), fun _ _ h => (nomatch h), fun _ _ h => (nomatch h), fun _ _ h => (nomatch h)⟩

/-- `X` has everything `Y` has, identically -/
structure AgreeOn (X Y : Arts K) : Prop where
  cfg : ∀ i, (Y.cfg i).isSome → X.cfg i = Y.cfg i
  table : ∀ i, (Y.table i).isSome → X.table i = Y.table i
  prism : ∀ i, (Y.prism i).isSome → X.prism i = Y.prism i
  reverse : ∀ i, (Y.reverse i).isSome → X.reverse i = Y.reverse i

theorem AgreeOn.empty (X : Arts K) : AgreeOn X (Arts.empty : Arts K) :=
  ⟨fun _ h => (nomatch h), fun _ h => (nomatch h), fun _ h => (nomatch h), fun _ h => (nomatch h)⟩

theorem agree_upd {α β : Type} [DecidableEq α] {f g : α → Option β} (h : ∀ i, (g i).isSome → f i = g i)
    (k : α) (v : β) : ∀ i, (upd g k v i).isSome → upd f k v i = upd g k v i := by
  intro i
  unfold upd
  split
  · intro _; rfl
  · exact h i

theorem AgreeOn.set {X Y : Arts K} (h : AgreeOn X Y) (a : Assign K) : AgreeOn (X.set a) (Y.set a) := by
  cases a with
  | cfg id c => exact ⟨agree_upd h.cfg id c, h.table, h.prism, h.reverse⟩
  | table n t => exact ⟨h.cfg, agree_upd h.table n t, h.prism, h.reverse⟩
  | reverse n r => exact ⟨h.cfg, h.table, h.prism, agree_upd h.reverse n r⟩
  | prism n p => exact ⟨h.cfg, h.table, agree_upd h.prism n p, h.reverse⟩

theorem AgreeOn.applyAssigns (l : List (Assign K)) {X Y : Arts K} (h : AgreeOn X Y) :
    AgreeOn (applyAssigns X l) (applyAssigns Y l) :=
  foldl_rel l (fun a _ _ _ h => h.set a) h

/-! ### `ConfigFileUpdate` -/

theorem coherent_of_stamped {S₀ S : Src} (h0 : Stamped cat S₀) (h1 : Stamped cat S) : Coherent S₀ S := by
  intro r c c' t t' a b e
  rw [h0 r c t a, h1 r c' t' b, e]

theorem stampStale_eq (S : Src) (p : Rid × Stamp) : stampStale S p = (p.2 != stampOf S p.1) := by
  unfold stampStale stampOf
  cases S p.1 <;> rfl

theorem configNeedsUpdate_eq_false {S : Src} {a : CfgArt} :
    configNeedsUpdate S (some a) = false ↔ ∀ p ∈ a.stamps, p.2 = stampOf S p.1 := by
  simp [configNeedsUpdate, stampStale_eq]

/-- on a history where recorded times identify contents, what the compiler sees of a resource is a function of
    its recorded time -/
theorem seen_eq_stampOf {S : Src} (h : Stamped cat S) (hp : PosTimes S) (r : Rid) :
    seen S r = if stampOf S r = 0 then none else some (cat r (stampOf S r), stampOf S r) := by
  unfold seen stampOf
  cases hs : S r with
  | none => rfl
  | some ct =>
    rw [if_neg (hp r ct.1 ct.2 hs), ← h r ct.1 ct.2 hs]
    rfl

theorem cfg_reuse {E : Env K} (hC : CompilerOK E) {S : Src} (hS : PosTimes S) (hSt : Stamped cat S)
    {id : CfgId} {a : CfgArt}
    (ha : CfgOK E cat id a) (hn : configNeedsUpdate S (some a) = false) : E.compile id S = some a := by
  obtain ⟨S₀, hc, hst0, hpos⟩ := ha
  refine hC.local' id S₀ S a hc fun p hp => ?_
  rw [seen_eq_stampOf hSt hS, seen_eq_stampOf hst0 hpos, ← hC.faithful id S₀ a hc p hp,
    ← configNeedsUpdate_eq_false.1 hn p hp]

theorem cfgOK_fresh {E : Env K} {S : Src} (hS : PosTimes S) (hSt : Stamped cat S) {id : CfgId} {c : CfgArt}
    (hc : E.compile id S = some c) : CfgOK E cat id c :=
  ⟨S, hc, hSt, hS⟩

theorem configFileUpdate_spec {E : Env K} (hC : CompilerOK E) {S : Src} (hS : PosTimes S) (hSt : Stamped cat S)
    {A : Arts K} (hA : Consistent E cat A) {id : CfgId} {c : CfgArt} (hc : E.compile id S = some c) :
    Performs A [.cfg id c] (configFileUpdate E S id A).1 (configFileUpdate E S id A).2 := by
  unfold configFileUpdate
  by_cases hn : configNeedsUpdate S (A.cfg id) = true
  · rw [if_pos hn, hc]
    refine .write fun hh => ?_
    rw [show A.cfg id = _ from hh, configNeedsUpdate_eq_false.2 (hC.faithful id S c hc)] at hn
    cases hn
  · rw [if_neg hn]
    refine .keep ?_ (List.forall_mem_singleton.2 rfl)
    cases ha : A.cfg id with
    | none => rw [ha] at hn; exact absurd rfl hn
    | some a =>
      rw [ha, Bool.not_eq_true] at hn
      exact ha.trans ((cfg_reuse hC hS hSt (hA.cfg id a ha) hn).symm.trans hc)

/-! ### `DictCompiler::Compile` -/

theorem DictOK.filesOf {E : Env K} {d : String} (h : DictOK E d) :
    (E.dictSrc d).files = some (filesOf E d) ∧ filesOf E d ≠ [] := by
  obtain ⟨_, _, fs, hf, hne⟩ := h
  simp [C12.filesOf, hf, hne]

theorem cks_ne {E : Env K} {seed : K} {l : List Content} (h : l ≠ []) : cks E seed l = E.ck seed l :=
  if_neg (by simpa using h)

theorem TableOK.ext {E : Env K} (hK : CkOK E) {t t' : TableArt K} (h : TableOK E t) (h' : TableOK E t')
    (hck : t.ck = t'.ck) : t = t' := by
  obtain ⟨ck, pack, files⟩ := t
  obtain ⟨ck', pack', files'⟩ := t'
  obtain ⟨hne, hp⟩ := h
  obtain ⟨hne', hp'⟩ := h'
  simp only at hne hne' hp hp' hck
  subst hck
  -- a primary table is sealed with the seed `zero`, a pack with the checksum of its syllabary, which is not `zero`
  rcases pack with _ | _ | b <;> rcases pack' with _ | _ | b' <;> simp only at hp hp'
  · rw [(hK.inj _ _ _ _ hne hne' (hp.symm.trans hp')).2]
  · exact absurd (hK.inj _ _ _ _ hne hne' (hp.symm.trans hp'.2)).1.symm (hK.ne_zero _ _ hp'.1)
  · exact absurd (hK.inj _ _ _ _ hne hne' (hp.2.symm.trans hp')).1 (hK.ne_zero _ _ hp.1)
  · obtain ⟨h1, h2⟩ := hK.inj _ _ _ _ hne hne' (hp.2.symm.trans hp'.2)
    rw [(hK.inj _ _ _ _ hp.1 hp'.1 h1).2, h2]

theorem ReverseOK.ext {E : Env K} (hK : CkOK E) {r r' : ReverseArt K} (h : ReverseOK E r) (h' : ReverseOK E r')
    (hck : r.ck = r'.ck) : r = r' := by
  obtain ⟨ck, files⟩ := r
  obtain ⟨ck', files'⟩ := r'
  simp only at hck
  subst hck
  rw [show files = files' from (hK.inj _ _ _ _ h.1 h'.1 (h.2.symm.trans h'.2)).2]

theorem PrismOK.ext {E : Env K} (hK : CkOK E) {q q' : PrismArt K} (h : PrismOK E q) (h' : PrismOK E q')
    (hd : q.dictCk = q'.dictCk) (hs : q.schemaCk = q'.schemaCk) : q = q' := by
  obtain ⟨dck, sck, syl, cfg⟩ := q
  obtain ⟨dck', sck', syl', cfg'⟩ := q'
  obtain ⟨h1, b, hb, hsyl, hdb⟩ := h
  obtain ⟨h1', b', hb', hsyl', hdb'⟩ := h'
  simp only at hd hs h1 h1' hsyl hsyl' hdb hdb'
  subst hd hs
  rw [hK.fck_inj _ _ (h1.symm.trans h1'), hsyl, hsyl', (hK.inj _ _ _ _ hb hb' (hdb.symm.trans hdb')).2]

theorem packAssign_ok {E : Env K} {fs : List Content} (hfs : fs ≠ []) {q : String} (hq : DictOK E q) :
    (packAssign E (E.ck E.zero fs) fs q).OK E cat :=
  ⟨hq.filesOf.2, hfs, rfl⟩

theorem dictAssigns_ok {E : Env K} {d p : String} {packs : List String} {sc : CfgArt}
    (hd : DictOK E d) (hq : ∀ q ∈ packs, DictOK E q) : ∀ a ∈ dictAssigns E d p packs sc, a.OK E cat := by
  have hfs := hd.filesOf.2
  simp only [dictAssigns, List.forall_mem_append, List.forall_mem_cons, List.forall_mem_map]
  exact ⟨⟨⟨hfs, rfl⟩, ⟨hfs, rfl⟩, ⟨rfl, _, hfs, rfl, rfl⟩, fun _ h => (nomatch h)⟩,
    fun q hq' => packAssign_ok hfs (hq q hq')⟩

theorem schemaAssigns_ok {E : Env K} {S : Src} (hS : PosTimes S) (hSt : Stamped cat S) {sid : String}
    (hb : SchemaBuildOK E S sid) : ∀ a ∈ schemaAssigns E S sid, a.OK E cat := by
  obtain ⟨c, hc, hd⟩ := hb
  unfold schemaAssigns
  rw [hc]
  refine List.forall_mem_cons.2 ⟨cfgOK_fresh hS hSt hc, ?_⟩
  cases hdict : c.dict with
  | none => exact fun _ h => nomatch h
  | some d => exact dictAssigns_ok (hd d hdict).1 (hd d hdict).2

theorem primaryStep_eq {A : Arts K} {d : String} {ck : K} {fs : List Content} {rt : Bool}
    (h : rt = false → A.table d = some ⟨ck, none, fs⟩ ∧ A.reverse d = some ⟨ck, fs⟩) :
    primaryStep d ck fs rt A = (A.set (.table d ⟨ck, none, fs⟩)).set (.reverse d ⟨ck, fs⟩) := by
  cases rt with
  | true => rfl
  | false =>
    rw [set_of_holds (a := .table d _) (h rfl).1, set_of_holds (a := .reverse d _) (h rfl).2]
    rfl

theorem sylAfter_eq {A : Arts K} {d : String} {ck : K} {fs : List Content} {rt : Bool}
    (h : rt = false → A.table d = some ⟨ck, none, fs⟩) : sylAfter d fs rt A = Syl.of fs := by
  cases rt with
  | true => rfl
  | false => simp only [sylAfter, h rfl, Bool.false_eq_true, ↓reduceIte]

theorem prismStep_eq {A : Arts K} {p d : String} {ck sck : K} {fs : List Content} {sc : CfgArt} {rp : Bool}
    (ht : A.table d = some ⟨ck, none, fs⟩) (h : rp = false → A.prism p = some ⟨ck, sck, Syl.of fs, sc⟩) :
    prismStep p d ck sck sc rp A = some (A.set (.prism p ⟨ck, sck, Syl.of fs, sc⟩)) := by
  cases rp with
  | true => simp only [prismStep, ht, ↓reduceIte]; rfl
  | false => rw [set_of_holds (a := .prism p _) (h rfl)]; rfl

end

theorem applyAssigns_of_holds (l : List (Assign K)) {A : Arts K} (h : ∀ a ∈ l, A.Holds a) :
    applyAssigns A l = A :=
  applyAssigns_eq_self l h

theorem table_reuse {E : Env K} (hK : CkOK E) {A : Arts K} (hA : Consistent E cat A) {n : String}
    {t' : TableArt K} (h' : TableOK E t') : tableStale t'.ck (A.table n) = false ↔ A.table n = some t' := by
  cases ht : A.table n with
  | none => exact ⟨fun h => (nomatch h), fun h => (nomatch h)⟩
  | some t =>
    simp only [tableStale, decide_eq_false_iff_not, ne_eq, Decidable.not_not, Option.some.injEq]
    exact ⟨TableOK.ext hK (hA.table n t ht) h', fun h => h ▸ rfl⟩

theorem reverse_reuse {E : Env K} (hK : CkOK E) {A : Arts K} (hA : Consistent E cat A) {n : String}
    {r' : ReverseArt K} (h' : ReverseOK E r') : reverseStale r'.ck (A.reverse n) = false ↔ A.reverse n = some r' := by
  cases hr : A.reverse n with
  | none => exact ⟨fun h => (nomatch h), fun h => (nomatch h)⟩
  | some r =>
    simp only [reverseStale, decide_eq_false_iff_not, ne_eq, Decidable.not_not, Option.some.injEq]
    exact ⟨ReverseOK.ext hK (hA.reverse n r hr) h', fun h => h ▸ rfl⟩

theorem prism_reuse {E : Env K} (hK : CkOK E) {A : Arts K} (hA : Consistent E cat A) {n : String}
    {q' : PrismArt K} (h' : PrismOK E q') :
    prismStale q'.dictCk q'.schemaCk (A.prism n) = false ↔ A.prism n = some q' := by
  cases hq : A.prism n with
  | none => exact ⟨fun h => (nomatch h), fun h => (nomatch h)⟩
  | some q =>
    simp only [prismStale, Bool.or_eq_false_iff, decide_eq_false_iff_not, ne_eq, Decidable.not_not,
      Option.some.injEq]
    exact ⟨fun h => PrismOK.ext hK (hA.prism n q hq) h' h.1 h.2, fun h => h ▸ ⟨rfl, rfl⟩⟩

section
variable {E : Env K} (hK : CkOK E) {fs : List Content} (hfs : fs ≠ []) {ck0 : K} (hck : E.ck E.zero fs = ck0)
include hK hfs hck

theorem packStep_spec {A : Arts K} {l : List (Assign K)} {acc : PackAcc K} (h : Performs A l acc.arts acc.log)
    (hA : Consistent E cat acc.arts) (hs : acc.syl = Syl.of fs) {q : String} (hq : DictOK E q) :
    Performs A (l ++ [packAssign E ck0 fs q]) (packStep E ck0 acc q).arts (packStep E ck0 acc q).log ∧
    Consistent E cat (packStep E ck0 acc q).arts ∧ (packStep E ck0 acc q).syl = Syl.of fs := by
  subst hck
  have hf := hq.filesOf
  have hok := packAssign_ok (cat := cat) hfs hq
  have hre := table_reuse hK hA (n := q) hok
  obtain ⟨hp, hh, _⟩ := hq
  unfold packStep
  simp only [hp, hh, hf.1, Bool.not_true, Bool.or_self, Bool.false_eq_true, ↓reduceIte, cks_ne hf.2]
  by_cases hn : tableStale (E.ck (E.ck E.zero fs) (filesOf E q)) (acc.arts.table q) = true
  · rw [if_pos hn, hs]
    exact ⟨h.append (.write fun hh => Bool.false_ne_true ((hre.2 hh).symm.trans hn)), hA.set hok, rfl⟩
  · rw [if_neg hn]
    exact ⟨h.append (.keep (hre.1 (Bool.eq_false_iff.2 hn)) (List.forall_mem_singleton.2 rfl)), hA, hs⟩

theorem packFold_spec (packs : List String) {A : Arts K} :
    ∀ {l : List (Assign K)} {acc : PackAcc K}, Performs A l acc.arts acc.log → Consistent E cat acc.arts →
      acc.syl = Syl.of fs → (∀ q ∈ packs, DictOK E q) →
      Performs A (l ++ packs.map (packAssign E ck0 fs)) (packs.foldl (packStep E ck0) acc).arts
        (packs.foldl (packStep E ck0) acc).log := by
  induction packs with
  | nil =>
    intro l acc h _ _ _
    rw [List.map_nil, List.append_nil]
    exact h
  | cons q packs ih =>
    intro l acc h hA hs hq
    obtain ⟨h1, h2, h3⟩ := packStep_spec hK hfs hck h hA hs (hq q List.mem_cons_self)
    rw [List.map_cons, List.append_cons]
    exact ih h1 h2 h3 fun x hx => hq x (List.mem_cons_of_mem _ hx)

end

theorem tableDecision_present (ck0 : K) (x : Option (TableArt K)) :
    tableDecision true ck0 x = some (tableStale ck0 x, ck0) := by
  cases x <;> rfl

theorem dictCompile_spec {E : Env K} (hK : CkOK E) {A : Arts K} (hA : Consistent E cat A)
    {d p : String} {packs : List String} {sc : CfgArt}
    (hd : DictOK E d) (hq : ∀ q ∈ packs, DictOK E q) :
    Performs A (dictAssigns E d p packs sc) (dictCompile E d p packs sc A).1 (dictCompile E d p packs sc A).2.2 ∧
    (dictCompile E d p packs sc A).2.1 = true := by
  have hf := hd.filesOf
  obtain ⟨hp, hh, _⟩ := hd
  have hfs := hf.2
  unfold dictCompile
  simp only [dictAssigns, hp, hh, hf.1, cks_ne hfs, tableDecision_present, Bool.not_true, Bool.and_false,
    Bool.false_eq_true, ↓reduceIte]
  generalize filesOf E d = fs at hfs ⊢
  generalize hck : E.ck E.zero fs = ck0
  have hT : TableOK E ⟨ck0, none, fs⟩ := ⟨hfs, hck.symm⟩
  have hR : ReverseOK E ⟨ck0, fs⟩ := ⟨hfs, hck.symm⟩
  have hP : PrismOK E ⟨ck0, E.fck sc, Syl.of fs, sc⟩ := ⟨rfl, fs, hfs, rfl, hck.symm⟩
  -- the decisions: "up to date" exactly when the planned artefact is there
  have hrt := Bool.or_eq_false_iff.trans
    (and_congr (table_reuse hK hA (n := d) hT) (reverse_reuse hK hA (n := d) hR))
  have hrp := prism_reuse hK hA (n := p) hP
  simp only at hrt hrp
  generalize (tableStale ck0 (A.table d) || reverseStale ck0 (A.reverse d)) = rt at hrt ⊢
  generalize prismStale ck0 (E.fck sc) (A.prism p) = rp at hrp ⊢
  simp only [primaryStep_eq hrt.1, sylAfter_eq fun h => (hrt.1 h).1,
    prismStep_eq (A := (A.set (.table d _)).set (.reverse d _)) (upd_self A.table d _) hrp.1]
  refine ⟨packFold_spec hK hfs hck packs (l := [_, _, _]) ⟨rfl, fun H => ?_⟩
    (((hA.set (a := .table d _) hT).set (a := .reverse d _) hR).set (a := .prism p _) hP) rfl hq, trivial⟩
  simp only [List.forall_mem_cons] at H
  rw [hrt.2 ⟨H.1, H.2.1⟩, hrp.2 H.2.2.1]
  simp [NoWrites, Event.isWrite]

/-! ### `SchemaUpdate` -/

theorem schemaUpdate_spec {E : Env K} (hC : CompilerOK E) (hK : CkOK E) {S : Src} (hS : PosTimes S)
    (hSt : Stamped cat S)
    {A : Arts K} (hA : Consistent E cat A) {sid : String} (hok : E.schemaOk sid = true)
    (hb : SchemaBuildOK E S sid) :
    Performs A (schemaAssigns E S sid) (schemaUpdate E S sid A).1 (schemaUpdate E S sid A).2.2 ∧
    (schemaUpdate E S sid A).2.1 = true := by
  obtain ⟨c, hc, hd⟩ := hb
  obtain ⟨h1, h1q⟩ := configFileUpdate_spec hC hS hSt hA hc
  unfold schemaUpdate schemaAssigns
  simp only [hok, Bool.not_true, Bool.false_eq_true, ↓reduceIte, hc, h1,
    show (applyAssigns A [.cfg (.schema sid) c]).cfg (.schema sid) = some c from upd_self _ _ _]
  cases hdict : c.dict with
  | none => exact ⟨⟨rfl, h1q⟩, rfl⟩
  | some d =>
    obtain ⟨h2, h3⟩ := dictCompile_spec hK (hA.set (a := .cfg _ _) (cfgOK_fresh hS hSt hc)) (p := c.prism)
      (sc := c) (hd d hdict).1 (hd d hdict).2
    exact ⟨Performs.append ⟨rfl, h1q⟩ h2, h3⟩

theorem schemaUpdate_notOk {E : Env K} {S : Src} {sid : String} (h : E.schemaOk sid = false) (A : Arts K) :
    schemaUpdate E S sid A = (A, false, []) := by
  unfold schemaUpdate
  simp [h]

/-! ### the schema loop of `WorkspaceUpdate` -/

/-- the simulation between the real loop state and the plan computed from the sources alone -/
structure Sim (E : Env K) (cat : Rid → Stamp → Content) (S : Src) (A : Arts K) (st : Loop K) (bs : Plan K) : Prop where
  arts : st.arts = applyAssigns A bs.assigns
  built : st.built = bs.built
  failures : st.failures = bs.failures
  cons : Consistent E cat st.arts
  cfgs : ∀ sid ∈ st.built, E.schemaPresent sid = true → E.schemaOk sid = true →
    st.arts.cfg (.schema sid) = E.compile (.schema sid) S

def LoopInv (E : Env K) (cat : Rid → Stamp → Content) (S : Src) (A : Arts K) (st : Loop K) (bs : Plan K) : Prop :=
  Sim E cat S A st bs ∧ Quiet A bs.assigns st.log

theorem buildSchema_built_mono {E : Env K} {S : Src} (asDep : Bool) (st : Loop K) (sid x : String)
    (hx : x ∈ st.built) : x ∈ (buildSchema E S asDep st sid).built := by
  unfold buildSchema
  by_cases hin : st.built.contains sid = true
  · rw [if_pos hin]
    exact hx
  · rw [if_neg hin]
    cases E.schemaPresent sid <;> exact List.mem_cons_of_mem _ hx

section
variable {E : Env K} (hC : CompilerOK E) (hK : CkOK E) {S : Src} (hS : PosTimes S) (hSt : Stamped cat S) {A : Arts K}
  {st : Loop K} {bs : Plan K} {sid : String}
include hC hK hS hSt

theorem buildSchema_sim (h : LoopInv E cat S A st bs) (asDep : Bool)
    (hb : E.schemaPresent sid = true → E.schemaOk sid = true → SchemaBuildOK E S sid) :
    LoopInv E cat S A (buildSchema E S asDep st sid) (specBuild E S asDep bs sid) ∧
      sid ∈ (buildSchema E S asDep st sid).built := by
  obtain ⟨h, hq⟩ := h
  unfold buildSchema specBuild
  rw [← h.built, h.failures]
  by_cases hin : st.built.contains sid = true
  · rw [if_pos hin, if_pos hin]
    exact ⟨⟨h, hq⟩, by simpa using hin⟩
  rw [if_neg hin, if_neg hin]
  -- a schema without a valid source only enters `built` and the failure count
  have hskip : ∀ f log, ¬(E.schemaPresent sid = true ∧ E.schemaOk sid = true) →
      Sim E cat S A ⟨st.arts, sid :: st.built, f, log⟩ { bs with built := sid :: st.built, failures := f } :=
    fun f log hn => ⟨h.arts, rfl, rfl, h.cons,
      List.forall_mem_cons.2 ⟨fun hp hok => absurd ⟨hp, hok⟩ hn, h.cfgs⟩⟩
  cases hp : E.schemaPresent sid with
  | false =>
    simp only [Bool.not_false, ↓reduceIte]
    exact ⟨⟨hskip _ _ fun h => Bool.false_ne_true (hp.symm.trans h.1), hq⟩, List.mem_cons_self⟩
  | true =>
    cases hok : E.schemaOk sid with
    | false =>
      simp only [Bool.not_true, Bool.not_false, Bool.false_eq_true, ↓reduceIte, schemaUpdate_notOk hok,
        List.append_nil]
      exact ⟨⟨hskip _ _ fun h => Bool.false_ne_true (hok.symm.trans h.2), hq⟩, List.mem_cons_self⟩
    | true =>
      obtain ⟨hs1, hs2⟩ := schemaUpdate_spec hC hK hS hSt h.cons hok (hb hp hok)
      have hs := Performs.append ⟨h.arts, hq⟩ hs1
      obtain ⟨c, hc, _⟩ := hb hp hok
      simp only [Bool.not_true, Bool.false_eq_true, ↓reduceIte, hs2]
      refine ⟨⟨⟨hs.arts, rfl, rfl, ?_, ?_⟩, hs.quiet⟩, List.mem_cons_self⟩
      · rw [hs1.arts]
        exact h.cons.applyAssigns _ (schemaAssigns_ok hS hSt (hb hp hok))
      · simp only [hs1.arts, schemaAssigns_cfg hc]
        refine List.forall_mem_cons.2 ⟨fun _ _ => (upd_self _ _ _).trans hc.symm, fun s hs hsp hso => ?_⟩
        rw [upd_ne _ _ _ _ fun e => hin (by simpa [← CfgId.schema.inj e] using hs)]
        exact h.cfgs s hs hsp hso

theorem visit_sim (h : LoopInv E cat S A st bs)
    (hp : E.schemaPresent sid = true) (hok : E.schemaOk sid = true) (hb : SchemaBuildOK E S sid)
    (hd : ∀ c, E.compile (.schema sid) S = some c → ∀ x ∈ c.deps,
      E.schemaPresent x = true → E.schemaOk x = true → SchemaBuildOK E S x) :
    LoopInv E cat S A (visit E S st sid) (specVisit E S bs sid) := by
  unfold visit specVisit
  obtain ⟨h1, h3⟩ := buildSchema_sim hC hK hS hSt h false (fun _ _ => hb)
  simp only [h1.1.cfgs sid h3 hp hok]
  cases hc : E.compile (.schema sid) S with
  | none => exact h1
  | some c =>
    exact foldl_rel (R := LoopInv E cat S A) c.deps
      (fun x hx _ _ h => (buildSchema_sim hC hK hS hSt h true (hd c hc x hx)).1) h1

end

/-- **the central lemma**: on a consistent staging directory, `WorkspaceUpdate` ends in the plan applied to
    it, with the planned verdict — the plan being a function of the sources alone — and has written nothing if
    the whole plan was already in place. -/
theorem workspaceUpdate_spec {E : Env K} (hC : CompilerOK E) (hK : CkOK E) {S : Src} (hS : SourcesOK E S)
    (hSt : Stamped cat S)
    {A : Arts K} (hA : Consistent E cat A) (now : Time) :
    (workspaceUpdate E S now A).1 = { applyAssigns A (plan E S) with lastBuild := castInt now } ∧
    (workspaceUpdate E S now A).2.1 = planOk E S ∧
    Consistent E cat (workspaceUpdate E S now A).1 ∧
    Quiet A (plan E S) (workspaceUpdate E S now A).2.2 := by
  obtain ⟨c0, l, hc0, hl, hlist, hreach⟩ := hS.default
  obtain ⟨h1, h1q⟩ := configFileUpdate_spec hC hS.pos hSt hA hc0
  unfold workspaceUpdate plan planOk planState
  simp only [h1, hc0, hl, show (applyAssigns A [.cfg .default c0]).cfg .default = some c0 from rfl]
  have h0 : LoopInv E cat S A ⟨applyAssigns A [.cfg .default c0], [], 0, (configFileUpdate E S .default A).2⟩
      ⟨[], [.cfg .default c0], 0⟩ :=
    ⟨⟨rfl, rfl, rfl, hA.set (a := .cfg _ _) (cfgOK_fresh hS.pos hSt hc0), fun _ h => (nomatch h)⟩, h1q⟩
  obtain ⟨h2, h2q⟩ := foldl_rel l (fun sid hsid _ _ h => visit_sim (sid := sid) hC hK hS.pos hSt h (hlist sid hsid).1
    (hlist sid hsid).2 (hreach sid (Or.inl hsid) (hlist sid hsid).1 (hlist sid hsid).2)
    fun c hc x hx => hreach x (Or.inr ⟨sid, hsid, c, hc, hx⟩)) h0
  exact ⟨by rw [h2.arts], by rw [h2.failures], ⟨h2.cons.cfg, h2.cons.table, h2.cons.prism, h2.cons.reverse⟩, h2q⟩

end RimeModel.C12

namespace C12
open RimeModel.C12

variable {K : Type}

theorem holds_lastBuild {A : Arts K} {a : Assign K} (t : Stamp) (h : A.Holds a) :
    ({ A with lastBuild := t } : Arts K).Holds a := by
  cases a <;> exact h

theorem foldl_max_gt (l : List Int) : ∀ (a b : Int), l.foldl max a > b ↔ a > b ∨ ∃ t ∈ l, t > b := by
  induction l with
  | nil => intro a b; simp
  | cons x l ih =>
    intro a b
    have : max a x > b ↔ a > b ∨ x > b := by omega
    simp only [List.foldl_cons, ih, this, List.mem_cons, exists_eq_or_imp, or_assoc]

theorem deploy_lastBuild [DecidableEq K] {E : Env K} {S : Src} (now : Time) {A : Arts K} {c : CfgArt} {l : List String}
    (hc : E.compile .default S = some c) (hl : c.schemaList = some l)
    (hA : configNeedsUpdate S (A.cfg .default) = true) : (deploy E S now A).1.lastBuild = castInt now := by
  simp [deploy, workspaceUpdate, configFileUpdate, hA, hc, hl, upd]

end C12
