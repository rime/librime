import RimeModel.C12.Spec
/-! # C12 — the plan holds the assignments of the reachable schemas with a valid source, and nothing else -/
namespace RimeModel.C12

variable {K : Type}

/-- handled ids and assignments only grow -/
structure Ext (E : Env K) (S : Src) (bs bs' : Plan K) : Prop where
  built : ∀ s ∈ bs.built, s ∈ bs'.built
  assigns : ∀ a ∈ bs.assigns, a ∈ bs'.assigns

/-- an assignment of one of the schemas `P` with a valid source (the deployment builds those reachable from the
schema list) -/
def Planned (E : Env K) (S : Src) (P : String → Prop) (a : Assign K) : Prop :=
  ∃ sid, P sid ∧ E.schemaPresent sid = true ∧ E.schemaOk sid = true ∧ a ∈ schemaAssigns E S sid

/-- the invariant of the schema loop of the plan: it holds `default` and the assignments of the handled schemas
with a valid source -/
def Cov (E : Env K) (S : Src) (c0 : CfgArt) (bs : Plan K) : Prop :=
  ∀ a, a ∈ bs.assigns ↔ a = .cfg .default c0 ∨ Planned E S (· ∈ bs.built) a

section
variable {E : Env K} {S : Src} {l : List String} {c0 : CfgArt}

theorem planned_cons {sid : String} {b : List String} {a : Assign K} :
    Planned E S (· ∈ sid :: b) a ↔
      (E.schemaPresent sid = true ∧ E.schemaOk sid = true ∧ a ∈ schemaAssigns E S sid) ∨ Planned E S (· ∈ b) a := by
  simp only [Planned, List.mem_cons, exists_eq_or_imp]

theorem specBuild_spec (asDep : Bool) {bs : Plan K} (h : Cov E S c0 bs) (sid : String) :
    Cov E S c0 (specBuild E S asDep bs sid) ∧
    ∀ z, z ∈ (specBuild E S asDep bs sid).built ↔ z ∈ bs.built ∨ z = sid := by
  unfold specBuild
  by_cases hin : bs.built.contains sid = true
  · rw [if_pos hin]
    have hin' : sid ∈ bs.built := by simpa using hin
    exact ⟨h, fun z => ⟨Or.inl, fun hz => hz.elim id (· ▸ hin')⟩⟩
  rw [if_neg hin]
  -- a schema without a valid source only enters `built`
  have hskip : ∀ f, ¬(E.schemaPresent sid = true ∧ E.schemaOk sid = true) →
      Cov E S c0 { bs with built := sid :: bs.built, failures := f } := fun f hn a =>
    (h a).trans (or_congr_right (planned_cons.trans (or_iff_right fun hv => hn ⟨hv.1, hv.2.1⟩)).symm)
  cases hp : E.schemaPresent sid with
  | false =>
    exact ⟨hskip _ fun h => Bool.false_ne_true (hp.symm.trans h.1), fun z => List.mem_cons.trans or_comm⟩
  | true =>
    cases hok : E.schemaOk sid with
    | false =>
      exact ⟨hskip _ fun h => Bool.false_ne_true (hok.symm.trans h.2), fun z => List.mem_cons.trans or_comm⟩
    | true =>
      refine ⟨fun a => ?_, fun z => List.mem_cons.trans or_comm⟩
      show a ∈ bs.assigns ++ schemaAssigns E S sid ↔ _ ∨ Planned E S (· ∈ sid :: bs.built) a
      rw [List.mem_append, h a, or_assoc, planned_cons, hp, hok]
      exact or_congr_right (or_comm.trans (or_congr_left ⟨fun ha => ⟨rfl, rfl, ha⟩, fun h => h.2.2⟩))

/-- a fold of steps that keep the invariant: the ids handled at the end are those handled before and what each step
adds (the ids `z` with `new x z`) -/
theorem foldl_spec {step : Plan K → String → Plan K} {new : String → String → Prop}
    (hstep : ∀ bs x, Cov E S c0 bs →
      Cov E S c0 (step bs x) ∧ ∀ z, z ∈ (step bs x).built ↔ z ∈ bs.built ∨ new x z)
    (l' : List String) : ∀ bs, Cov E S c0 bs →
      Cov E S c0 (l'.foldl step bs) ∧ ∀ z, z ∈ (l'.foldl step bs).built ↔ z ∈ bs.built ∨ ∃ x ∈ l', new x z := by
  induction l' with
  | nil => exact fun bs h => ⟨h, fun z => ⟨Or.inl, fun hz => hz.elim id fun ⟨_, hx, _⟩ => nomatch hx⟩⟩
  | cons x l' ih =>
    intro bs h
    obtain ⟨h1, h1b⟩ := hstep bs x h
    obtain ⟨h2, h2b⟩ := ih _ h1
    refine ⟨h2, fun z => ?_⟩
    simp only [List.foldl_cons, h2b, h1b, or_assoc, List.mem_cons, exists_eq_or_imp]

theorem specVisit_spec {bs : Plan K} (h : Cov E S c0 bs) (sid : String) :
    Cov E S c0 (specVisit E S bs sid) ∧ ∀ z, z ∈ (specVisit E S bs sid).built ↔
      z ∈ bs.built ∨ z = sid ∨ ∃ c, E.compile (.schema sid) S = some c ∧ z ∈ c.deps := by
  unfold specVisit
  obtain ⟨h1, h1b⟩ := specBuild_spec false h sid
  cases hc : E.compile (.schema sid) S with
  | none =>
    exact ⟨h1, fun z => (h1b z).trans
      (or_congr_right ⟨Or.inl, fun hz => hz.elim id fun ⟨_, hc', _⟩ => nomatch hc'⟩)⟩
  | some c =>
    obtain ⟨h2, h2b⟩ := foldl_spec (new := fun x z => z = x) (fun bs x h => specBuild_spec true h x) c.deps _ h1
    refine ⟨h2, fun z => ?_⟩
    rw [h2b, h1b, or_assoc]
    exact or_congr_right (or_congr_right ⟨fun ⟨x, hx, e⟩ => ⟨c, rfl, e ▸ hx⟩,
      fun ⟨c', hc', hz⟩ => ⟨z, Option.some.inj hc' ▸ hz, rfl⟩⟩)

theorem mem_plan_iff (hc0 : E.compile .default S = some c0) (hl : c0.schemaList = some l) {a : Assign K} :
    a ∈ plan E S ↔ a = .cfg .default c0 ∨ Planned E S (Reach E S l) a := by
  unfold plan planState
  simp only [hc0, hl]
  obtain ⟨h1, h1b⟩ := foldl_spec (E := E) (S := S) (c0 := c0) (fun bs x h => specVisit_spec h x) l
    ⟨[], [.cfg .default c0], 0⟩ fun a => ⟨fun ha => Or.inl (List.mem_singleton.1 ha),
      fun ha => ha.elim (· ▸ List.mem_singleton_self _) fun ⟨_, hs, _⟩ => nomatch hs⟩
  rw [h1 a]
  -- the ids handled at the end are the reachable ones
  refine or_congr_right (exists_congr fun s => and_congr_left fun _ => (h1b s).trans ?_)
  simp only [Reach, List.not_mem_nil, false_or, and_or_left, exists_or, exists_eq_right']

end

end RimeModel.C12
